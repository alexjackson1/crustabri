import Crusta.Proofs.CliOutAux
import Crusta.Proofs.CliFile
import Crusta.Proofs.CliApx
import Crusta.Proofs.StaticNodup

/-!
# From the bytes of the instance file to the text printed on stdout

`ShownOK`: what the problem promises, stated on what a reader of stdout sees (`Shown`: the status
line and the printed set).  `cli_stdout_on_readable_file` / `cli_stdout_on_readable_apx_file`:
`cli_on_iccma_file` / `cli_on_apx_file` composed with the writers: the text printed for the answer
of every run parses back (`parseStdoutIccma` / `parseStdoutApx`) to something `ShownOK`.
-/

namespace Crusta.Cli
open Crusta Crusta.IO

/-- **what stdout must show for the problem `t-σ`** on the graph `g`, `cert` = `--with-certificate`,
`a` = the queried argument (ignored for SE):
* SE: no status line; "NO" only if `g` has no `σ`-extension; a printed set is a `σ`-extension,
  listed without repetition;
* DC: a status line, YES iff some `σ`-extension contains `a`; a set is printed exactly when the
  certificate was requested and the status is YES, and it is an extension (under
  `witnessSem .DC σ`: `σ`, complete for DC-PR) that contains `a`, listed without repetition;
* DS: a status line, YES iff every `σ`-extension contains `a`; a set is printed exactly when the
  certificate was requested and the status is NO, and it is a `σ`-extension that does not contain
  `a`, listed without repetition. -/
def ShownOK (t : Task) (σ : Sem) (g : G) (cert : Bool) (a : Nat) (sh : Shown) : Prop :=
  match t with
  | .SE =>
    sh.status = none ∧
    (sh.ext = none → ¬ ∃ S, σ.GExt g S) ∧
    (∀ e, sh.ext = some e → σ.GExt g (ofList e) ∧ e.Nodup)
  | .DC =>
    (sh.status = some true ∨ sh.status = some false) ∧
    (sh.status = some true ↔ ∃ S, σ.GExt g S ∧ S a = true) ∧
    (sh.ext ≠ none ↔ (cert = true ∧ sh.status = some true)) ∧
    (∀ e, sh.ext = some e → (witnessSem .DC σ).GExt g (ofList e) ∧ a ∈ e ∧ e.Nodup)
  | .DS =>
    (sh.status = some true ∨ sh.status = some false) ∧
    (sh.status = some true ↔ ∀ S, σ.GExt g S → S a = true) ∧
    (sh.ext ≠ none ↔ (cert = true ∧ sh.status = some false)) ∧
    (∀ e, sh.ext = some e → σ.GExt g (ofList e) ∧ a ∉ e ∧ e.Nodup)

theorem shapeOk_of_problemOK {t : Task} {σ : Sem} {g : G} {cert : Bool} {args : List Nat} {ans : Ans}
    (h : ProblemOK t σ g (entryOf t cert args) ans) : shapeOk t ans = true := by
  cases t <;> cases ans <;> first | rfl | exact h.elim

/-- **`ProblemOK` on the answer gives `ShownOK` on what the answer shows** (with the
duplicate-freeness of the lists, `AnsNodup`, which `ProblemOK` does not include) -/
theorem shownOK_of_problemOK {t : Task} {σ : Sem} {g : G} {cert : Bool} {a : Nat} {ans : Ans}
    (h : ProblemOK t σ g (entryOf t cert [a]) ans) (hnd : AnsNodup ans) :
    ShownOK t σ g cert a (shownOf ans) := by
  cases t with
  | SE =>
    cases ans with
    | acc _ _ => exact h.elim
    | ext r =>
      have h' : SEOK σ g r := h
      refine ⟨rfl, h'.2, fun e he => ?_⟩
      cases (he : r = some e)
      exact ⟨h'.1 e rfl, hnd⟩
  | DC =>
    cases ans with
    | ext _ => exact h.elim
    | acc acc cv =>
      obtain ⟨_, ⟨hy, hn⟩, hc⟩ :
        cv = cert ∧ DCWOK σ (witnessSem .DC σ) g [a] cert acc ∧ (cert = false → acc.cert = none) := h
      obtain ⟨st, c⟩ := acc
      simp only [hitsL_single] at hy hn
      obtain ⟨hslot, hwit⟩ := cert_slot (y := true) (fun hs => (hy hs).2) (fun hs => (hn hs).2) hc
      show ShownOK .DC σ g cert a ⟨some st, c⟩
      refine ⟨(by cases st <;> simp), ?_, hslot.trans (and_congr_right' Option.some_inj.symm),
        fun e he => ⟨(hwit e he).1, ofList_true.1 (hwit e he).2, hnd e he⟩⟩
      cases st with
      | true => exact ⟨fun _ => (hy rfl).1, fun _ => rfl⟩
      | false => exact ⟨fun hs => (by cases hs), fun hex => absurd hex (hn rfl).1⟩
  | DS =>
    cases ans with
    | ext _ => exact h.elim
    | acc acc cv =>
      obtain ⟨_, ⟨hy, hn⟩, hc⟩ : cv = cert ∧ DSOK σ g [a] cert acc ∧ (cert = false → acc.cert = none) := h
      obtain ⟨st, c⟩ := acc
      simp only [hitsL_single] at hy hn
      obtain ⟨hslot, hwit⟩ := cert_slot (y := false) (fun hs => (hn hs).2) (fun hs => (hy hs).2) hc
      show ShownOK .DS σ g cert a ⟨some st, c⟩
      refine ⟨(by cases st <;> simp), ?_, hslot.trans (and_congr_right' Option.some_inj.symm),
        fun e he => ⟨(hwit e he).1, fun hm => (hwit e he).2 (ofList_true.2 hm), hnd e he⟩⟩
      cases st with
      | true => exact ⟨fun _ => (hy rfl).1, fun _ => rfl⟩
      | false =>
        obtain ⟨S, hS, hna⟩ := (hn rfl).1
        exact ⟨fun hs => (by cases hs), fun hall => absurd (hall S hS) hna⟩

theorem gext_live {σ : Sem} {g : G} {e : List Nat} (h : σ.GExt g (ofList e)) : ∀ x ∈ e, g.live x = true :=
  fun x hx => G.ext_sub_live ((gext_iff σ g _).1 h) x (ofList_true.2 hx)

theorem shownOK_live {t : Task} {σ : Sem} {g : G} {cert : Bool} {a : Nat} {sh : Shown}
    (h : ShownOK t σ g cert a sh) : ∀ e, sh.ext = some e → ∀ x ∈ e, g.live x = true := by
  intro e he
  cases t with
  | SE => exact gext_live (h.2.2 e he).1
  | DC => exact gext_live (h.2.2.2 e he).1
  | DS => exact gext_live (h.2.2.2 e he).1

theorem status_eq_of_shown {s1 s2 : Option Bool} {P : Prop} (d1 : s1 = some true ∨ s1 = some false)
    (i1 : s1 = some true ↔ P) (d2 : s2 = some true ∨ s2 = some false) (i2 : s2 = some true ↔ P) : s1 = s2 := by
  rcases d1 with d1 | d1 <;> rcases d2 with d2 | d2
  · rw [d1, d2]
  · have := i2.2 (i1.1 d1); rw [d2] at this; cases this
  · have := i1.2 (i2.1 d2); rw [d1] at this; cases this
  · rw [d1, d2]

/-- the part the two formats share: `ProblemOK` comes from `CliCompose`, duplicate-freeness from
`static_leaves_nodup` -/
theorem wp_shown {t : Task} {σ : Sem} {cfg : Cfg} {v : FwView} {g : G} (hv : v.Ok g) {cert : Bool} {a : Nat}
    (ha : t ≠ .SE → g.live a = true) {p : Prog Ans}
    (hp : entryProg (dispatchSolver t σ) cfg v (entryOf t cert [a]) = some p) (w : World)
    (h : wp False p w (fun ans _ => ProblemOK t σ g (entryOf t cert [a]) ans)) :
    wp False p w (fun ans _ => shapeOk t ans = true ∧ ShownOK t σ g cert a (shownOf ans)) :=
  wp_mono _ _ _ _ (fun _ _ h => ⟨shapeOk_of_problemOK h.1, shownOK_of_problemOK h.1 h.2⟩)
    (wp_andT p w _ _ h (Leaves.wp p w (static_leaves_nodup _ cfg v g hv _ (entryOf_args_live ha) p hp)))

/-- **from the bytes of the instance file to the text on stdout** (ICCMA'23 format; told in full at
`C05.cli_stdout_on_readable_file`) -/
theorem cli_stdout_on_readable_file (bs : List UInt8) (fw : IccmaFw) (hfile : readIccma bs = .ok fw)
    (s : Str) (t : Task) (σ : Sem) (hread : readProblem s = some (t, σ))
    (enc : Option String) (cfg : Cfg)
    (henc : ∀ k, dispatchEncoder σ enc (decide (s = s_SEPR)) = some k → cfg.enc = k)
    (cert : Bool) (argStr : Str) (a : Nat) (harg : t ≠ .SE → iccmaArgOfStr fw.n argStr = some a)
    (w : World) (hb : w.Bounded)
    (hfuel : cfg.fuel ≥ fuelFor (1 + (Store.ofIccma fw.n fw.atts).view.maxId.getD 0)) :
    ∃ p, entryProg (dispatchSolver t σ) cfg (Store.ofIccma fw.n fw.atts).view (entryOf t cert [a]) = some p ∧
      wp False p w (fun ans _ => ∃ sh, parseStdoutIccma t (stdoutIccma ans) = some sh ∧
        ShownOK t σ (Store.ofIccma fw.n fw.atts).g cert a sh) := by
  obtain ⟨hlive, _, p, hp, hwp⟩ :=
    cli_on_iccma_file bs fw hfile s t σ hread enc cfg henc cert argStr a harg w hb hfuel
  refine ⟨p, hp, wp_mono _ _ _ _ ?_ (wp_shown (Store.ofIccma_view_ok fw.n fw.atts (readIccma_wfa bs fw hfile))
    (fun ht => (hlive a).2 (iccmaArgOfStr_lt _ _ _ (harg ht))) hp w hwp)⟩
  rintro ans _ ⟨hs, hsh⟩
  exact ⟨_, parseStdoutIccma_stdoutIccma t ans hs, hsh⟩

/-- **the same for the Aspartix format**: the names are looked up among the declared ones -/
theorem cli_stdout_on_readable_apx_file (bs : List UInt8) (fw : ApxFw) (hfile : readApx bs = .ok fw)
    (s : Str) (t : Task) (σ : Sem) (hread : readProblem s = some (t, σ))
    (enc : Option String) (cfg : Cfg)
    (henc : ∀ k, dispatchEncoder σ enc (decide (s = s_SEPR)) = some k → cfg.enc = k)
    (cert : Bool) (argStr : Str) (a : Nat) (harg : t ≠ .SE → idxOf fw.labels argStr = some a)
    (w : World) (hb : w.Bounded)
    (hfuel : cfg.fuel ≥ fuelFor (1 + (apxStore fw).view.maxId.getD 0)) :
    ∃ p, entryProg (dispatchSolver t σ) cfg (apxStore fw).view (entryOf t cert [a]) = some p ∧
      wp False p w (fun ans _ => ∃ sh, parseStdoutApx fw.labels t (stdoutApx fw.labels ans) = some sh ∧
        ShownOK t σ (apxStore fw).g cert a sh) := by
  obtain ⟨hlive, _, p, hp, hwp⟩ :=
    cli_on_apx_file bs fw hfile s t σ hread enc cfg henc cert argStr a harg w hb hfuel
  obtain ⟨hnd, hlt, -⟩ := readApx_wfa bs fw hfile
  have hlab := readApx_labels_valid bs fw hfile
  refine ⟨p, hp, wp_mono _ _ _ _ ?_ (wp_shown (apxStore_g fw hlt).1
    (fun ht => (hlive a).2 (idxOf_lt _ _ _ (harg ht))) hp w hwp)⟩
  rintro ans _ ⟨hs, hsh⟩
  exact ⟨_, parseStdoutApx_stdoutApx fw.labels hnd (fun l hl => validId_no_sep l (hlab l hl)) t ans hs
    (fun e he x hx => (hlive x).1 (shownOK_live hsh e he x hx)), hsh⟩

/-- ICCMA'23, DC with certificate: `YES\nw 1 3 12\n` is read as YES with the set `{0, 2, 11}` -/
example : parseStdoutIccma .DC [89, 69, 83, 10, 119, 32, 49, 32, 51, 32, 49, 50, 10] =
    some ⟨some true, some [0, 2, 11]⟩ := by decide +kernel

/-- and that text is the one printed for that answer -/
example : stdoutIccma (.acc ⟨true, some [0, 2, 11]⟩ true) = [89, 69, 83, 10, 119, 32, 49, 32, 51, 32, 49, 50, 10] := by
  decide +kernel

/-- SE: `NO\n`, `w\n` (the empty extension) and `w 2\n` are three different outputs -/
example : parseStdoutIccma .SE [78, 79, 10] = some ⟨none, none⟩ ∧
    parseStdoutIccma .SE [119, 10] = some ⟨none, some []⟩ ∧
    parseStdoutIccma .SE [119, 32, 50, 10] = some ⟨none, some [1]⟩ := by decide +kernel

/-- rejected: a status line for SE, a missing final line feed, an argument number `0`, a set after
two status lines, an empty output -/
example : parseStdoutIccma .SE [89, 69, 83, 10] = none ∧ parseStdoutIccma .DS [78, 79] = none ∧
    parseStdoutIccma .SE [119, 32, 48, 10] = none ∧
    parseStdoutIccma .DC [78, 79, 10, 78, 79, 10, 119, 10] = none ∧ parseStdoutIccma .DC [] = none := by decide +kernel

/-- Aspartix, DS with certificate, labels `a`, `bc`: `NO\n[bc,a]\n` is read as NO with the set `{1, 0}`;
an undeclared name is rejected -/
example : parseStdoutApx [[97], [98, 99]] .DS [78, 79, 10, 91, 98, 99, 44, 97, 93, 10] =
      some ⟨some false, some [1, 0]⟩ ∧
    parseStdoutApx [[97], [98, 99]] .DS [78, 79, 10, 91, 98, 44, 97, 93, 10] = none := by decide +kernel

/-- the round-trip theorems on concrete answers -/
example : parseStdoutIccma .DC (stdoutIccma (.acc ⟨true, some [0, 2, 11]⟩ true)) =
    some ⟨some true, some [0, 2, 11]⟩ := parseStdoutIccma_stdoutIccma _ _ rfl

example : parseStdoutApx [[97], [98, 99]] .SE (stdoutApx [[97], [98, 99]] (.ext (some [1, 0]))) =
    some ⟨none, some [1, 0]⟩ :=
  parseStdoutApx_stdoutApx _ (by decide +kernel) (by decide +kernel) _ _ rfl (by decide +kernel)

end Crusta.Cli
