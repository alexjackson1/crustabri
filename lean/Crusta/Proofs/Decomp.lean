import Crusta.Proofs.GBasic

/-!
# The graph restricted to a set of arguments that no attack leaves or enters

Inside such a set, being attacked by `S`, being defended by `S` and membership of an argument are the
same in the graph and in its restriction (`obs_restrict`).  That the semantics decompose follows in
`Decomp2`.
-/

namespace Crusta

def G.restrict (g : G) (U : Nat → Bool) : G :=
  ⟨fun a => g.live a && U a, fun a b => g.att a b ∧ U a = true ∧ U b = true⟩

def G.ClosedB (g : G) (U : Nat → Bool) : Prop := ∀ a b, g.att a b → U a = U b

def inter (S : ASet) (U : Nat → Bool) : ASet := fun a => S a && U a
def compl (U : Nat → Bool) : Nat → Bool := fun a => !U a

theorem compl_true {U : Nat → Bool} {a : Nat} : compl U a = true ↔ U a = false := by
  simp [compl]

theorem G.closedB_compl {g : G} {U : Nat → Bool} (h : g.ClosedB U) : g.ClosedB (compl U) := by
  intro a b hab; simp [compl, h a b hab]

@[simp] theorem inter_true (S : ASet) (U : Nat → Bool) (a : Nat) : inter S U a = true ↔ (S a = true ∧ U a = true) := by
  simp [inter]

section
variable {g : G} {U : Nat → Bool}

theorem attackedBy_restrict (hc : g.ClosedB U) (S : ASet) (a : Nat) (ha : U a = true) :
    (g.restrict U).AttackedBy (inter S U) a ↔ g.AttackedBy S a := by
  constructor
  · rintro ⟨b, ⟨hb, _, _⟩, hSb⟩
    exact ⟨b, hb, ((inter_true S U b).1 hSb).1⟩
  · rintro ⟨b, hb, hSb⟩
    have hUb : U b = true := by rw [hc b a hb]; exact ha
    exact ⟨b, ⟨hb, hUb, ha⟩, (inter_true S U b).2 ⟨hSb, hUb⟩⟩

theorem defended_restrict (hc : g.ClosedB U) (S : ASet) (a : Nat) (ha : U a = true) :
    (g.restrict U).Defended (inter S U) a ↔ g.Defended S a := by
  constructor
  · intro h b hb
    have hUb : U b = true := by rw [hc b a hb]; exact ha
    exact (attackedBy_restrict hc S b hUb).1 (h b ⟨hb, hUb, ha⟩)
  · intro h b ⟨hb, hUb, _⟩
    exact (attackedBy_restrict hc S b hUb).2 (h b hb)

theorem restrict_live_iff {a : Nat} : (g.restrict U).live a = true ↔ (g.live a = true ∧ U a = true) :=
  Bool.and_eq_true_iff

theorem obs_restrict (hc : g.ClosedB U) (φ : Bool → Prop → Prop → Prop) (S : ASet) {a : Nat} (ha : U a = true) :
    φ (inter S U a) ((g.restrict U).AttackedBy (inter S U) a) ((g.restrict U).Defended (inter S U) a) ↔
      φ (S a) (g.AttackedBy S a) (g.Defended S a) := by
  rw [propext (attackedBy_restrict hc S a ha), propext (defended_restrict hc S a ha),
    show inter S U a = S a from (congrArg (S a && ·) ha).trans (Bool.and_true _)]

end

end Crusta
