import Crusta.Proofs.Lexical

/-!
# The scanners of the Aspartix reader accept exactly the lines of two explicit shapes

`matchArg_nf`, `matchAtt_nf` (every line): `matchArg` / `matchAtt` succeed exactly on the lines of the
shapes `StrictArg`, `StrictAtt` (an identifier between blanks inside `arg( … )`, two of them inside
`att( … , … )`, then any one character, blanks and the end), and return the identifiers.  No regular
expression here: `RoundTrip.lean` builds on these, `RxApx.lean` shows that the shapes are those of the
patterns of the Rust source (hence the namespace: its statements name the shapes).
-/

namespace Crusta.RxApx
open Crusta.IO

theorem takeWhile_dropWhile_split {p : Nat → Bool} (u r : Str) (hu : u.all p = true)
    (hr : ∀ x ∈ r.head?, p x = false) :
    (u ++ r).takeWhile p = u ∧ (u ++ r).dropWhile p = r := by
  induction u with
  | nil =>
    cases r with
    | nil => exact ⟨rfl, rfl⟩
    | cons x r => have := hr x (by simp); simp [this]
  | cons c cs ih =>
    simp only [List.all_cons, Bool.and_eq_true] at hu
    have := ih hu.2
    simp [hu.1, this.1, this.2]

theorem head_cons_not {p : Nat → Bool} {a : Nat} {r : Str} (h : p a = false) :
    ∀ x ∈ (a :: r).head?, p x = false := by
  intro x hx; simp at hx; subst hx; exact h

/-- `g` is `\s*[_[:alpha:]][_[:alpha:]\d]*\s*` with identifier `id` -/
def IdSp (g id : Str) : Prop :=
  ∃ u c ds v, g = u ++ c :: (ds ++ v) ∧ u.all isWs = true ∧ isIdStart c = true ∧
    ds.all isIdChar = true ∧ v.all isWs = true ∧ id = c :: ds

/-- `\s*arg\(g\)x\s*` with `g` an identifier surrounded by blanks -/
def StrictArg (l g : Str) (x : Nat) (id : Str) : Prop :=
  ∃ w1 w2, l = w1 ++ 97 :: 114 :: 103 :: 40 :: (g ++ 41 :: x :: w2) ∧
    w1.all isWs = true ∧ IdSp g id ∧ w2.all isWs = true

/-- `\s*att\(g1,g2\)x\s*` -/
def StrictAtt (l g1 g2 : Str) (x : Nat) (a b : Str) : Prop :=
  ∃ w1 w2, l = w1 ++ 97 :: 116 :: 116 :: 40 :: (g1 ++ 44 :: (g2 ++ 41 :: x :: w2)) ∧
    w1.all isWs = true ∧ IdSp g1 a ∧ IdSp g2 b ∧ w2.all isWs = true

theorem scanName_iff (l : Str) (term : Nat) (htw : isWs term = false) (hti : isIdChar term = false)
    (id rest : Str) :
    scanName l term = some (id, rest) ↔ ∃ g, l = g ++ term :: rest ∧ IdSp g id := by
  constructor
  · intro h
    unfold scanName at h
    simp only at h
    split at h
    · rename_i c r hl1
      rw [hl1] at h
      split at h
      · cases h
      · rename_i hc
        rw [Bool.not_eq_true, Bool.not_eq_false'] at hc
        have hcc := isIdStart_isIdChar c hc
        rw [List.dropWhile_cons_of_pos hcc, List.takeWhile_cons_of_pos hcc] at h
        split at h
        · rename_i t rest' hl2
          split at h
          · rename_i ht
            cases h
            refine ⟨l.takeWhile isWs ++
              c :: (r.takeWhile isIdChar ++ (r.dropWhile isIdChar).takeWhile isWs), ?_,
              ⟨_, c, _, _, rfl, List.all_takeWhile, hc, List.all_takeWhile, List.all_takeWhile, rfl⟩⟩
            rw [List.append_assoc, List.cons_append, List.append_assoc, ← beq_iff_eq.1 ht, ← hl2,
              List.takeWhile_append_dropWhile, List.takeWhile_append_dropWhile, ← hl1,
              List.takeWhile_append_dropWhile]
          · cases h
        · cases h
    · cases h
  · rintro ⟨g, rfl, u, c, ds, v, rfl, hu, hc, hds, hv, rfl⟩
    have hcc := isIdStart_isIdChar c hc
    have hcw := isIdChar_not_isWs c hcc
    have e0 : (u ++ c :: (ds ++ v)) ++ term :: rest = u ++ c :: (ds ++ (v ++ term :: rest)) := by simp
    have e1 := (takeWhile_dropWhile_split u (c :: (ds ++ (v ++ term :: rest))) hu (head_cons_not hcw)).2
    have hvh : ∀ x ∈ (v ++ term :: rest).head?, isIdChar x = false := by
      cases v with
      | nil => exact head_cons_not hti
      | cons y v =>
        simp only [List.all_cons, Bool.and_eq_true] at hv
        exact head_cons_not (isWs_not_isIdChar y hv.1)
    have e2 := takeWhile_dropWhile_split (p := isIdChar) (c :: ds) (v ++ term :: rest)
      (by simp [hcc, hds]) hvh
    have e3 := (takeWhile_dropWhile_split v (term :: rest) hv (head_cons_not htw)).2
    simp only [List.cons_append] at e2
    unfold scanName
    simp only [e0, e1, hc, Bool.not_true, Bool.false_eq_true, if_false, e2.1, e2.2, e3, beq_self_eq_true,
      if_true]

theorem scanTail_iff (rest : Str) :
    scanTail rest = true ↔ ∃ x w2, rest = x :: w2 ∧ w2.all isWs = true := by
  cases rest with
  | nil => simp [scanTail]
  | cons x w2 =>
    simp only [scanTail]
    constructor
    · intro h; exact ⟨x, w2, rfl, h⟩
    · rintro ⟨_, _, h, hw⟩; cases h; exact hw

theorem dropPrefix_iff (p m r : Str) : dropPrefix p m = some r ↔ m = p ++ r := by
  unfold dropPrefix
  constructor
  · intro h
    split at h
    · rename_i hp
      rw [List.isPrefixOf_iff_prefix] at hp
      obtain ⟨t, rfl⟩ := hp
      simp at h
      rw [h]
    · cases h
  · rintro rfl
    simp

/-- the argument scanner accepts exactly the lines `\s*arg\(\s*ID\s*\)x\s*` (any `x`) and returns `ID` -/
theorem matchArg_nf (l id : Str) : matchArg l = some id ↔ ∃ g x, StrictArg l g x id := by
  constructor
  · intro h
    unfold matchArg at h
    split at h
    · cases h
    · rename_i r hdp
      split at h
      · rename_i id' rest hs
        split at h
        · cases h
          rw [dropPrefix_iff, strOf_arg] at hdp
          obtain ⟨g, rfl, hg⟩ := (scanName_iff r 41 isWs_41 isIdChar_41 _ _).1 hs
          obtain ⟨x, w2, rfl, hw2⟩ := (scanTail_iff rest).1 ‹_›
          exact ⟨g, x, l.takeWhile isWs, w2,
            (List.takeWhile_append_dropWhile (p := isWs)).symm.trans (by rw [hdp]; rfl),
            List.all_takeWhile, hg, hw2⟩
        · cases h
      · cases h
  · rintro ⟨g, x, w1, w2, rfl, hw1, hid, hw2⟩
    have e1 := (takeWhile_dropWhile_split w1 (97 :: 114 :: 103 :: 40 :: (g ++ 41 :: x :: w2)) hw1
      (head_cons_not isWs_97)).2
    have e2 : dropPrefix (strOf "arg(") (97 :: 114 :: 103 :: 40 :: (g ++ 41 :: x :: w2)) =
        some (g ++ 41 :: x :: w2) := by rw [dropPrefix_iff, strOf_arg]; rfl
    have e3 := (scanName_iff (g ++ 41 :: x :: w2) 41 isWs_41 isIdChar_41 id (x :: w2)).2 ⟨g, rfl, hid⟩
    have e4 := (scanTail_iff (x :: w2)).2 ⟨x, w2, rfl, hw2⟩
    unfold matchArg
    simp only [e1, e2, e3, e4, if_true]

/-- the attack scanner accepts exactly the lines `\s*att\(\s*ID\s*,\s*ID\s*\)x\s*` (any `x`) -/
theorem matchAtt_nf (l a b : Str) : matchAtt l = some (a, b) ↔ ∃ g1 g2 x, StrictAtt l g1 g2 x a b := by
  constructor
  · intro h
    unfold matchAtt at h
    split at h
    · cases h
    · rename_i r hdp
      split at h
      · cases h
      · rename_i a' r2 hs
        split at h
        · rename_i b' rest hs2
          split at h
          · cases h
            rw [dropPrefix_iff, strOf_att] at hdp
            obtain ⟨g1, rfl, hg1⟩ := (scanName_iff r 44 isWs_44 isIdChar_44 _ _).1 hs
            obtain ⟨g2, rfl, hg2⟩ := (scanName_iff r2 41 isWs_41 isIdChar_41 _ _).1 hs2
            obtain ⟨x, w2, rfl, hw2⟩ := (scanTail_iff rest).1 ‹_›
            exact ⟨g1, g2, x, l.takeWhile isWs, w2,
              (List.takeWhile_append_dropWhile (p := isWs)).symm.trans (by rw [hdp]; rfl),
              List.all_takeWhile, hg1, hg2, hw2⟩
          · cases h
        · cases h
  · rintro ⟨g1, g2, x, w1, w2, rfl, hw1, ha, hb, hw2⟩
    have e1 := (takeWhile_dropWhile_split w1
      (97 :: 116 :: 116 :: 40 :: (g1 ++ 44 :: (g2 ++ 41 :: x :: w2))) hw1 (head_cons_not isWs_97)).2
    have e2 : dropPrefix (strOf "att(") (97 :: 116 :: 116 :: 40 :: (g1 ++ 44 :: (g2 ++ 41 :: x :: w2))) =
        some (g1 ++ 44 :: (g2 ++ 41 :: x :: w2)) := by rw [dropPrefix_iff, strOf_att]; rfl
    have e3 := (scanName_iff (g1 ++ 44 :: (g2 ++ 41 :: x :: w2)) 44 isWs_44 isIdChar_44 a
      (g2 ++ 41 :: x :: w2)).2 ⟨g1, rfl, ha⟩
    have e3' := (scanName_iff (g2 ++ 41 :: x :: w2) 41 isWs_41 isIdChar_41 b (x :: w2)).2 ⟨g2, rfl, hb⟩
    have e4 := (scanTail_iff (x :: w2)).2 ⟨x, w2, rfl, hw2⟩
    unfold matchAtt
    simp only [e1, e2, e3, e3', e4, if_true]

end Crusta.RxApx
