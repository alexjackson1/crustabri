import Crusta.Proofs.SolveRG
import Crusta.Proofs.StaticPRCO

/-!
# Semi-stable and stage solvers: entry points on the whole framework

The two solver types run the same code (`rgSE`, `rgAcc`, `rgAccCert`); they differ only in the
family of sets described by the encoder (complete extensions / conflict-free sets).  Everything is
proved once for a semantics `σ` such that the range-maximal members of the encoder's family are the
`σ`-extensions (`rangeMax_semistable`, `rangeMax_stage`) and such that the graph has a
`σ`-extension (`G.exists_semistable`, `G.exists_stage`, in `GExist`).
-/

namespace Crusta
attribute [local irreducible] wp -- see `Assemble`

section generic
variable (cfg : Cfg) (hk : RangeEnc cfg.enc) (σ : Sem)
  (hσ : ∀ af T, RangeMax af (cfg.enc.Base af) T ↔ σ.Ext af T) (v : FwView) (g : G) (hv : v.Ok g)

include hk hσ hv

theorem wp_rgMaximalOfComp_ext (c : Comp) (hc : GoodComp g c) (w : World) (hb : w.Bounded) :
    wp (FuelShort cfg v) (rgMaximalOfComp cfg c) w (fun r _ => ∃ e, r = c.back e ∧ ExtIn σ c e) := by
  refine wp_conseq (FuelShort.of_ge (fuel_lin hv hc)) _ _ _ _ ?_
    (rgMaximalOfComp_spec cfg hk c (Comp.af_wf hc) (GrOK_of_wf _ (Comp.af_wf hc)) w hb)
  rintro r w' ⟨_, e, he, hrm, hlt⟩
  exact ⟨e, he, (hσ _ _).1 hrm, hlt⟩

theorem rg_se_ok (w : World) (hb : w.Bounded) :
    wp (FuelShort cfg v) (rgSE cfg v) w (fun res _ => SEOK σ g res) :=
  (wp_bind' _ _ w _).2 (wp_mono _ _ _ _ (fun _ _ h => (wp_pure _ _ _).2 (SEOK.of_some ((gext_iff σ g _).2 h.2)))
    (se_by_components_spec σ (rgMaximalOfComp cfg) v g hv
      (fun c w hb hc => wp_rgMaximalOfComp_ext cfg hk σ hσ v g hv c hc w hb) w hb))

/- The acceptance search is bounded by the size of the family the encoder describes: `fam af`
enumerates it (at most `2 ^ n` members). -/
variable (fam : AF → List (List Nat))
  (hfam : ∀ af l, l ∈ fam af ↔ l ∈ subsets af.n ∧ cfg.enc.Base af (ofList l))
  (hlen : ∀ af, (fam af).length ≤ 2 ^ af.n)

include hfam hlen

omit hσ in
theorem wp_rgAccInCc_ok (c : Comp) (hgood : GoodComp g c) (args : List Nat) (hin : ∀ a ∈ args, a ∈ c.ids)
    (cred : Bool) (w : World) (hb : w.Bounded) :
    wp (FuelShort cfg v) (rgAccInCc cfg c args cred) w (fun res w' => w'.Bounded ∧
      ∀ pos, posAll c args = some pos → RgOK c.af (cfg.enc.Base c.af) pos cred res) := by
  obtain ⟨pos, hpos⟩ := posAll_of_mem c args hin
  refine wp_bounded _ _ _ hb (wp_conseq (fun h => h.elim (fun hn => absurd (hn ▸ hpos) nofun)
    (FuelShort.of_ge fun hf => fuel_mul hv hgood hf (hlen c.af))) _ _ _ _ ?_
    (rgAccInCc_spec cfg hk c args cred (Comp.af_wf hgood) (GrOK_of_wf _ (Comp.af_wf hgood)) w hb (fam c.af)
      (hfam c.af)))
  rintro res _ ⟨_, hres⟩ pos' hpos'
  exact hres pos' hpos' (posAll_lt hgood hpos')

theorem rg_acc_ok (hex : ∃ S0, g.Ext σ S0) (args : List Nat)
    (hargs : ∀ a ∈ args, g.live a = true) (cred : Bool) (w : World) (hb : w.Bounded) :
    wp (FuelShort cfg v) (rgAcc cfg v args cred) w (fun a _ => AccOK σ g args cred false a ∧ a.cert = none) := by
  unfold rgAcc
  simp only [Prog.bind_eq]
  rw [wp_bind]
  apply wp_needMerged hv hargs
  intro c cc hgood hin _
  simp only
  rw [wp_bind]
  refine wp_mono _ _ _ _ ?_ (wp_rgAccInCc_ok cfg hk v g hv fam hfam hlen c hgood args hin cred w hb)
  rintro ⟨st, ce⟩ w' ⟨_, hres⟩
  obtain ⟨pos, hpos⟩ := posAll_of_mem c args hin
  obtain ⟨h1, h2⟩ := hres pos hpos
  exact (wp_pure _ _ _).2 ⟨accOK_of_comp hv σ hex hgood hin hpos cred st
    (fun hs => (h1 hs).elim fun e h => ⟨_, (hσ _ _).1 h.2.1, h.2.2.1⟩)
    (fun hs T hT => (h2 hs).2 T ((hσ _ _).2 hT)), rfl⟩

theorem rg_acc_cert_ok (hex : ∃ S0, g.Ext σ S0) (args : List Nat)
    (hargs : ∀ a ∈ args, g.live a = true) (cred : Bool) (w : World) (hb : w.Bounded) :
    wp (FuelShort cfg v) (rgAccCert cfg v args cred) w (fun a _ => AccOK σ g args cred true a) := by
  unfold rgAccCert
  simp only [Prog.bind_eq]
  rw [wp_bind]
  apply wp_needMerged hv hargs
  intro c cc hgood hin hI
  simp only
  rw [wp_bind]
  refine wp_mono _ _ _ _ ?_ (wp_rgAccInCc_ok cfg hk v g hv fam hfam hlen c hgood args hin cred w hb)
  rintro ⟨st, ce⟩ w1 ⟨hb1, hres⟩
  obtain ⟨pos, hpos⟩ := posAll_of_mem c args hin
  obtain ⟨h1, h2⟩ := hres pos hpos
  cases ce with
  | none =>
    have hs : st = (!cred) := Bool.eq_not_of_ne fun hs => by
      obtain ⟨e, he, _⟩ := h1 hs
      cases he
    refine (wp_pure _ _ _).2 (AccOK.no fun hn => ?_)
    obtain ⟨T, hT, hw⟩ := (wit_lift hv σ hex hgood hin hpos cred).2 hn
    exact (h2 hs).2 T ((hσ _ _).2 hT) hw
  | some e =>
    have hs : st = cred := Classical.byContradiction fun hne => by
      have := (h2 (Bool.eq_not_of_ne hne)).1
      cases this
    obtain ⟨e', he, hrm, hw, hlt⟩ := h1 hs
    cases he
    show wp _ ((otherCompsWith v _ cfg.fuel cc _).bind _) _ _
    rw [wp_bind]
    refine wp_mono _ _ _ _ ?_ (cert_by_components hv σ (rgMaximalOfComp cfg)
      (fun oc w' hb' hg' => wp_rgMaximalOfComp_ext cfg hk σ hσ v g hv oc hg' w' hb')
      hgood hI hin hpos ((hσ _ _).1 hrm) hlt cfg.fuel (otherComps_fuel' hI) w1 hb1)
    rintro res _ ⟨hext, hiff⟩
    refine (wp_pure _ _ _).2 (AccOK.yes hext ?_)
    unfold WitL
    rw [hiff]
    exact hw

/-- the hypothesis names the programs of `.SST`: those of `.STG` are the same (`entryProg_stg_eq_sst`) -/
theorem rg_entry_spec (hex : ∃ S0, g.Ext σ S0) (e : Entry) (hargs : ∀ a, a ∈ e.argsList → g.live a = true)
    (p : Prog Ans) (hp : entryProg .SST cfg v e = some p) (w : World) (hb : w.Bounded) :
    wp (FuelShort cfg v) p w (fun ans _ => EntryOK σ g e ans) := by
  have hacc := rg_acc_ok cfg hk σ hσ v g hv fam hfam hlen hex
  have hcert := rg_acc_cert_ok cfg hk σ hσ v g hv fam hfam hlen hex
  cases e with
  | se =>
    obtain rfl := Option.some.inj hp
    exact wp_entry_se (rg_se_ok cfg hk σ hσ v g hv w hb)
  | dc cert args =>
    obtain rfl := Option.some.inj hp
    exact wp_entry_dc_ite (wp_mono _ _ _ _ (fun _ _ h => h.dc) (hcert args hargs true w hb))
      (wp_mono _ _ _ _ (fun _ _ h => h.1.dc) (hacc args hargs true w hb))
  | ds cert args =>
    obtain rfl := Option.some.inj hp
    exact wp_entry_ds_ite (wp_mono _ _ _ _ (fun _ _ h => h.ds) (hcert args hargs false w hb))
      (wp_mono _ _ _ _ (fun _ _ h => h.1.ds) (hacc args hargs false w hb))

end generic

theorem entryProg_stg_eq_sst (cfg : Cfg) (v : FwView) (e : Entry) :
    entryProg .STG cfg v e = entryProg .SST cfg v e := by
  cases e <;> rfl

theorem rangeEnc_of_co {k : EncKind} (hk : k = .auxCO ∨ k = .expCO ∨ k = .hyb) : RangeEnc k := by
  rcases hk with rfl | rfl | rfl <;> intro h <;> cases h

theorem rangeEnc_of_cf {k : EncKind} (hk : k = .auxCF ∨ k = .expCF) : RangeEnc k := by
  rcases hk with rfl | rfl <;> intro h <;> cases h

theorem base_complete_of (k : EncKind) (h : k = .auxCO ∨ k = .expCO ∨ k = .hyb) :
    ∀ af T, k.Base af T ↔ Complete af T := by
  rcases h with rfl | rfl | rfl <;> intro af T <;> rfl

section sst
variable (cfg : Cfg) (hkS : cfg.enc = .auxCO ∨ cfg.enc = .expCO ∨ cfg.enc = .hyb)
include hkS

theorem fam_extsCO (af : AF) (l : List Nat) : l ∈ extsCO af ↔ l ∈ subsets af.n ∧ cfg.enc.Base af (ofList l) := by
  rw [mem_extsCO, base_complete_of cfg.enc hkS]

/-! `sst_se_ok` … `sst_entry_ok`: the generic specifications read at `.SST`, those named `_ok` with crash
condition `True`; `StaticAll` rests on `sst_entry_spec` -/

theorem sst_se_ok (v : FwView) (g : G) (hv : v.Ok g) (w : World) (hb : w.Bounded) :
    wp True (rgSE cfg v) w (fun res _ => SEOK .SST g res) :=
  wp_conseq (fun _ => trivial) _ _ _ _ (fun _ _ h => h)
    (rg_se_ok cfg (rangeEnc_of_co hkS) .SST (fun af T => rangeMax_semistable cfg.enc hkS af T) v g hv w hb)

theorem sst_acc_ok (cred : Bool) (v : FwView) (g : G) (hv : v.Ok g) (args : List Nat)
    (hargs : ∀ a ∈ args, g.live a = true) (w : World) (hb : w.Bounded) :
    wp True (rgAcc cfg v args cred) w (fun a _ =>
      (if cred then DCOK .SST g args false a else DSOK .SST g args false a) ∧ a.cert = none) :=
  wp_conseq (fun _ => trivial) _ _ _ _ (fun _ _ ha => ⟨ha.1.of_cred, ha.2⟩)
    (rg_acc_ok cfg (rangeEnc_of_co hkS) .SST (fun af T => rangeMax_semistable cfg.enc hkS af T) v g hv extsCO
      (fam_extsCO cfg hkS) length_extsCO_le (G.exists_semistable g hv.wf hv.fin) args hargs cred w hb)

theorem sst_acc_cert_ok (cred : Bool) (v : FwView) (g : G) (hv : v.Ok g) (args : List Nat)
    (hargs : ∀ a ∈ args, g.live a = true) (w : World) (hb : w.Bounded) :
    wp True (rgAccCert cfg v args cred) w (fun a _ =>
      if cred then DCOK .SST g args true a else DSOK .SST g args true a) :=
  wp_conseq (fun _ => trivial) _ _ _ _ (fun _ _ ha => ha.of_cred)
    (rg_acc_cert_ok cfg (rangeEnc_of_co hkS) .SST (fun af T => rangeMax_semistable cfg.enc hkS af T) v g hv extsCO
      (fam_extsCO cfg hkS) length_extsCO_le (G.exists_semistable g hv.wf hv.fin) args hargs cred w hb)

theorem sst_entry_spec (v : FwView) (g : G) (hv : v.Ok g) (e : Entry)
    (hargs : ∀ a, a ∈ e.argsList → g.live a = true) (p : Prog Ans)
    (hp : entryProg .SST cfg v e = some p) (w : World) (hb : w.Bounded) :
    wp (FuelShort cfg v) p w (fun ans _ => EntryOK .SST g e ans) :=
  rg_entry_spec cfg (rangeEnc_of_co hkS) .SST (fun af T => rangeMax_semistable cfg.enc hkS af T) v g hv extsCO
    (fam_extsCO cfg hkS) length_extsCO_le (G.exists_semistable g hv.wf hv.fin) e hargs p hp w hb

theorem sst_entry_ok (v : FwView) (g : G) (hv : v.Ok g) (e : Entry)
    (hargs : ∀ a, a ∈ e.argsList → g.live a = true) (p : Prog Ans)
    (hp : entryProg .SST cfg v e = some p) (w : World) (hb : w.Bounded) :
    wp True p w (fun ans _ => EntryOK .SST g e ans) :=
  wp_conseq (fun _ => trivial) _ _ _ _ (fun _ _ h => h) (sst_entry_spec cfg hkS v g hv e hargs p hp w hb)

end sst

section stg
variable (cfg : Cfg) (hkG : cfg.enc = .auxCF ∨ cfg.enc = .expCF)
include hkG

theorem fam_extsCF (af : AF) (l : List Nat) : l ∈ extsCF af ↔ l ∈ subsets af.n ∧ cfg.enc.Base af (ofList l) := by
  rw [mem_extsCF]
  rcases hkG with h | h <;> rw [h] <;> rfl

/-! the same at `.STG`; `StaticAll` rests on `stg_entry_spec` -/

theorem stg_se_ok (v : FwView) (g : G) (hv : v.Ok g) (w : World) (hb : w.Bounded) :
    wp True (rgSE cfg v) w (fun res _ => SEOK .STG g res) :=
  wp_conseq (fun _ => trivial) _ _ _ _ (fun _ _ h => h)
    (rg_se_ok cfg (rangeEnc_of_cf hkG) .STG (fun af T => rangeMax_stage cfg.enc hkG af T) v g hv w hb)

theorem stg_acc_ok (cred : Bool) (v : FwView) (g : G) (hv : v.Ok g) (args : List Nat)
    (hargs : ∀ a ∈ args, g.live a = true) (w : World) (hb : w.Bounded) :
    wp True (rgAcc cfg v args cred) w (fun a _ =>
      (if cred then DCOK .STG g args false a else DSOK .STG g args false a) ∧ a.cert = none) :=
  wp_conseq (fun _ => trivial) _ _ _ _ (fun _ _ ha => ⟨ha.1.of_cred, ha.2⟩)
    (rg_acc_ok cfg (rangeEnc_of_cf hkG) .STG (fun af T => rangeMax_stage cfg.enc hkG af T) v g hv extsCF
      (fam_extsCF cfg hkG) length_extsCF_le (G.exists_stage g hv.wf hv.fin) args hargs cred w hb)

theorem stg_acc_cert_ok (cred : Bool) (v : FwView) (g : G) (hv : v.Ok g) (args : List Nat)
    (hargs : ∀ a ∈ args, g.live a = true) (w : World) (hb : w.Bounded) :
    wp True (rgAccCert cfg v args cred) w (fun a _ =>
      if cred then DCOK .STG g args true a else DSOK .STG g args true a) :=
  wp_conseq (fun _ => trivial) _ _ _ _ (fun _ _ ha => ha.of_cred)
    (rg_acc_cert_ok cfg (rangeEnc_of_cf hkG) .STG (fun af T => rangeMax_stage cfg.enc hkG af T) v g hv extsCF
      (fam_extsCF cfg hkG) length_extsCF_le (G.exists_stage g hv.wf hv.fin) args hargs cred w hb)

theorem stg_entry_spec (v : FwView) (g : G) (hv : v.Ok g) (e : Entry)
    (hargs : ∀ a, a ∈ e.argsList → g.live a = true) (p : Prog Ans)
    (hp : entryProg .STG cfg v e = some p) (w : World) (hb : w.Bounded) :
    wp (FuelShort cfg v) p w (fun ans _ => EntryOK .STG g e ans) :=
  rg_entry_spec cfg (rangeEnc_of_cf hkG) .STG (fun af T => rangeMax_stage cfg.enc hkG af T) v g hv extsCF
    (fam_extsCF cfg hkG) length_extsCF_le (G.exists_stage g hv.wf hv.fin) e hargs p
    (by rw [← entryProg_stg_eq_sst]; exact hp) w hb

theorem stg_entry_ok (v : FwView) (g : G) (hv : v.Ok g) (e : Entry)
    (hargs : ∀ a, a ∈ e.argsList → g.live a = true) (p : Prog Ans)
    (hp : entryProg .STG cfg v e = some p) (w : World) (hb : w.Bounded) :
    wp True p w (fun ans _ => EntryOK .STG g e ans) :=
  wp_conseq (fun _ => trivial) _ _ _ _ (fun _ _ h => h) (stg_entry_spec cfg hkG v g hv e hargs p hp w hb)

end stg

end Crusta
