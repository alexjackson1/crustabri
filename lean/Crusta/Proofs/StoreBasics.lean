import Crusta.Model.Store
import Crusta.Proofs.ListAux
import Crusta.Proofs.GSem

/-!
# Store proofs: the invariant, index tables

`Store.Inv` is the consistency of the tombstoned vectors, the label map and the two index tables.
Its clauses about `from_` and `to_` are mirror images; `Store.Indexes` states them once, for a table
indexing the live attacks by either end, so that a push (`Indexes.push`) and a removal
(`Indexes.shrink`) are each argued once for both tables.  `Store.Core` is `Inv` in that form, minus
the distinctness of the live attacks.
-/

namespace Crusta

-- the bound checks that guard the indexings of the source never fire

theorem or_ge_false {a b m k : Nat} (ha : a < m) (hb : b < k) : (decide (a ≥ m) || decide (b ≥ k)) = false := by
  rw [decide_eq_false (Nat.not_le.2 ha), decide_eq_false (Nat.not_le.2 hb)]; rfl

theorem any_ge_false {l : List Nat} {n : Nat} (h : ∀ i ∈ l, i < n) : l.any (fun i => decide (i ≥ n)) = false :=
  List.any_eq_false.2 fun i hi hd => Nat.not_le.2 (h i hi) (of_decide_eq_true hd)

namespace Store

/-- the live argument with id `i` has label `l` -/
def Live (s : Store) (i l : Nat) : Prop := s.labelOf i = some l

/-- there is a live attack between the arguments with ids `a` and `b` -/
def HasAtt (s : Store) (a b : Nat) : Prop := ∃ i, s.att i = some (a, b)

def countNone {α : Type} : List (Option α) → Nat
  | [] => 0
  | none :: t => countNone t + 1
  | some _ :: t => countNone t

theorem filterMap_id_length {α : Type} (l : List (Option α)) : (l.filterMap id).length + countNone l = l.length := by
  induction l with
  | nil => rfl
  | cons a t ih =>
    cases a with
    | none => exact congrArg (· + 1) ih
    | some _ => exact (Nat.add_right_comm ..).trans (congrArg (· + 1) ih)

structure Inv (s : Store) : Prop where
  rows_from : s.from_.length = s.labels.length
  rows_to : s.to_.length = s.labels.length
  l2i_sound : ∀ l i, (l, i) ∈ s.l2i → s.Live i l
  l2i_complete : ∀ l i, s.Live i l → (l, i) ∈ s.l2i
  label_inj : ∀ i j l, s.Live i l → s.Live j l → i = j
  ends_live : ∀ i a b, s.att i = some (a, b) → s.hasId a = true ∧ s.hasId b = true
  in_from : ∀ i a b, s.att i = some (a, b) → i ∈ row s.from_ a
  in_to : ∀ i a b, s.att i = some (a, b) → i ∈ row s.to_ b
  from_ok : ∀ a i, i ∈ row s.from_ a → i < s.attacks.length ∧ (s.att i = none ∨ ∃ b, s.att i = some (a, b))
  to_ok : ∀ b i, i ∈ row s.to_ b → i < s.attacks.length ∧ (s.att i = none ∨ ∃ a, s.att i = some (a, b))
  cnt_att : s.nRemovedAtt = countNone s.attacks
  cnt_lab : s.nRemoved = countNone s.labels
  att_nodup : ∀ i j a b, s.att i = some (a, b) → s.att j = some (a, b) → i = j

theorem live_lt {s : Store} {i l : Nat} (h : s.Live i l) : i < s.labels.length :=
  getD_lt h

theorem hasId_iff {s : Store} {i : Nat} : s.hasId i = true ↔ ∃ l, s.Live i l :=
  Option.isSome_iff_exists

theorem hasId_iff_lt {s : Store} {n : Nat} {lab : Nat → Nat} (h : ∀ i l, s.Live i l ↔ (i < n ∧ l = lab i))
    (i : Nat) : s.hasId i = true ↔ i < n :=
  hasId_iff.trans ⟨fun ⟨l, hl⟩ => ((h i l).1 hl).1, fun hi => ⟨lab i, (h i _).2 ⟨hi, rfl⟩⟩⟩

theorem row_set_ne (r : List (List Nat)) (a c : Nat) (x : List Nat) (h : a ≠ c) : row (r.set a x) c = row r c :=
  getD_set_ne _ _ _ _ _ h

theorem row_set (r : List (List Nat)) {a : Nat} (x : List Nat) (h : a < r.length) (c : Nat) :
    row (r.set a x) c = if c = a then x else row r c :=
  getD_set_of_lt r a c x [] h

theorem mem_row_push (r : List (List Nat)) {a : Nat} (h : a < r.length) (n c i : Nat) :
    i ∈ row (r.set a (row r a ++ [n])) c ↔ i ∈ row r c ∨ (c = a ∧ i = n) := by
  rw [row_set r _ h]
  split
  · next e =>
    rw [e, List.mem_append, List.mem_singleton]
    exact ⟨fun h => h.imp id fun h => ⟨rfl, h⟩, fun h => h.imp id fun h => h.2⟩
  · next e => exact ⟨Or.inl, fun h => h.elim id fun h => absurd h.1 e⟩

theorem row_set_cases (r : List (List Nat)) (a c : Nat) (x : List Nat) :
    row (r.set a x) c = x ∨ row (r.set a x) c = row r c := by
  unfold row
  rw [getD_set]
  split
  · exact Or.inl rfl
  · exact Or.inr rfl

/-- the row of an id without one is empty anyway -/
theorem row_pushArg (r : List (List Nat)) (a : Nat) : row (r ++ [[]]) a = row r a := by
  unfold row
  rw [getD_push]
  split
  · next e => rw [getD_ge _ _ _ (Nat.le_of_eq e.symm)]
  · rfl

/-- the rows `ρ` index the live entries of `att` by the end `π` of the pair -/
structure Indexes (att : Nat → Option (Nat × Nat)) (n : Nat) (π : Nat × Nat → Nat) (ρ : Nat → List Nat) :
    Prop where
  mem : ∀ i p, att i = some p → i ∈ ρ (π p)
  lt : ∀ c i, i ∈ ρ c → i < n
  own : ∀ c i p, i ∈ ρ c → att i = some p → π p = c

namespace Indexes
variable {att att' : Nat → Option (Nat × Nat)} {n : Nat} {π : Nat × Nat → Nat} {ρ ρ' : Nat → List Nat}

/-- for the attacker's end this is the pair `in_from`, `from_ok` of `Inv`; `iff_snd` is its mirror image -/
theorem iff_fst : Indexes att n Prod.fst ρ ↔ (∀ i a b, att i = some (a, b) → i ∈ ρ a) ∧
    ∀ a i, i ∈ ρ a → i < n ∧ (att i = none ∨ ∃ b, att i = some (a, b)) := by
  refine ⟨fun h => ⟨fun i a b => h.mem i (a, b), fun a i hi => ⟨h.lt a i hi, ?_⟩⟩,
    fun h => ⟨fun i p => h.1 i p.1 p.2, fun c i hi => (h.2 c i hi).1, fun c i p hi hp => ?_⟩⟩
  · cases hp : att i with
    | none => exact Or.inl rfl
    | some p => exact Or.inr ⟨p.2, by rw [← h.own a i p hi hp]⟩
  · rcases (h.2 c i hi).2 with e | ⟨b, e⟩ <;> rw [e] at hp <;> cases hp
    rfl

theorem iff_snd : Indexes att n Prod.snd ρ ↔ (∀ i a b, att i = some (a, b) → i ∈ ρ b) ∧
    ∀ b i, i ∈ ρ b → i < n ∧ (att i = none ∨ ∃ a, att i = some (a, b)) := by
  refine ⟨fun h => ⟨fun i a b => h.mem i (a, b), fun b i hi => ⟨h.lt b i hi, ?_⟩⟩,
    fun h => ⟨fun i p => h.1 i p.1 p.2, fun c i hi => (h.2 c i hi).1, fun c i p hi hp => ?_⟩⟩
  · cases hp : att i with
    | none => exact Or.inl rfl
    | some p => exact Or.inr ⟨p.1, by rw [← h.own b i p hi hp]⟩
  · rcases (h.2 c i hi).2 with e | ⟨a, e⟩ <;> rw [e] at hp <;> cases hp
    rfl

theorem of_none (hatt : ∀ i, att i = none) (hρ : ∀ c, ρ c = []) : Indexes att n π ρ where
  mem i p hp := by rw [hatt] at hp; cases hp
  lt c i hi := by rw [hρ] at hi; cases hi
  own c i p hi := by rw [hρ] at hi; cases hi

theorem congr (h : Indexes att n π ρ) (hatt : ∀ i, att' i = att i) (hρ : ∀ c, ρ' c = ρ c) :
    Indexes att' n π ρ' := by
  obtain rfl : att' = att := funext hatt
  obtain rfl : ρ' = ρ := funext hρ
  exact h

/-- the new length comes as a variable `n'` with an equation (here and in `swapRemove`, `clearRow`),
so that the caller can give `List.length_append` / `List.length_set` for it -/
theorem push (h : Indexes att n π ρ) {p : Nat × Nat} {n' : Nat} (hn : n' = n + 1)
    (hatt : ∀ i q, att' i = some q ↔ att i = some q ∨ (i = n ∧ q = p))
    (hρ : ∀ c i, i ∈ ρ' c ↔ i ∈ ρ c ∨ (c = π p ∧ i = n)) : Indexes att' n' π ρ' where
  mem i q hq := by
    rcases (hatt i q).1 hq with hq | ⟨rfl, rfl⟩
    · exact (hρ _ _).2 (Or.inl (h.mem i q hq))
    · exact (hρ _ _).2 (Or.inr ⟨rfl, rfl⟩)
  lt c i hi := by
    rw [hn]
    rcases (hρ c i).1 hi with hi | ⟨_, rfl⟩
    · exact Nat.lt_succ_of_lt (h.lt c i hi)
    · exact Nat.lt_succ_self _
  own c i q hi hq := by
    rcases (hρ c i).1 hi with hi | ⟨rfl, rfl⟩
    · rcases (hatt i q).1 hq with hq | ⟨rfl, _⟩
      · exact h.own c i q hi hq
      · exact absurd (h.lt c _ hi) (Nat.lt_irrefl _)
    · rcases (hatt _ q).1 hq with hq | ⟨_, rfl⟩
      · exact absurd (h.lt _ _ (h.mem _ q hq)) (Nat.lt_irrefl _)
      · rfl

theorem shrink (h : Indexes att n π ρ) (hatt : ∀ i p, att' i = some p → att i = some p)
    (hsub : ∀ c i, i ∈ ρ' c → i ∈ ρ c)
    (hkeep : ∀ i p, att' i = some p → i ∈ ρ (π p) → i ∈ ρ' (π p)) : Indexes att' n π ρ' where
  mem i p hp := hkeep i p hp (h.mem i p (hatt i p hp))
  lt c i hi := h.lt c i (hsub c i hi)
  own c i p hi hp := h.own c i p (hsub c i hi) (hatt i p hp)

theorem mem_filterMap (h : Indexes att n π ρ) (c : Nat) (p : Nat × Nat) :
    p ∈ (ρ c).filterMap att ↔ (π p = c ∧ ∃ i, att i = some p) := by
  rw [List.mem_filterMap]
  constructor
  · rintro ⟨i, hi, hp⟩; exact ⟨h.own c i p hi hp, i, hp⟩
  · rintro ⟨rfl, i, hp⟩; exact ⟨i, h.mem i p hp, hp⟩

end Indexes

/-- `Inv` without the distinctness of the live attacks, with the clauses on the two tables as
`Indexes`: the form the preservation proofs work with (`Inv.core` / `Core.inv` convert), and what
a store holding repeated attacks still satisfies (`InvD`, `StoreIccma.lean`) -/
structure Core (s : Store) : Prop where
  rows_from : s.from_.length = s.labels.length
  rows_to : s.to_.length = s.labels.length
  l2i_sound : ∀ l i, (l, i) ∈ s.l2i → s.Live i l
  l2i_complete : ∀ l i, s.Live i l → (l, i) ∈ s.l2i
  label_inj : ∀ i j l, s.Live i l → s.Live j l → i = j
  ends_live : ∀ i a b, s.att i = some (a, b) → s.hasId a = true ∧ s.hasId b = true
  idx_from : Indexes s.att s.attacks.length Prod.fst (row s.from_)
  idx_to : Indexes s.att s.attacks.length Prod.snd (row s.to_)
  cnt_att : s.nRemovedAtt = countNone s.attacks
  cnt_lab : s.nRemoved = countNone s.labels

theorem Inv.core {s : Store} (h : s.Inv) : s.Core :=
  ⟨h.rows_from, h.rows_to, h.l2i_sound, h.l2i_complete, h.label_inj, h.ends_live,
    Indexes.iff_fst.2 ⟨h.in_from, h.from_ok⟩, Indexes.iff_snd.2 ⟨h.in_to, h.to_ok⟩, h.cnt_att, h.cnt_lab⟩

theorem Core.inv {s : Store} (h : s.Core)
    (hn : ∀ i j a b, s.att i = some (a, b) → s.att j = some (a, b) → i = j) : s.Inv :=
  ⟨h.rows_from, h.rows_to, h.l2i_sound, h.l2i_complete, h.label_inj, h.ends_live,
    (Indexes.iff_fst.1 h.idx_from).1, (Indexes.iff_snd.1 h.idx_to).1, (Indexes.iff_fst.1 h.idx_from).2,
    (Indexes.iff_snd.1 h.idx_to).2, h.cnt_att, h.cnt_lab, hn⟩

theorem Core.from_lt {s : Store} (h : s.Core) {a l : Nat} (ha : s.Live a l) : a < s.from_.length :=
  h.rows_from ▸ live_lt ha

theorem Core.to_lt {s : Store} (h : s.Core) {a l : Nat} (ha : s.Live a l) : a < s.to_.length :=
  h.rows_to ▸ live_lt ha

theorem countNone_le {α : Type} (l : List (Option α)) : countNone l ≤ l.length := by
  induction l with
  | nil => exact Nat.le_refl 0
  | cons a t ih =>
    cases a with
    | none => exact Nat.succ_le_succ ih
    | some _ => exact Nat.le_succ_of_le ih

theorem countNone_append {α : Type} (l m : List (Option α)) : countNone (l ++ m) = countNone l + countNone m := by
  induction l with
  | nil => exact (Nat.zero_add _).symm
  | cons a t ih =>
    cases a with
    | none => exact (congrArg (· + 1) ih).trans (Nat.add_right_comm ..)
    | some _ => exact ih

theorem countNone_push {α : Type} (l : List (Option α)) (x : α) : countNone (l ++ [some x]) = countNone l :=
  countNone_append l [some x]

theorem countNone_set_none {α : Type} (l : List (Option α)) (i : Nat) (x : α)
    (h : l.getD i none = some x) : countNone (l.set i none) = countNone l + 1 := by
  induction l generalizing i with
  | nil => cases h
  | cons a t ih =>
    cases i with
    | zero => cases (show a = some x from h); rfl
    | succ k =>
      cases a with
      | none => exact congrArg (· + 1) (ih k h)
      | some _ => exact ih k h

theorem lookup_eq_some {s : Store} (hinv : s.Inv) {l i : Nat} : s.lookup l = some i ↔ s.Live i l := by
  unfold lookup
  rw [Option.map_eq_some_iff]
  constructor
  · rintro ⟨⟨l', i'⟩, hf, rfl⟩
    have hp := List.find?_some hf
    obtain rfl : l' = l := eq_of_beq hp
    exact hinv.l2i_sound _ _ (List.mem_of_find?_eq_some hf)
  · intro h
    cases hf : s.l2i.find? (fun p => p.1 == l) with
    | none => exact absurd (beq_self_eq_true l) (List.find?_eq_none.1 hf (l, i) (hinv.l2i_complete l i h))
    | some p =>
      have hp := List.find?_some hf
      obtain rfl : p.1 = l := eq_of_beq hp
      exact ⟨p, rfl, hinv.label_inj _ _ _ (hinv.l2i_sound _ _ (List.mem_of_find?_eq_some hf)) h⟩

theorem lookup_eq_none {s : Store} (hinv : s.Inv) {l : Nat} : s.lookup l = none ↔ ∀ i, ¬ s.Live i l := by
  rw [Option.eq_none_iff_forall_ne_some]
  exact forall_congr' fun i => not_congr (lookup_eq_some hinv)

theorem getArg_eq_some {s : Store} (hinv : s.Inv) {l i : Nat} : s.getArg l = some i ↔ s.Live i l := by
  unfold getArg
  cases hl : s.lookup l with
  | none => exact ⟨fun h => (nomatch h), fun h => by rw [(lookup_eq_some hinv).2 h] at hl; cases hl⟩
  | some j =>
    have hj := (lookup_eq_some hinv).1 hl
    show (if s.hasId j = true then some j else none) = some i ↔ _
    rw [if_pos (hasId_iff.2 ⟨l, hj⟩), Option.some.injEq]
    exact ⟨fun e => e ▸ hj, fun h => hinv.label_inj _ _ _ hj h⟩

theorem getArg_eq_none {s : Store} (hinv : s.Inv) {l : Nat} : s.getArg l = none ↔ ∀ i, ¬ s.Live i l := by
  rw [Option.eq_none_iff_forall_ne_some]
  exact forall_congr' fun i => not_congr (getArg_eq_some hinv)

theorem inv_empty : Store.empty.Inv := by
  refine Core.inv ⟨rfl, rfl, ?_, ?_, ?_, ?_, .of_none (fun _ => rfl) fun _ => rfl,
    .of_none (fun _ => rfl) fun _ => rfl, rfl, rfl⟩ ?_
  · intro l i h; cases h
  · intro l i h; cases h
  · intro i j l h; cases h
  · intro i a b h; cases h
  · intro i j a b h; cases h

/-- the framework held by a store -/
def g (s : Store) : G := ⟨s.hasId, s.HasAtt⟩

theorem g_wf {s : Store} (hinv : s.Inv) : s.g.WF := by
  intro a b ⟨i, hi⟩
  exact hinv.ends_live i a b hi

theorem g_fin (s : Store) : s.g.Fin :=
  ⟨s.labels.length, fun a ha => by obtain ⟨l, hl⟩ := hasId_iff.1 ha; exact live_lt hl⟩

end Store
end Crusta
