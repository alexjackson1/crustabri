import Crusta.Proofs.Renum
import Crusta.Proofs.Decomp
import Crusta.Proofs.CompAlg
import Crusta.Model.Solvers

/-!
# A good component is, up to renumbering by position, the restricted graph

For `GoodComp g c`, the map `i ↦ c.ids[i]` is a bijection between the positions `{i < c.af.n}` and
the members of `c.ids`, with inverse `c.pos`, and it carries the attacks of `c.af` onto the attacks
of `g.restrict c.memB`.  Sets of positions and sets of original ids correspond through `Comp.up` /
`Comp.down`, and all seven semantics (and the ideal candidates) are transferred: `Comp.ext_iff` is
what the solvers use; the corollaries per semantics and for acceptance of one argument that follow it
are not used further.  (`up_of_pos`, `up_pos_iff` read `Comp.up` through `c.pos`, for any component;
`up_get` through `c.ids[i]?`, for a good one.)
-/

namespace Crusta

def Comp.memB (c : Comp) : Nat → Bool := fun a => c.ids.contains a
/-- a set of positions seen as a set of original ids -/
def Comp.up (c : Comp) (T : ASet) : ASet := fun a => match c.pos a with | some i => T i | none => false
/-- a set of original ids seen as a set of positions -/
def Comp.down (c : Comp) (S : ASet) : ASet := fun i => match c.ids[i]? with | some a => S a | none => false

section
variable {g : G} {c : Comp}

theorem Comp.memB_true (c : Comp) (a : Nat) : c.memB a = true ↔ a ∈ c.ids := by
  simp [Comp.memB]

theorem Comp.get_of_pos {a i : Nat} (h : c.pos a = some i) : c.ids[i]? = some a :=
  posOf_some c.ids a i h

theorem Comp.pos_of_get (hc : GoodComp g c) {a i : Nat} (h : c.ids[i]? = some a) : c.pos a = some i :=
  posOf_nodup c.ids a i hc.nodup h

theorem Comp.pos_none {a : Nat} (h : a ∉ c.ids) : c.pos a = none :=
  posOf_none c.ids a h

theorem Comp.exists_get {a : Nat} (h : a ∈ c.ids) : ∃ i : Nat, c.ids[i]? = some a :=
  List.mem_iff_getElem?.1 h

theorem Comp.mem_of_get {a i : Nat} (h : c.ids[i]? = some a) : a ∈ c.ids :=
  List.mem_of_getElem? h

theorem Comp.lt_of_get (hc : GoodComp g c) {a i : Nat} (h : c.ids[i]? = some a) : i < c.af.n := by
  rw [hc.n_eq]; exact (List.getElem?_eq_some_iff.1 h).1

theorem Comp.get_of_lt (hc : GoodComp g c) {i : Nat} (h : i < c.af.n) : ∃ a, c.ids[i]? = some a := by
  rw [hc.n_eq] at h
  exact ⟨c.ids[i], List.getElem?_eq_getElem h⟩

theorem Comp.get_inj (hc : GoodComp g c) {a i j : Nat} (hi : c.ids[i]? = some a) (hj : c.ids[j]? = some a) :
    i = j := by
  have h1 := Comp.pos_of_get hc hi
  have h2 := Comp.pos_of_get hc hj
  rw [h1] at h2; exact Option.some.inj h2

theorem Comp.up_of_pos (T : ASet) {a i : Nat} (h : c.pos a = some i) : c.up T a = T i := by
  simp [Comp.up, h]

theorem Comp.up_of_not_mem (T : ASet) {a : Nat} (h : a ∉ c.ids) : c.up T a = false := by
  simp [Comp.up, Comp.pos_none h]

theorem Comp.up_pos_iff (c : Comp) (T : ASet) (a : Nat) : c.up T a = true ↔ ∃ i, c.pos a = some i ∧ T i = true := by
  cases h : c.pos a with
  | none => simp [Comp.up, h]
  | some i => simp [Comp.up_of_pos T h]

theorem Comp.up_get (hc : GoodComp g c) (T : ASet) {a i : Nat} (h : c.ids[i]? = some a) : c.up T a = T i :=
  Comp.up_of_pos T (Comp.pos_of_get hc h)

theorem Comp.down_get (S : ASet) {a i : Nat} (h : c.ids[i]? = some a) : c.down S i = S a := by
  simp [Comp.down, h]

theorem Comp.up_sub (c : Comp) (T : ASet) : ∀ a, c.up T a = true → a ∈ c.ids := by
  intro a ha
  by_cases hm : a ∈ c.ids
  · exact hm
  · rw [Comp.up_of_not_mem T hm] at ha; cases ha

theorem Comp.down_sub (hc : GoodComp g c) (S : ASet) : Sub c.af (c.down S) := by
  intro i hi
  cases h : c.ids[i]? with
  | none => simp [Comp.down, h] at hi
  | some a => exact Comp.lt_of_get hc h

theorem Comp.up_down (hc : GoodComp g c) (S : ASet) (hS : ∀ a, S a = true → a ∈ c.ids) :
    c.up (c.down S) = S := by
  funext a
  by_cases hm : a ∈ c.ids
  · obtain ⟨i, hi⟩ := Comp.exists_get hm
    rw [Comp.up_get hc _ hi, Comp.down_get S hi]
  · rw [Comp.up_of_not_mem _ hm]
    cases h : S a with
    | false => rfl
    | true => exact absurd (hS a h) hm

theorem Comp.down_up (hc : GoodComp g c) (T : ASet) (hT : Sub c.af T) : c.down (c.up T) = T := by
  funext i
  cases h : c.ids[i]? with
  | some a => rw [Comp.down_get _ h, Comp.up_get hc T h]
  | none =>
    have h1 : c.down (c.up T) i = false := by simp [Comp.down, h]
    rw [h1]
    cases hTi : T i with
    | false => rfl
    | true =>
      obtain ⟨a, ha⟩ := Comp.get_of_lt hc (hT i hTi)
      rw [h] at ha; cases ha

theorem Comp.exists_down (hc : GoodComp g c) (S : ASet) (hS : ∀ a, S a = true → a ∈ c.ids) :
    ∃ T, Sub c.af T ∧ c.up T = S :=
  ⟨c.down S, Comp.down_sub hc S, Comp.up_down hc S hS⟩

theorem Comp.back_mem (c : Comp) (e : List Nat) : ∀ a ∈ c.back e, a ∈ c.ids := by
  intro a ha
  unfold Comp.back at ha
  obtain ⟨i, _, hi⟩ := List.mem_filterMap.1 ha
  exact Comp.mem_of_get hi

theorem Comp.ofList_back (hc : GoodComp g c) (e : List Nat) : ofList (c.back e) = c.up (ofList e) := by
  funext a
  rw [Bool.eq_iff_iff, Comp.up_pos_iff]
  simp only [ofList, List.contains_iff_mem, Comp.back, List.mem_filterMap]
  constructor
  · rintro ⟨i, hie, hi⟩; exact ⟨i, Comp.pos_of_get hc hi, hie⟩
  · rintro ⟨i, hi, hie⟩; exact ⟨i, hie, Comp.get_of_pos hi⟩

theorem Comp.af_wf (hc : GoodComp g c) : c.af.WF := by
  rintro ⟨i, j⟩ hp
  obtain ⟨a, b, ha, hb, _⟩ := (hc.atts i j).1 hp
  exact ⟨Comp.lt_of_get hc ha, Comp.lt_of_get hc hb⟩

theorem Comp.live_restrict (hc : GoodComp g c) (a : Nat) : (g.restrict c.memB).live a = true ↔ a ∈ c.ids := by
  simp only [G.restrict, Bool.and_eq_true, Comp.memB_true]
  exact ⟨fun h => h.2, fun h => ⟨hc.live a h, h⟩⟩

theorem Comp.att_iff (hc : GoodComp g c) {i j a b : Nat} (hi : c.ids[i]? = some a) (hj : c.ids[j]? = some b) :
    (i, j) ∈ c.af.atts ↔ (g.restrict c.memB).att a b := by
  constructor
  · intro h
    obtain ⟨a', b', ha', hb', hab⟩ := (hc.atts i j).1 h
    rw [hi] at ha'; rw [hj] at hb'; cases ha'; cases hb'
    exact ⟨hab, (c.memB_true a).2 (Comp.mem_of_get hi), (c.memB_true b).2 (Comp.mem_of_get hj)⟩
  · rintro ⟨hab, _, _⟩
    exact (hc.atts i j).2 ⟨a, b, hi, hj, hab⟩

/-- position `i` ↦ `c.ids[i]`, id `a` ↦ `c.pos a` -/
def Comp.renum (c : Comp) : Renum :=
  ⟨fun i => decide (i < c.af.n), c.memB, fun i => c.ids.getD i 0, fun a => (c.pos a).getD 0⟩

theorem Comp.f_eq {a i : Nat} (h : c.ids[i]? = some a) : c.renum.f i = a := by
  show c.ids.getD i 0 = a
  rw [List.getD_eq_getElem?_getD, h]; rfl

theorem Comp.get_f (hc : GoodComp g c) {i : Nat} (h : c.renum.D i = true) : c.ids[i]? = some (c.renum.f i) := by
  obtain ⟨a, ha⟩ := Comp.get_of_lt hc (of_decide_eq_true h)
  rw [Comp.f_eq ha]; exact ha

theorem Comp.get_f' (hc : GoodComp g c) {a : Nat} (h : c.renum.D' a = true) : c.ids[c.renum.f' a]? = some a := by
  obtain ⟨i, hi⟩ := Comp.exists_get ((c.memB_true a).1 h)
  show c.ids[(c.pos a).getD 0]? = some a
  rw [Comp.pos_of_get hc hi]; exact hi

theorem Comp.iso (hc : GoodComp g c) : c.renum.Iso c.af.g (g.restrict c.memB) where
  map i hi := (c.memB_true _).2 (Comp.mem_of_get (Comp.get_f hc hi))
  map' a ha := decide_eq_true (Comp.lt_of_get hc (Comp.get_f' hc ha))
  l i hi := by
    show (c.pos (c.renum.f i)).getD 0 = i
    rw [Comp.pos_of_get hc (Comp.get_f hc hi)]; rfl
  r a ha := Comp.f_eq (Comp.get_f' hc ha)
  live i hi := ((Comp.live_restrict hc _).2 (Comp.mem_of_get (Comp.get_f hc hi))).trans hi.symm
  att i j hi hj := (Comp.att_iff hc (Comp.get_f hc hi) (Comp.get_f hc hj)).symm
  live_dom _ h := h
  live_dom' _ h := (Bool.and_eq_true_iff.1 h).2
  att_dom i j h := ⟨decide_eq_true (Comp.af_wf hc _ h).1, decide_eq_true (Comp.af_wf hc _ h).2⟩
  att_dom' _ _ h := h.2

theorem Comp.up_f (hc : GoodComp g c) (T : ASet) (i : Nat) (hi : c.renum.D i = true) :
    c.up T (c.renum.f i) = T i :=
  Comp.up_get hc T (Comp.get_f hc hi)

theorem Comp.corr_up (hc : GoodComp g c) {T : ASet} (hT : Sub c.af T) : c.renum.Corr T (c.up T) where
  dom i hi := decide_eq_true (hT i hi)
  dom' a ha := (c.memB_true a).2 (Comp.up_sub c T a ha)
  eq := Comp.up_f hc T

theorem Comp.corr_get (hc : GoodComp g c) {S S' : ASet} (cr : c.renum.Corr S S') {a i : Nat}
    (hi : c.ids[i]? = some a) : S i = true ↔ S' a = true := by
  rw [← Comp.f_eq hi, cr.eq i (decide_eq_true (Comp.lt_of_get hc hi))]

theorem Comp.idealCand_iff (hc : GoodComp g c) (T : ASet) (hT : Sub c.af T) :
    IdealCand c.af T ↔ (g.restrict c.memB).IdealCand (c.up T) :=
  (c.af.g_idealCand T).symm.trans ((Comp.iso hc).transfer_idealCand.iff _ _ (Comp.corr_up hc hT))

theorem Comp.renum_ext (hc : GoodComp g c) (σ : Sem) :
    c.renum.Transfer (σ.Ext c.af) ((g.restrict c.memB).Ext σ) :=
  c.af.g_ext_eq σ ▸ (Comp.iso hc).transfer_ext σ

theorem Comp.ext_iff (hc : GoodComp g c) (σ : Sem) (T : ASet) (hT : Sub c.af T) :
    σ.Ext c.af T ↔ (g.restrict c.memB).Ext σ (c.up T) :=
  (Comp.renum_ext hc σ).iff _ _ (Comp.corr_up hc hT)

theorem Comp.preferred_iff (hc : GoodComp g c) (T : ASet) (hT : Sub c.af T) :
    Preferred c.af T ↔ (g.restrict c.memB).Preferred (c.up T) :=
  Comp.ext_iff hc .PR T hT

theorem Comp.grounded_iff (hc : GoodComp g c) (T : ASet) (hT : Sub c.af T) :
    Grounded c.af T ↔ (g.restrict c.memB).Grounded (c.up T) :=
  Comp.ext_iff hc .GR T hT

theorem Comp.semistable_iff (hc : GoodComp g c) (T : ASet) (hT : Sub c.af T) :
    SemiStable c.af T ↔ (g.restrict c.memB).SemiStable (c.up T) :=
  Comp.ext_iff hc .SST T hT

theorem Comp.stage_iff (hc : GoodComp g c) (T : ASet) (hT : Sub c.af T) :
    Stage c.af T ↔ (g.restrict c.memB).Stage (c.up T) :=
  Comp.ext_iff hc .STG T hT

theorem Comp.ideal_iff (hc : GoodComp g c) (T : ASet) (hT : Sub c.af T) :
    Ideal c.af T ↔ (g.restrict c.memB).Ideal (c.up T) :=
  Comp.ext_iff hc .ID T hT

theorem Comp.cred_iff (hc : GoodComp g c) (σ : Sem) {a i : Nat} (hi : c.ids[i]? = some a) :
    (∃ T, σ.Ext c.af T ∧ T i = true) ↔ (∃ S, (g.restrict c.memB).Ext σ S ∧ S a = true) :=
  (Comp.renum_ext hc σ).exists_iff (Comp.iso hc) fun _ _ cr => Comp.corr_get hc cr hi

theorem Comp.skep_iff (hc : GoodComp g c) (σ : Sem) {a i : Nat} (hi : c.ids[i]? = some a) :
    (∀ T, σ.Ext c.af T → T i = true) ↔ (∀ S, (g.restrict c.memB).Ext σ S → S a = true) :=
  (Comp.renum_ext hc σ).forall_iff (Comp.iso hc) fun _ _ cr => Comp.corr_get hc cr hi

theorem Comp.ext_cred_iff (hc : GoodComp g c) (σ : Sem) (i : Nat) (hi : i < c.ids.length) :
    (∃ T, σ.Ext c.af T ∧ T i = true) ↔ (∃ S, (g.restrict c.memB).Ext σ S ∧ S (c.ids[i]) = true) :=
  Comp.cred_iff hc σ (List.getElem?_eq_getElem hi)

theorem Comp.ext_skep_iff (hc : GoodComp g c) (σ : Sem) (i : Nat) (hi : i < c.ids.length) :
    (∀ T, σ.Ext c.af T → T i = true) ↔ (∀ S, (g.restrict c.memB).Ext σ S → S (c.ids[i]) = true) :=
  Comp.skep_iff hc σ (List.getElem?_eq_getElem hi)

theorem Comp.ext_cred_pos_iff (hc : GoodComp g c) (σ : Sem) {a i : Nat} (h : c.pos a = some i) :
    (∃ T, σ.Ext c.af T ∧ T i = true) ↔ (∃ S, (g.restrict c.memB).Ext σ S ∧ S a = true) :=
  Comp.cred_iff hc σ (Comp.get_of_pos h)

theorem Comp.ext_skep_pos_iff (hc : GoodComp g c) (σ : Sem) {a i : Nat} (h : c.pos a = some i) :
    (∀ T, σ.Ext c.af T → T i = true) ↔ (∀ S, (g.restrict c.memB).Ext σ S → S a = true) :=
  Comp.skep_iff hc σ (Comp.get_of_pos h)

theorem Comp.ext_back_iff (hc : GoodComp g c) (σ : Sem) (e : List Nat) (he : ∀ i ∈ e, i < c.af.n) :
    σ.Ext c.af (ofList e) ↔ (g.restrict c.memB).Ext σ (ofList (c.back e)) := by
  rw [Comp.ofList_back hc e]
  exact Comp.ext_iff hc σ (ofList e) (fun i hi => he i (by simpa [ofList] using hi))

end

end Crusta
