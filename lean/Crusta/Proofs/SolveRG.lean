import Crusta.Proofs.SolvePR

/-!
# Semi-stable / stage semantics on one component: `compute_maximal` and the acceptance loop of the
range-based `MaximalExtensionComputer`

The key of a range computer is the set of range variables that are true in the last model (the real
range of the grounded extension before the first model).  For the exp / hybrid encodings it is only
known to lie inside the range of the current set; at a maximal key the two agree.
`Den.of_encoded_range` says what the solver means when the computer is created; everything else is the
search layer (`SearchMEC`).

A search makes at most `n + 2` calls (the key strictly grows at every SAT reply; the call that started
it and the acceptance check at its end included), the ends of the searches are pairwise different
members of the family, one last UNSAT call ends the enumeration: `(n + 2)·|base| + 1` calls.
-/

namespace Crusta
open Prog (mkSolver addClause getNVars doSolve)
open Search

theorem wit_check (cred : Bool) (pos cur : List Nat) :
    ((cred && pos.any cur.contains) || (!cred && pos.all (fun a => !cur.contains a))) = true ↔
      WitL cred pos (ofList cur) := by
  cases cred with
  | true =>
    rw [wit_true, ← hitsL_any]
    simp only [Bool.true_and, Bool.not_true, Bool.false_and, Bool.or_false]
  | false =>
    rw [wit_false, ← hitsL_any]
    simp only [Bool.false_and, Bool.not_false, Bool.true_and, Bool.false_or, List.all_eq_true, List.any_eq_true,
      Bool.not_eq_true', not_exists, not_and, Bool.not_eq_true]

theorem RangeMax.of_rangeSub {af : AF} {Bs : ASet → Prop} {S T : ASet} (hS : RangeMax af Bs S) (hT : Bs T)
    (h : RangeSub af S T) : RangeMax af Bs T :=
  ⟨hT, fun U hU hTU a ha => h a (hS.2 U hU (fun a ha => hTU a (h a ha)) a ha)⟩

theorem rangeMax_of_keyMax {af : AF} (hwf : af.WF) {B : ASet → Prop} (hsub : ∀ T, B T → Sub af T) {key : Nat → Bool}
    {e : List Nat} (hmax : KeyMax af.n B (InRange af) key) (hks : Above af.n (InRange af) key (ofList e))
    (hB : B (ofList e)) : RangeMax af B (ofList e) :=
  ⟨hB, fun T hT hST a hTa => hmax.max hks hT (fun a _ ha => hST a ha) a (inRange_lt' hwf (hsub T hT) hTa) hTa⟩

theorem outside_lt_of_mem (n : Nat) (R : Nat → Bool) {a : Nat} (ha : a < n) (hR : R a = true) :
    outside n R + 1 ≤ n :=
  Nat.lt_of_lt_of_le (outside_lt (S := fun _ => false) (fun _ _ h => nomatch h) ⟨a, ha, rfl, hR⟩) (outside_le n _)

abbrev rgMEC (af : AF) (enc : EncKind) (s sel : Nat) : MEC := MEC.init af enc s sel .range

abbrev rgSys (af : AF) (enc : EncKind) (s sel : Nat) : Sys MEC :=
  MEC.asSys (enc.Base af) (enc.Base af) (InRange af) (rgMEC af enc s sel)

theorem Den.of_encoded_range {enc : EncKind} {af : AF} {s : Nat} {w : World} (henc : Encoded enc af s true w)
    (hwf : af.WF) (hk : RangeEnc enc) :
    Den (enc.Base af) (InRange af) (rgMEC af enc s (w.nVarsOf s + 1)) (w.onNVars s) [] ∧
      VarsBelow (rgMEC af enc s (w.nVarsOf s + 1)) (w.onNVars s) := by
  have hdb : ∀ ν, cnfTrue ν (w.db s) = cnfTrue ν (enc.clausesRange af) := henc.cnfTrue_db
  refine Den.of_new henc.bounded henc.exists_ (fun ν hν => enc.rsound hk af hwf ν ((hdb ν).symm.trans hν))
    (fun T hT => ?_) (fun a ha => (henc.rvars_le hk ha).1) (fun a ha => (henc.rvars_le hk ha).2) (fun mdl ht a ha => ?_)
  · obtain ⟨ν, hν, hS, hR⟩ := enc.rcomplete hk af hwf T hT
    exact ⟨ν, (hdb ν).trans hν, hS, hR⟩
  · apply inRModel_eq ht
    obtain ⟨c, hc, l, hl, hv⟩ := enc.rv_occurs hk af ha
    exact ⟨c, by rw [henc.db]; exact List.mem_reverse.2 hc, l, hl, hv⟩

theorem wp_rgSetup {C : Prop} {α : Type} (cfg : Cfg) (hk : RangeEnc cfg.enc) (c : Comp) (hwf : c.af.WF) (w : World)
    (hb : w.Bounded) (f : MEC → Prog α) (Q : α → World → Prop)
    (h : ∀ s sel w', Den (cfg.enc.Base c.af) (InRange c.af) (rgMEC c.af cfg.enc s sel) w' [] →
      VarsBelow (rgMEC c.af cfg.enc s sel) w' → w'.calls = w.calls → wp C (f (rgMEC c.af cfg.enc s sel)) w' Q) :
    wp C (do
      let s ← mkSolver
      encodeInto cfg.enc c.af s true
      let m ← MEC.new c.af cfg.enc s .range
      f m) w Q := by
  rw [wp_bind', wp_mkSolver, wp_bind']
  refine wp_mono _ _ _ _ ?_ (wp_encodeInto_onNew cfg.enc c.af true w hb)
  rintro _ w1 ⟨henc, hc1⟩
  rw [wp_bind', wp_MEC_new_iff]
  obtain ⟨hD, hV⟩ := Den.of_encoded_range henc hwf hk
  exact h _ _ _ hD hV hc1

-- `wp` is used through its rules only (see `MEC.asSys` in `SearchMEC.lean`)
attribute [local irreducible] wp

/-- **SE-SST / SE-STG on one component**, within `n + 1` SAT calls -/
theorem rgMaximalOfComp_spec (cfg : Cfg) (hk : RangeEnc cfg.enc) (c : Comp) (hwf : c.af.WF)
    (hgr : GrOK c.af) (w : World) (hb : w.Bounded) :
    wp (cfg.fuel < c.af.n + 3) (rgMaximalOfComp cfg c) w (fun res w' => w'.calls ≤ w.calls + c.af.n + 1 ∧
      ∃ e, res = c.back e ∧ RangeMax c.af (cfg.enc.Base c.af) (ofList e) ∧ ∀ a ∈ e, a < c.af.n) := by
  have hfuel := Nat.lt_or_ge cfg.fuel (c.af.n + 3)
  -- the crash condition as an opaque `C`: the case split on `cfg.fuel` below must not rewrite it
  generalize (cfg.fuel < c.af.n + 3) = C at hfuel ⊢
  unfold rgMaximalOfComp
  apply wp_rgSetup cfg hk c hwf w hb
  intro s sel w2 hD _ hcal
  rw [wp_bind']
  cases hfu : cfg.fuel with
  | zero => exact (wp_crash _ _ _).2 (hfuel.resolve_right (by omega))
  | succ fuel =>
    rw [computeMaximal_init rfl]
    refine wp_mono _ _ _ _ ?_ (wp_growMax (MEC.asSys_grow_all rfl) fuel (c.af.n + 1) _ w2 [] rfl
      ⟨MEC.same_upd _ _ _ _, hD, fun h => nomatch h⟩
      ⟨cfg.enc.Base_of_complete hk hgr.1, hgr.2.1, fun a _ h => (inRCur_spec _ _ _).1 h⟩
      (fun _ h => nomatch h) (Nat.succ_le_succ (outside_le _ _)) (hfuel.imp_right (by omega)))
    rintro e w3 ⟨⟨h1, h2, key, hks, hmax⟩, h3⟩
    exact (wp_pure _ _ _).2 ⟨by omega, e, rfl,
      rangeMax_of_keyMax hwf (fun _ hT => cfg.enc.Base_sub hT) hmax hks h1, h2⟩

def RgOK (af : AF) (Bs : ASet → Prop) (pos : List Nat) (cred : Bool) (res : Bool × Option (List Nat)) : Prop :=
  (res.1 = cred → ∃ e, res.2 = some e ∧ RangeMax af Bs (ofList e) ∧ WitL cred pos (ofList e) ∧ ∀ a ∈ e, a < af.n) ∧
  (res.1 = (!cred) → res.2 = none ∧ ∀ T, RangeMax af Bs T → ¬ WitL cred pos T)

theorem RgOK.witness {af : AF} {Bs : ASet → Prop} {pos : List Nat} {cred : Bool} {e : List Nat}
    (hrm : RangeMax af Bs (ofList e)) (hw : WitL cred pos (ofList e)) (hlt : ∀ a ∈ e, a < af.n) :
    RgOK af Bs pos cred (cred, some e) :=
  ⟨fun _ => ⟨e, rfl, hrm, hw, hlt⟩, fun hf => absurd (show cred = !cred from hf) (by cases cred <;> decide)⟩

theorem RgOK.none {af : AF} {Bs : ASet → Prop} {pos : List Nat} {cred : Bool}
    (h : ∀ T, RangeMax af Bs T → ¬ WitL cred pos T) : RgOK af Bs pos cred (!cred, none) :=
  ⟨fun hf => absurd (show cred = !cred from hf.symm) (by cases cred <;> decide), fun _ => ⟨rfl, h⟩⟩

/-- `T` is no witness (once the queried positions are known to lie in the component) -/
def AccP (af : AF) (cred : Bool) (pos : List Nat) (T : ASet) : Prop := (∀ p ∈ pos, p < af.n) → ¬ WitL cred pos T

/-- the reported key `Fk` is the range of a member none of whose range-equivalents is a witness -/
def Checked (af : AF) (Bs : ASet → Prop) (cred : Bool) (pos : List Nat) (Fk : Nat → Bool) : Prop :=
  ∃ D, Bs D ∧ (∀ a, a < af.n → (InRange af D a ↔ Fk a = true)) ∧
    ∀ T, Bs T → RangeSub af T D → RangeSub af D T → AccP af cred pos T

/-- the states in which the loop starts an iteration: the reported keys have passed the acceptance
check, `found` counts the ends of the searches, and the budget pays the remaining increase steps, the
UNSAT call that ends the search and its acceptance check -/
def AccHead (af : AF) (enc : EncKind) (s sel c0 : Nat) (cred : Bool) (pos : List Nat) (found : List (List Nat))
    (m : MEC) (w : World) : Prop :=
  VarsBelow (rgMEC af enc s sel) w ∧ ∃ fk bl, (rgSys af enc s sel).EHead fk m w bl ∧
    (∀ Fk ∈ fk, Checked af (enc.Base af) cred pos Fk) ∧ Cnt af.n (enc.Base af) (InRange af) bl found ∧
    ((m.state = .intermediate ∧ w.calls + outside af.n m.key + 2 ≤ c0 + (af.n + 2) * (found.length + 1)) ∨
     (m.state = .maximal ∧ w.calls ≤ c0 + (af.n + 2) * found.length))

theorem AccHead.budget {af : AF} {enc : EncKind} {s sel c0 : Nat} {cred : Bool} {pos : List Nat}
    {found : List (List Nat)} {m : MEC} {w : World} (h : AccHead af enc s sel c0 cred pos found m w) {N : Nat}
    (hN : Bound (enc.Base af) N) :
    w.calls ≤ c0 + (af.n + 2) * N ∧ (af.n + 2) * found.length ≤ (af.n + 2) * N := by
  obtain ⟨_, fk, bl, ⟨_, hI, hcase'⟩, _, hcnt, ⟨hst, hbud⟩ | ⟨_, hbud⟩⟩ := h
  · have hMem : (rgSys af enc s sel).Member m :=
      hcase'.elim (fun h => h.2) (fun h => absurd (hst.symm.trans h.1) (by nofun))
    have hlen : found.length + 1 ≤ N := hcnt.len_lt hN (hI.fresh hst) hMem.2.2 hMem.1
    have h1 := Nat.mul_le_mul_left (af.n + 2) hlen
    have h2 := Nat.mul_le_mul_left (af.n + 2) (Nat.le_add_right found.length 1)
    exact ⟨Nat.le_trans (Nat.le_trans (Nat.le_trans (Nat.le_add_right _ _) (Nat.le_add_right _ _)) hbud)
      (Nat.add_le_add_left h1 c0), Nat.le_trans h2 h1⟩
  · have := Nat.mul_le_mul_left (af.n + 2) (hcnt.len_le hN)
    exact ⟨Nat.le_trans hbud (Nat.add_le_add_left this c0), this⟩

/-- the `.maximal` branch of `rgAccLoop`, word for word, with the recursive call replaced by `k`: the
acceptance check of a maximal candidate `m` -/
def rgAccCheck (cred : Bool) (pos : List Nat) (m : MEC) (k : Prog (Bool × Option (List Nat))) :
    Prog (Bool × Option (List Nat)) :=
  if (cred && pos.any m.cur.contains) || (!cred && pos.all (fun a => !m.cur.contains a)) then do
    m.drop
    pure (cred, some m.cur)
  else do
    let (inR, notR) := splitInRange m
    let base := inR ++ notR.map Lit.neg ++ [pl m.sel]
    if cred then do
      let nv ← getNVars m.sid
      let sel' := nv + 1
      addClause m.sid (pos.map (argLit m.enc) ++ [nl sel'])
      let r ← doSolve m.sid (base ++ [pl sel'])
      addClause m.sid [nl sel']
      match r with
      | some mdl => do
        m.drop
        pure (cred, some (m.enc.decode m.af.n mdl))
      | none => k
    else do
      match ← doSolve m.sid (base ++ pos.map (fun a => (argLit m.enc a).neg)) with
      | some mdl => do
        m.drop
        pure (cred, some (m.enc.decode m.af.n mdl))
      | none => k

theorem rgAccLoop_succ (cred : Bool) (pos : List Nat) (fuel : Nat) (m : MEC) :
    rgAccLoop cred pos (fuel + 1) m = (do
      let m ← m.computeNext
      match m.state with
      | .maximal => rgAccCheck cred pos m (rgAccLoop cred pos fuel m)
      | .none => do
        m.drop
        pure (!cred, none)
      | _ => rgAccLoop cred pos fuel m) := rfl

abbrev AccPost (af : AF) (enc : EncKind) (B : Nat) (cred : Bool) (pos : List Nat)
    (res : Bool × Option (List Nat)) (w' : World) : Prop :=
  w'.calls ≤ B ∧ ((∀ p ∈ pos, p < af.n) → RgOK af (enc.Base af) pos cred res)

/-- **the acceptance check** of a range-maximal candidate whose key is its range: a witness among its
range-equivalents is returned, or the rest of the loop runs knowing that there is none -/
theorem wp_rgAccCheck {C : Prop} (cred : Bool) (pos : List Nat) {af : AF} {enc : EncKind} (hwf : af.WF) (s sel : Nat)
    {m : MEC} {w : World} {bl : List (Nat → Bool)} {B : Nat} (hs : (rgMEC af enc s sel).Same m)
    (hD : Den (enc.Base af) (InRange af) (rgMEC af enc s sel) w bl) (hbl : bl ≠ [])
    (hV : VarsBelow (rgMEC af enc s sel) w) (hlt : ∀ a ∈ m.cur, a < af.n)
    (hks : Above af.n (InRange af) m.key (ofList m.cur)) (hex : In af.n (InRange af) (ofList m.cur) m.key)
    (hrm : RangeMax af (enc.Base af) (ofList m.cur)) (hK : w.calls + 1 ≤ B) (k : Prog (Bool × Option (List Nat)))
    (hno : ∀ w2 : World, Den (enc.Base af) (InRange af) (rgMEC af enc s sel) w2 bl → VarsBelow (rgMEC af enc s sel) w2 →
      w2.calls = w.calls + 1 →
      (∀ T, enc.Base af T → RangeSub af T (ofList m.cur) → RangeSub af (ofList m.cur) T → AccP af cred pos T) →
      wp C k w2 (AccPost af enc B cred pos)) :
    wp C (rgAccCheck cred pos m k) w (AccPost af enc B cred pos) := by
  have hkind : m.kind = .range := hs.kind
  have hdec : ∀ mdl, m.enc.decode m.af.n mdl = enc.decode af.n mdl := hs.decode
  -- a member whose range contains the key is range-maximal too
  have hsat : ∀ mdl : Model, enc.Base af (ofList (enc.decode af.n mdl)) →
      Above af.n (InRange af) m.key (ofList (enc.decode af.n mdl)) →
      RangeMax af (enc.Base af) (ofList (enc.decode af.n mdl)) := by
    intro mdl hB hRK
    refine hrm.of_rangeSub hB fun a ha => ?_
    have han : a < af.n := inRange_lt' hwf (enc.Base_sub hrm.1) ha
    exact hRK a han (hex a han ha)
  -- a range-equivalent `T` has the key as its range: what the UNSAT reply speaks of
  have hequiv : ∀ T, RangeSub af T (ofList m.cur) → RangeSub af (ofList m.cur) T →
      ∀ a, a < af.n → (InRange af T a ↔ m.key a = true) :=
    fun T hTc hcT a ha => ⟨fun h => hex a ha (hTc a h), fun h => hcT a (hks a ha h)⟩
  unfold rgAccCheck
  by_cases hw : ((cred && pos.any m.cur.contains) || (!cred && pos.all (fun a => !m.cur.contains a))) = true
  · rw [if_pos hw, wp_bind', wp_drop]
    exact (wp_pure _ _ _).2 ⟨Nat.le_of_succ_le hK, fun _ =>
      RgOK.witness hrm ((wit_check _ _ _).1 hw) hlt⟩
  · rw [if_neg hw]
    cases cred with
    | true =>
      simp only [splitInRange_eq_k hkind, ↓reduceIte, hdec]
      rw [wp_bind', wp_getNVars, wp_bind', wp_addClause1, wp_bind']
      have hV0 : VarsBelow (rgMEC af enc s sel) (w.onNVars m.sid) := hV.step (.nVars _ _)
      have hD0 : Den (enc.Base af) (InRange af) (rgMEC af enc s sel) (w.onNVars m.sid) bl :=
        hD.congr_db (db_onNVars _ _ _)
      obtain ⟨hfresh, hsel, harg, hkv⟩ := hV0.new_sel hD0 hbl
      have hsid : m.sid = s := hs.sid
      rw [nVarsOf_onNVars, ← hsid] at hfresh hsel harg hkv
      generalize w.nVarsOf m.sid + 1 = sel' at hfresh hsel harg hkv ⊢
      apply wp_askExactHit hD0 hs m.key pos sel' (hsid ▸ hfresh) hsel harg hkv (db_onClause_same _ _ _)
      · intro mdl w2 _ hdb hcal2 hB hlt2 hRK hhit
        rw [wp_bind', wp_addClause1]
        show wp C (m.drop >>= _) _ _
        rw [wp_bind', wp_drop]
        refine (wp_pure _ _ _).2
          ⟨by show w2.calls ≤ _; rw [hcal2]; exact hK, fun hpos' =>
            RgOK.witness (hsat mdl hB hRK) (wit_true.2 (hhit hpos')) hlt2⟩
      · intro w2 hstep hdb hcal2 hun
        rw [wp_bind', wp_addClause1]
        refine hno _ (hD0.guard sel' [[nl sel'], hitClause enc pos sel'] ?_ ?_ (hsid ▸ hfresh) hsel harg hkv)
          (((hV0.step (.clause _ _ _)).step hstep).step (.clause _ _ _)) hcal2 ?_
        · have hdb' := hdb
          rw [hsid, hs.enc] at hdb'
          show (w2.onClause m.sid [nl sel']).db s = _
          rw [hsid, db_onClause_same]
          exact congrArg _ (hdb'.trans (db_onClause_same _ _ _))
        · intro c hc
          simp only [List.mem_cons, List.not_mem_nil, or_false] at hc
          rcases hc with rfl | rfl <;> simp [hitClause]
        · intro T hT hTc hcT hpos' hwit
          exact hun hpos' T hT (hequiv T hTc hcT) (wit_true.1 hwit)
    | false =>
      simp only [splitInRange_eq_k hkind, Bool.false_eq_true, ↓reduceIte, hdec]
      rw [wp_bind']
      apply wp_askExact hD hs
      · intro mdl w2 _ hD2 hcal2 hB hlt2 hRK hextra
        show wp C (m.drop >>= _) _ _
        rw [wp_bind', wp_drop]
        refine (wp_pure _ _ _).2
          ⟨by show w2.calls ≤ _; rw [hcal2]; exact hK, fun hpos' =>
            RgOK.witness (hsat mdl hB hRK) (wit_false.2 ?_) hlt2⟩
        rintro ⟨p, hp, hSp⟩
        have := (assumpsTrue_map _ _ _).1 hextra p hp
        rw [enc.ofList_decode, enc.S_lt (hpos' p hp)] at hSp
        rw [hs.enc] at this
        simp [argLit, hSp] at this
      · intro w2 hstep hD2 hcal2 hun
        refine hno _ hD2 (hV.step hstep) hcal2 ?_
        intro T hT hTc hcT hpos' hwit
        apply hun T hT (hequiv T hTc hcT)
        intro ν hSν
        refine (assumpsTrue_map _ _ _).2 fun p hp => ?_
        have hTp : T p = false := by
          cases hh : T p with
          | false => rfl
          | true => exact absurd ⟨p, hp, hh⟩ (wit_false.1 hwit)
        have hSν' : enc.S af ν = T := hSν
        rw [← hSν', enc.S_lt (hpos' p hp)] at hTp
        rw [hs.enc]
        simp [argLit, hTp]

/-! the call budget of the loop, step by step: `a` calls so far, `o` positions outside the key -/

theorem rgBud_grow {a o o' R : Nat} (h : a + o + 2 ≤ R) (ho : o' + 1 ≤ o) : a + 1 + o' + 2 ≤ R :=
  Nat.le_trans (Nat.add_le_add_right
    (Nat.le_trans (Nat.le_of_eq (Nat.add_right_comm a 1 o')) (Nat.add_le_add_left ho a)) 2) h

theorem rgBud_new {a o' n c0 f : Nat} (h : a ≤ c0 + (n + 2) * f) (ho : o' + 1 ≤ n) :
    a + 1 + o' + 2 ≤ c0 + (n + 2) * (f + 1) := by
  rw [Nat.mul_succ, ← Nat.add_assoc]
  exact Nat.le_trans (Nat.add_le_add_right
    (Nat.le_trans (Nat.le_of_eq (Nat.add_right_comm a 1 o')) (Nat.add_le_add_left ho a)) 2)
    (Nat.add_le_add_right h (n + 2))

theorem rgBud_rec {a o R : Nat} (h : a + o + 2 ≤ R) : a + 1 + 1 ≤ R :=
  Nat.le_trans (Nat.add_le_add_right (Nat.le_add_right a o) 2) h

theorem rgBud_end {a c0 M' M : Nat} (h : a ≤ c0 + M') (hM : M' ≤ M) : a + 1 ≤ c0 + M + 1 :=
  Nat.succ_le_succ (Nat.le_trans h (Nat.add_le_add_left hM c0))

/-- **one iteration of the acceptance loop**: an answer, or a head state again, a call later; `hrec` is
the rest of the loop -/
theorem wp_rgAccIter {C : Prop} (cred : Bool) (pos : List Nat) (c0 : Nat) {af : AF} {enc : EncKind}
    (hwf : af.WF) (s sel : Nat) {N : Nat} (hN : Bound (enc.Base af) N) (fuel : Nat)
    {m : MEC} {w : World} {found : List (List Nat)} (h : AccHead af enc s sel c0 cred pos found m w)
    (hrec : ∀ m' w' found', AccHead af enc s sel c0 cred pos found' m' w' → w'.calls ≥ w.calls + 1 →
      wp C (rgAccLoop cred pos fuel m') w' (AccPost af enc (c0 + (af.n + 2) * N + 1) cred pos)) :
    wp C (rgAccLoop cred pos (fuel + 1) m) w (AccPost af enc (c0 + (af.n + 2) * N + 1) cred pos) := by
  have hmulf := (h.budget hN).2
  obtain ⟨hV, fk, bl, hE, hchk, hcnt, hcase⟩ := h
  rw [rgAccLoop_succ, wp_bind']
  refine wp_mono _ _ _ _ ?_ (wp_varsBelow _ _ _ hV (Sys.wp_enext (MEC.asSys_grow_all rfl) MEC.asSys_max hE))
  rintro m' w' ⟨hV', hcal', hnext⟩
  simp only [MEC.asSys_st, MEC.asSys_cur, MEC.asSys_key] at hcal' hnext
  rcases hnext with ⟨hst', hsubk, hfr', hE'⟩ | ⟨hst', hstm, hcur, hkey, hmax, hE'⟩ | ⟨hst', hstm, _, hall⟩
  · -- the search goes on
    rw [hst']
    refine hrec m' w' found ⟨hV', fk, _, hE', hchk, hcnt.mono fun B hB => List.mem_cons_of_mem _ hB,
      Or.inl ⟨hst', ?_⟩⟩ (Nat.le_of_eq hcal'.symm)
    rw [hcal']
    rcases hcase with ⟨hst, hbud⟩ | ⟨_, hbud⟩
    · exact rgBud_grow hbud (outside_lt (hsubk hst) (hfr' _ List.mem_cons_self))
    · obtain ⟨a, ha, _, hRa⟩ := hfr' _ List.mem_cons_self
      exact rgBud_new hbud (outside_lt_of_mem af.n m'.key ha hRa)
  · -- the end of a search: the acceptance check
    have hbud : w.calls + outside af.n m.key + 2 ≤ c0 + (af.n + 2) * (found.length + 1) :=
      hcase.elim (fun h => h.2) (fun h => absurd (hstm.symm.trans h.1) (by nofun))
    obtain ⟨hF, hlt, hks⟩ : (rgSys af enc s sel).Member m :=
      hE.2.2.elim (fun h => h.2) (fun h => absurd (hstm.symm.trans h.1) (by nofun))
    have hex : In af.n (InRange af) (ofList m.cur) m.key := hmax _ hF hks
    have hcnt' : Cnt af.n (enc.Base af) (InRange af) (m.key :: bl) (m.cur :: found) :=
      hcnt.push (hE.2.1.fresh hstm) hks hF hex
    have hK : w'.calls + 1 ≤ c0 + (af.n + 2) * N + 1 :=
      hcal' ▸ rgBud_end (Nat.le_of_succ_le (rgBud_rec hbud)) (Nat.mul_le_mul_left (af.n + 2) (hcnt'.len_le hN))
    obtain ⟨⟨hs', hD', _⟩, hI', hhd'⟩ := hE'
    rw [hst']
    refine wp_rgAccCheck cred pos hwf s sel hs' hD' (List.cons_ne_nil _ _) hV' (hcur ▸ hlt)
      (hcur ▸ hkey ▸ hks) (hcur ▸ hkey ▸ hex)
      (hcur ▸ rangeMax_of_keyMax hwf (fun _ hT => enc.Base_sub hT) hmax hks hF) hK _ fun w2 hD2 hV2 hcal2 hc => ?_
    rw [hcur] at hc
    refine hrec m' w2 (m.cur :: found) ⟨hV2, m.key :: fk, m.key :: bl,
      ⟨⟨hs', hD2, fun h => nomatch (hst'.symm.trans h)⟩, hI', hhd'⟩,
      List.forall_mem_cons.2 ⟨⟨_, hF, fun a ha => ⟨hex a ha, hks a ha⟩, hc⟩, hchk⟩, hcnt',
      Or.inr ⟨hst', ?_⟩⟩ (hcal2 ▸ hcal' ▸ Nat.le_succ_of_le (Nat.le_refl _))
    rw [hcal2, hcal']
    exact rgBud_rec hbud
  · -- none: every range-maximal member has been examined
    have hbud : w.calls ≤ c0 + (af.n + 2) * found.length :=
      hcase.elim (fun h => absurd (hstm.symm.trans h.1) (by nofun)) (fun h => h.2)
    rw [hst']
    simp only
    rw [wp_bind', wp_drop]
    refine (wp_pure _ _ _).2 ⟨hcal' ▸ rgBud_end hbud hmulf, fun hpos' => RgOK.none fun T hT => ?_⟩
    obtain ⟨Fk, hFk, hTFk⟩ := hall T hT.1
    obtain ⟨D, hD, hiff, hc⟩ := hchk Fk hFk
    have hlt : ∀ a, InRange af T a → a < af.n := fun a ha => inRange_lt' hwf (enc.Base_sub hT.1) ha
    have hTD : RangeSub af T D := fun a ha => (hiff a (hlt a ha)).2 (hTFk a (hlt a ha) ha)
    exact hc T hT.1 hTD (hT.2 D hD hTD) hpos'

/-- **the acceptance loop**: `N` bounds the duplicate-free lists of members of the family of the encoder
on the component, `c0` is the number of calls made before the loop -/
theorem wp_rgAccLoop {C : Prop} (cred : Bool) (pos : List Nat) (c0 : Nat) {af : AF} {enc : EncKind}
    (hwf : af.WF) (s sel : Nat) {N : Nat} (hN : Bound (enc.Base af) N) (fuel : Nat) :
    ∀ (m : MEC) (w : World) (found : List (List Nat)),
    AccHead af enc s sel c0 cred pos found m w →
    C ∨ fuel + w.calls ≥ c0 + (af.n + 2) * N + 1 →
    wp C (rgAccLoop cred pos fuel m) w (AccPost af enc (c0 + (af.n + 2) * N + 1) cred pos) := by
  induction fuel with
  | zero =>
    intro m w found h hf
    exact (wp_crash _ _ _).2 (hf.resolve_right (fuel_zero (Nat.succ_le_succ (h.budget hN).1)))
  | succ fuel ih =>
    intro m w found h hf
    exact wp_rgAccIter cred pos c0 hwf s sel hN fuel h fun m' w' found' h' hc =>
      ih m' w' found' h' (hf.imp_right fun hf => fuel_step hf hc)

/-- **DC / DS for the semi-stable and stage semantics inside the merged component**, within
`(n + 2)·|base| + 1` SAT calls -/
theorem rgAccInCc_spec (cfg : Cfg) (hk : RangeEnc cfg.enc) (c : Comp) (args : List Nat) (cred : Bool)
    (hwf : c.af.WF) (hgr : GrOK c.af) (w : World) (hb : w.Bounded) (fam : List (List Nat))
    (hfam : ∀ l, l ∈ fam ↔ l ∈ subsets c.af.n ∧ cfg.enc.Base c.af (ofList l)) :
    wp (posAll c args = none ∨ cfg.fuel < (c.af.n + 2) * fam.length + 2) (rgAccInCc cfg c args cred) w (fun res w' =>
      w'.calls ≤ w.calls + (c.af.n + 2) * fam.length + 1 ∧
      ∀ pos, posAll c args = some pos → (∀ p ∈ pos, p < c.af.n) →
        RgOK c.af (cfg.enc.Base c.af) pos cred res) := by
  have h : (posAll c args = none ∨ cfg.fuel < (c.af.n + 2) * fam.length + 2) ∨
      ((∃ pos, posAll c args = some pos) ∧ cfg.fuel ≥ (c.af.n + 2) * fam.length + 2) := by
    cases posAll c args with
    | none => exact Or.inl (Or.inl rfl)
    | some pos =>
      exact (Nat.lt_or_ge _ _).elim (fun h => Or.inl (Or.inr h)) (fun h => Or.inr ⟨⟨pos, rfl⟩, h⟩)
  generalize (posAll c args = none ∨ cfg.fuel < (c.af.n + 2) * fam.length + 2) = C at h ⊢
  have hN : Bound (cfg.enc.Base c.af) fam.length := length_le_fam c.af _ fam hfam (fun _ hT => cfg.enc.Base_sub hT)
  unfold rgAccInCc
  rw [wp_bind']
  apply wp_ccArgsC c args w _ (h.imp_right (·.1))
  intro pos hpos
  apply wp_rgSetup cfg hk c hwf w hb
  intro s sel w2 hD hV hcal
  cases hfu : cfg.fuel with
  | zero => exact (wp_crash _ _ _).2 (h.resolve_right (fun hh => by have := hh.2; omega))
  | succ fuel =>
    rw [rgAccLoop_init cred pos rfl]
    refine wp_mono _ _ _ _ ?_ (wp_rgAccLoop cred pos w.calls hwf s sel hN fuel _ w2 []
      ⟨hV, [], [], ⟨⟨MEC.same_upd _ _ _ _, hD, fun h => nomatch h⟩, Inv.nil, Or.inl ⟨rfl,
        cfg.enc.Base_of_complete hk hgr.1, hgr.2.1, fun a _ h => (inRCur_spec _ _ _).1 h⟩⟩,
        fun _ h => (nomatch h), Cnt.nil, Or.inl ⟨rfl, ?_⟩⟩
      (h.imp_right (fun hh => by have := hh.2; omega)))
    · rintro res w3 ⟨h1, h2⟩
      refine ⟨h1, fun pos' hpos' => ?_⟩
      rw [hpos] at hpos'
      cases hpos'
      exact h2
    · refine Nat.le_trans (Nat.add_le_add_right (Nat.add_le_add_left (outside_le _ _) _) _) ?_
      show w2.calls + c.af.n + 2 ≤ w.calls + (c.af.n + 2) * (0 + 1)
      omega

end Crusta
