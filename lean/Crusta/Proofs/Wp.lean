import Crusta.Proofs.Prog
import Crusta.Proofs.ListAux
import Crusta.Proofs.CnfSem

/-!
# Sound replies and a weakest-precondition calculus for solver programs

`interp` runs a `Prog` on an arbitrary reply list.  The theorems about *answers* need the replies to
come from a correct SAT solver: `ReplySound` says what that means for one call of `solve_under_assumptions`
(against the clauses the solver has received so far and the assumptions of the call), `RunSound` says it of
every reply a run consumes.  The clauses a solver holds are read off the trace of the world (`World.db`); a SAT
reply must also give a value to every variable of these clauses (`ModelTotal`).
`wp crashOk p w Q` is the usual predicate transformer ("whatever a correct solver replies,
if `p` started in world `w` returns `a` in world `w'` then `Q a w'`"), where `crashOk` says whether a
`crash` node counts as meeting the postcondition (`True`: partial correctness; `False`: the program
provably never panics; a condition such as "the fuel is short": it panics only then, and `wp_conseq`
reads the other two off such a statement).  `wp_sound` ties it to `interp`, so each per-solver theorem
is proved once in the calculus and holds of every run.

A world predicate kept by every event of a run (`World.Step`) may be added to every postcondition (`wp_inv`);
the length of the solver vector and `World.Bounded` (the clauses a solver holds mention no variable above its
`n_vars`) are such predicates.
-/

namespace Crusta

/-- the clauses solver `s` has been given since it was created (newest first) -/
def dbOf (s : Nat) : List Ev → Cnf
  | [] => []
  | .clause s' c :: t => if s' = s then c :: dbOf s t else dbOf s t
  | .new s' :: t => if s' = s then [] else dbOf s t
  | _ :: t => dbOf s t

def World.db (w : World) (s : Nat) : Cnf := dbOf s w.trace

/-- the model vector gives a value to every variable that occurs in the clauses: CaDiCaL assigns every
variable it has seen, the wrapper pads only reserved slots the solver never saw with `None`.  Needed where
a program tests a value against `Some(false)` instead of `Some(true)`. -/
def ModelTotal (m : Model) (db : Cnf) : Prop := ∀ c ∈ db, ∀ l ∈ c, (m.getD (l.var - 1) none).isSome = true

def ReplySound (db : Cnf) (a : List Lit) : Reply → Prop
  | .sat m => ModelTotal m db ∧ cnfTrue (asgOfModel m) db = true ∧ assumpsTrue (asgOfModel m) a = true
  | .unsat => ∀ ν : Asg, ¬ (cnfTrue ν db = true ∧ assumpsTrue ν a = true)
  | .unknown => True

def RunSound {α : Type} : Prog α → List Reply → World → Prop
  | .pure _, _, _ => True
  | .crash _, _, _ => True
  | .newSolver k, rs, w => RunSound (k w.solvers.length) rs w.onNew
  | .reserve s n k, rs, w => RunSound k rs (w.onReserve s n)
  | .clause s c k, rs, w => RunSound k rs (w.onClause s c)
  | .nVars s k, rs, w => RunSound (k (w.nVarsOf s)) rs (w.onNVars s)
  | .solve _ _ _, [], _ => True
  | .solve _ _ _, .unknown :: _, _ => True
  | .solve s a k, .unsat :: rs', w =>
    ReplySound (w.db s) a .unsat ∧
      RunSound (k none) rs' ((w.onSolve s a).onReply s .unsat)
  | .solve s a k, .sat m :: rs', w =>
    ReplySound (w.db s) a (.sat m) ∧
      RunSound (k (some m)) rs' ((w.onSolve s a).onReply s (.sat m))

def wp {α : Type} (crashOk : Prop) : Prog α → World → (α → World → Prop) → Prop
  | .pure a, w, Q => Q a w
  | .crash _, _, _ => crashOk
  | .newSolver k, w, Q => wp crashOk (k w.solvers.length) w.onNew Q
  | .reserve s n k, w, Q => wp crashOk k (w.onReserve s n) Q
  | .clause s c k, w, Q => wp crashOk k (w.onClause s c) Q
  | .nVars s k, w, Q => wp crashOk (k (w.nVarsOf s)) (w.onNVars s) Q
  | .solve s a k, w, Q =>
    (∀ m, ReplySound (w.db s) a (.sat m) →
        wp crashOk (k (some m)) ((w.onSolve s a).onReply s (.sat m)) Q) ∧
    (ReplySound (w.db s) a .unsat →
        wp crashOk (k none) ((w.onSolve s a).onReply s .unsat) Q)

theorem wp_crash {α : Type} {C : Prop} (msg : String) (w : World) (Q : α → World → Prop) :
    wp C (.crash msg : Prog α) w Q ↔ C := Iff.rfl

theorem wp_solve {α : Type} {C : Prop} (s : Nat) (a : List Lit) (k : Option Model → Prog α) (w : World)
    (Q : α → World → Prop) :
    wp C (.solve s a k) w Q ↔
      (∀ m, ReplySound (w.db s) a (.sat m) → wp C (k (some m)) ((w.onSolve s a).onReply s (.sat m)) Q) ∧
      (ReplySound (w.db s) a .unsat → wp C (k none) ((w.onSolve s a).onReply s .unsat) Q) := Iff.rfl

theorem wp_interp {α : Type} {C : Prop} (p : Prog α) : ∀ (rs : List Reply) (w : World)
    (Q : α → World → Prop), wp C p w Q → RunSound p rs w →
      match interp p rs w with
      | (.done a, w') => Q a w'
      | (.crashed _, _) => C
      | _ => True := by
  induction p with
  | pure a0 => intro rs w Q h _; exact h
  | crash m => intro rs w Q h _; exact h
  | newSolver k ih => intro rs w Q h hs; exact ih _ rs _ Q h hs
  | reserve s n k ih => intro rs w Q h hs; exact ih rs _ Q h hs
  | clause s c k ih => intro rs w Q h hs; exact ih rs _ Q h hs
  | nVars s k ih => intro rs w Q h hs; exact ih _ rs _ Q h hs
  | solve s as k ih =>
    intro rs w Q h hs
    cases rs with
    | nil => trivial
    | cons r rs' =>
      cases r with
      | unknown => trivial
      | unsat => exact ih none rs' _ Q (h.2 hs.1) hs.2
      | sat m => exact ih (some m) rs' _ Q (h.1 m hs.1) hs.2

theorem wp_sound {α : Type} {C : Prop} (p : Prog α) : ∀ (rs : List Reply) (w w' : World) (a : α)
    (Q : α → World → Prop), wp C p w Q → RunSound p rs w → interp p rs w = (.done a, w') → Q a w' := by
  intro rs w w' a Q h hs hi
  have := wp_interp p rs w Q h hs
  rw [hi] at this
  exact this

theorem wp_no_crash {α : Type} (p : Prog α) : ∀ (rs : List Reply) (w : World)
    (Q : α → World → Prop), wp False p w Q → RunSound p rs w →
      ∀ msg w', interp p rs w ≠ (.crashed msg, w') := by
  intro rs w Q h hs msg w' hi
  have := wp_interp p rs w Q h hs
  rw [hi] at this
  exact this

theorem wp_run_total {α : Type} (p : Prog α) (rs : List Reply) (w : World) (Q : α → World → Prop)
    (h : wp False p w Q) (hs : RunSound p rs w) :
    (∃ a w', interp p rs w = (.done a, w') ∧ Q a w') ∨
    (∃ w', interp p rs w = (.abort, w')) ∨ (∃ w', interp p rs w = (.starved, w')) := by
  have := wp_interp p rs w Q h hs
  cases hi : interp p rs w with
  | mk oc w' =>
    rw [hi] at this
    cases oc with
    | done a => exact Or.inl ⟨a, w', rfl, this⟩
    | abort => exact Or.inr (Or.inl ⟨w', rfl⟩)
    | starved => exact Or.inr (Or.inr ⟨w', rfl⟩)
    | crashed msg => exact this.elim

theorem calls_of_wp {α : Type} (p : Prog α) (w : World) (k : Nat)
    (h : wp False p w (fun _ w' => w'.calls ≤ w.calls + k)) (rs : List Reply) (hs : RunSound p rs w) :
    (∀ msg w', interp p rs w ≠ (.crashed msg, w')) ∧
    ∀ a w', interp p rs w = (.done a, w') → w'.calls ≤ w.calls + k :=
  ⟨wp_no_crash p rs w _ h hs, fun a w' hi => wp_sound p rs w w' a _ h hs hi⟩

/-- each statement has its own crash condition, so that a `wp C` and a crash-tolerant `wp True` can be joined (`wp_andT`) -/
theorem wp_imp2 {α : Type} {C1 C2 C : Prop} (hC : C1 → C2 → C) (p : Prog α) :
    ∀ (w : World) (Q1 Q2 Q : α → World → Prop), (∀ a w', Q1 a w' → Q2 a w' → Q a w') →
      wp C1 p w Q1 → wp C2 p w Q2 → wp C p w Q := by
  induction p with
  | pure a0 => intro w Q1 Q2 Q hq h1 h2; exact hq _ _ h1 h2
  | crash m => intro w Q1 Q2 Q _ h1 h2; exact hC h1 h2
  | newSolver k ih => intro w Q1 Q2 Q hq h1 h2; exact ih _ _ Q1 Q2 Q hq h1 h2
  | reserve s n k ih => intro w Q1 Q2 Q hq h1 h2; exact ih _ Q1 Q2 Q hq h1 h2
  | clause s c k ih => intro w Q1 Q2 Q hq h1 h2; exact ih _ Q1 Q2 Q hq h1 h2
  | nVars s k ih => intro w Q1 Q2 Q hq h1 h2; exact ih _ _ Q1 Q2 Q hq h1 h2
  | solve s as k ih =>
    intro w Q1 Q2 Q hq h1 h2
    exact ⟨fun m hm => ih _ _ Q1 Q2 Q hq (h1.1 m hm) (h2.1 m hm), fun hu => ih _ _ Q1 Q2 Q hq (h1.2 hu) (h2.2 hu)⟩

theorem wp_conseq {α : Type} {C C' : Prop} (hC : C → C') (p : Prog α) (w : World) (Q Q' : α → World → Prop)
    (hq : ∀ a w', Q a w' → Q' a w') (h : wp C p w Q) : wp C' p w Q' :=
  wp_imp2 (fun c _ => hC c) p w Q Q Q' (fun a w' h _ => hq a w' h) h h

theorem wp_mono {α : Type} {C : Prop} (p : Prog α) : ∀ (w : World) (Q Q' : α → World → Prop),
    (∀ a w', Q a w' → Q' a w') → wp C p w Q → wp C p w Q' :=
  fun w Q Q' hq h => wp_conseq id p w Q Q' hq h

theorem wp_and {α : Type} {C : Prop} (p : Prog α) : ∀ (w : World) (Q1 Q2 : α → World → Prop),
    wp C p w Q1 → wp C p w Q2 → wp C p w (fun a w' => Q1 a w' ∧ Q2 a w') :=
  fun w Q1 Q2 => wp_imp2 (fun c _ => c) p w Q1 Q2 _ (fun _ _ => And.intro)

theorem wp_andT {α : Type} {C : Prop} (p : Prog α) : ∀ (w : World) (Q1 Q2 : α → World → Prop),
    wp C p w Q1 → wp True p w Q2 → wp C p w (fun a w' => Q1 a w' ∧ Q2 a w') :=
  fun w Q1 Q2 => wp_imp2 (fun c _ => c) p w Q1 Q2 _ (fun _ _ => And.intro)

theorem wp_bind {α β : Type} {C : Prop} (p : Prog α) (f : α → Prog β) : ∀ (w : World) (Q : β → World → Prop),
    wp C (p.bind f) w Q ↔ wp C p w (fun a w' => wp C (f a) w' Q) := by
  induction p with
  | pure a0 => intro w Q; exact Iff.rfl
  | crash m => intro w Q; exact Iff.rfl
  | newSolver k ih => intro w Q; exact ih _ _ Q
  | reserve s n k ih => intro w Q; exact ih _ Q
  | clause s c k ih => intro w Q; exact ih _ Q
  | nVars s k ih => intro w Q; exact ih _ _ Q
  | solve s as k ih =>
    intro w Q
    exact and_congr (forall_congr' fun m => imp_congr_right fun _ => ih _ _ Q) (imp_congr_right fun _ => ih _ _ Q)

-- `wp_bind` for a bind written `>>=` (what `do` blocks elaborate to): `rw` needs the syntactic form
theorem wp_bind' {α β : Type} {C : Prop} (p : Prog α) (f : α → Prog β) (w : World) (Q : β → World → Prop) :
    wp C (p >>= f) w Q ↔ wp C p w (fun a w' => wp C (f a) w' Q) := wp_bind p f w Q

@[simp] theorem wp_pure {α : Type} {C : Prop} (a : α) (w : World) (Q : α → World → Prop) :
    wp C (pure a : Prog α) w Q ↔ Q a w := Iff.rfl

/-- `w'` is `w` after one event of a run, whatever the reply -/
inductive World.Step : World → World → Prop
  | new (w : World) : Step w w.onNew
  | reserve (w : World) (s n : Nat) : Step w (w.onReserve s n)
  | clause (w : World) (s : Nat) (c : Clause) : Step w (w.onClause s c)
  | nVars (w : World) (s : Nat) : Step w (w.onNVars s)
  | solve (w : World) (s : Nat) (a : List Lit) (r : Reply) : Step w ((w.onSolve s a).onReply s r)

theorem wp_inv {α : Type} {C : Prop} {I : World → Prop} (hI : ∀ w w', w.Step w' → I w → I w') (p : Prog α) :
    ∀ (w : World) (Q : α → World → Prop), I w → wp C p w Q → wp C p w (fun a w' => I w' ∧ Q a w') := by
  induction p with
  | pure a0 => intro w Q hi h; exact ⟨hi, h⟩
  | crash m => intro w Q _ h; exact h
  | newSolver k ih => intro w Q hi h; exact ih _ _ Q (hI _ _ (.new w) hi) h
  | reserve s n k ih => intro w Q hi h; exact ih _ Q (hI _ _ (.reserve w s n) hi) h
  | clause s c k ih => intro w Q hi h; exact ih _ Q (hI _ _ (.clause w s c) hi) h
  | nVars s k ih => intro w Q hi h; exact ih _ _ Q (hI _ _ (.nVars w s) hi) h
  | solve s as k ih =>
    intro w Q hi h
    exact ⟨fun m hm => ih _ _ Q (hI _ _ (.solve w s as _) hi) (h.1 m hm),
           fun hu => ih _ _ Q (hI _ _ (.solve w s as _) hi) (h.2 hu)⟩

theorem db_onNew (w : World) (s : Nat) : w.onNew.db s = if w.solvers.length = s then [] else w.db s := rfl
@[simp] theorem db_onNew_self (w : World) : w.onNew.db w.solvers.length = [] := by
  rw [db_onNew, if_pos rfl]
@[simp] theorem db_onReserve (w : World) (s t n : Nat) : (w.onReserve t n).db s = w.db s := rfl
@[simp] theorem db_onNVars (w : World) (s t : Nat) : (w.onNVars t).db s = w.db s := rfl
@[simp] theorem db_onSolve (w : World) (s t : Nat) (a : List Lit) : (w.onSolve t a).db s = w.db s := rfl
@[simp] theorem db_onReply (w : World) (s t : Nat) (r : Reply) : (w.onReply t r).db s = w.db s := rfl
theorem db_onClause (w : World) (s t : Nat) (c : Clause) :
    (w.onClause t c).db s = if t = s then c :: w.db s else w.db s := rfl
@[simp] theorem db_onClause_same (w : World) (s : Nat) (c : Clause) : (w.onClause s c).db s = c :: w.db s := by
  rw [db_onClause, if_pos rfl]

@[simp] theorem nVarsOf_onNVars (w : World) (s t : Nat) : (w.onNVars s).nVarsOf t = w.nVarsOf t := rfl
@[simp] theorem nVarsOf_onReply (w : World) (s t : Nat) (r : Reply) : (w.onReply s r).nVarsOf t = w.nVarsOf t := rfl

/-- a new solver has the state that `n_vars` assumes of a solver that does not exist -/
@[simp] theorem nVarsOf_onNew (w : World) (s : Nat) : w.onNew.nVarsOf s = w.nVarsOf s :=
  congrArg SolverSt.nVars (getD_append_replicate w.solvers 1 s {})

theorem len_onClause (w : World) (s : Nat) (c : Clause) : (w.onClause s c).solvers.length = w.solvers.length :=
  List.length_set ..
theorem len_onSolve (w : World) (s : Nat) (a : List Lit) : (w.onSolve s a).solvers.length = w.solvers.length :=
  List.length_set ..
theorem len_onNew (w : World) : w.onNew.solvers.length = w.solvers.length + 1 := List.length_append
theorem lt_len_onNew (w : World) : w.solvers.length < w.onNew.solvers.length := by
  rw [len_onNew]; exact Nat.lt_succ_self _
theorem len_onReserve (w : World) (s n : Nat) : (w.onReserve s n).solvers.length = w.solvers.length :=
  List.length_set ..
theorem len_onNVars (w : World) (s : Nat) : (w.onNVars s).solvers.length = w.solvers.length := rfl
theorem len_onReply (w : World) (s : Nat) (r : Reply) : (w.onReply s r).solvers.length = w.solvers.length := rfl

theorem World.Step.len_le {w w' : World} (hs : w.Step w') : w.solvers.length ≤ w'.solvers.length := by
  cases hs with
  | new => rw [len_onNew]; exact Nat.le_succ _
  | reserve s n => rw [len_onReserve]; exact Nat.le_refl _
  | clause s c => rw [len_onClause]; exact Nat.le_refl _
  | nVars s => exact Nat.le_refl _
  | solve s a r => rw [len_onReply, len_onSolve]; exact Nat.le_refl _

theorem nVarsOf_upd (w : World) (s t : Nat) (f : SolverSt → SolverSt) :
    (w.upd s f).nVarsOf t = if t = s ∧ s < w.solvers.length then (f (w.solvers.getD s {})).nVars else w.nVarsOf t := by
  unfold World.upd World.nVarsOf
  by_cases h : t = s ∧ s < w.solvers.length
  · obtain ⟨rfl, hlt⟩ := h
    rw [if_pos ⟨rfl, hlt⟩, getD_set_eq _ _ _ _ hlt]
  · rw [if_neg h]
    by_cases hts : t = s
    · subst hts
      have : ¬ t < w.solvers.length := fun hh => h ⟨rfl, hh⟩
      -- reduces the projection `{ w with solvers := _ }.solvers`, so that `rw` sees the `set`
      simp only
      rw [List.set_eq_of_length_le (by omega)]
    · simp only
      rw [getD_set_ne _ _ _ _ _ (fun e => hts e.symm)]

theorem nVarsOf_le_upd (w : World) (s t : Nat) (f : SolverSt → SolverSt) (hf : ∀ st, st.nVars ≤ (f st).nVars) :
    w.nVarsOf t ≤ (w.upd s f).nVarsOf t := by
  rw [nVarsOf_upd]
  split
  · rename_i h; rw [h.1]; exact hf _
  · exact Nat.le_refl _

theorem SolverSt.nVars_le_reserve (st : SolverSt) (n : Nat) :
    st.nVars ≤ ({ st with reserved := max st.reserved n } : SolverSt).nVars :=
  Nat.max_le.2 ⟨Nat.le_max_left _ _, Nat.le_trans (Nat.le_max_left _ _) (Nat.le_max_right _ _)⟩
theorem SolverSt.nVars_le_maxVar (st : SolverSt) (k : Nat) :
    st.nVars ≤ ({ st with maxVar := max st.maxVar k } : SolverSt).nVars :=
  Nat.max_le.2 ⟨Nat.le_trans (Nat.le_max_left _ _) (Nat.le_max_left _ _), Nat.le_max_right _ _⟩

theorem nVarsOf_le_onReserve (w : World) (s n t : Nat) : w.nVarsOf t ≤ (w.onReserve s n).nVarsOf t :=
  nVarsOf_le_upd w s t (fun st => { st with reserved := max st.reserved n }) fun st => st.nVars_le_reserve n
theorem nVarsOf_le_onClause (w : World) (s : Nat) (c : Clause) (t : Nat) : w.nVarsOf t ≤ (w.onClause s c).nVarsOf t :=
  nVarsOf_le_upd w s t (fun st => { st with maxVar := max st.maxVar (litsMax c) }) fun st => st.nVars_le_maxVar _
theorem nVarsOf_le_onSolve (w : World) (s : Nat) (a : List Lit) (t : Nat) : w.nVarsOf t ≤ (w.onSolve s a).nVarsOf t :=
  nVarsOf_le_upd w s t (fun st => { st with maxVar := max st.maxVar (litsMax a) }) fun st => st.nVars_le_maxVar _

theorem litsMax_ge {c : List Lit} {l : Lit} (h : l ∈ c) : l.var ≤ litsMax c :=
  mem_le_foldl_max _ h 0

theorem litsMax_le_onClause (w : World) (s : Nat) (c : Clause) (hs : s < w.solvers.length) :
    litsMax c ≤ (w.onClause s c).nVarsOf s := by
  show _ ≤ (w.upd s (fun st => { st with maxVar := max st.maxVar (litsMax c) })).nVarsOf s
  rw [nVarsOf_upd, if_pos ⟨rfl, hs⟩]
  exact Nat.le_trans (Nat.le_max_right _ _) (Nat.le_max_left _ _)

theorem nVarsOf_onReserve_ge (w : World) (s n : Nat) (hs : s < w.solvers.length) :
    n ≤ (w.onReserve s n).nVarsOf s := by
  show n ≤ (w.upd s (fun st => { st with reserved := max st.reserved n })).nVarsOf s
  rw [nVarsOf_upd, if_pos ⟨rfl, hs⟩]
  exact Nat.le_trans (Nat.le_max_right _ _) (Nat.le_max_right _ _)

def World.Bounded (w : World) : Prop :=
  ∀ s, s < w.solvers.length → ∀ c ∈ w.db s, ∀ l ∈ c, l.var ≤ w.nVarsOf s

theorem World.Bounded.of_le {w w' : World} (h : w.Bounded) (hlen : w'.solvers.length = w.solvers.length)
    (hnv : ∀ t, w.nVarsOf t ≤ w'.nVarsOf t)
    (hdb : ∀ t, t < w.solvers.length → ∀ c ∈ w'.db t, c ∈ w.db t ∨ ∀ l ∈ c, l.var ≤ w'.nVarsOf t) : w'.Bounded := by
  intro t ht c hc l hl
  rw [hlen] at ht
  rcases hdb t ht c hc with hc | hc
  · exact Nat.le_trans (h t ht c hc l hl) (hnv t)
  · exact hc l hl

theorem Bounded_onNew {w : World} (h : w.Bounded) : w.onNew.Bounded := by
  intro s hs c hc l hl
  rw [db_onNew] at hc
  split at hc
  · cases hc
  · rename_i he
    have hs' : s < w.solvers.length + 1 := Nat.lt_of_lt_of_eq hs (List.length_append ..)
    rw [nVarsOf_onNew]
    exact h s (by omega) c hc l hl

theorem Bounded_onReserve {w : World} (h : w.Bounded) (s n : Nat) : (w.onReserve s n).Bounded :=
  h.of_le (List.length_set ..) (nVarsOf_le_onReserve w s n) fun _ _ _ hc => Or.inl hc

theorem Bounded_onClause {w : World} (h : w.Bounded) (s : Nat) (c0 : Clause) : (w.onClause s c0).Bounded := by
  refine h.of_le (len_onClause w s c0) (nVarsOf_le_onClause w s c0) fun t ht c hc => ?_
  rw [db_onClause] at hc
  split at hc
  · rename_i hst; subst hst
    rcases List.mem_cons.1 hc with rfl | hc
    · exact Or.inr fun l hl => Nat.le_trans (litsMax_ge hl) (litsMax_le_onClause w s c ht)
    · exact Or.inl hc
  · exact Or.inl hc

theorem Bounded_onNVars {w : World} (h : w.Bounded) (s : Nat) : (w.onNVars s).Bounded := h

theorem Bounded_onSolve {w : World} (h : w.Bounded) (s : Nat) (a : List Lit) : (w.onSolve s a).Bounded :=
  h.of_le (len_onSolve w s a) (nVarsOf_le_onSolve w s a) fun _ _ _ hc => Or.inl hc

theorem Bounded_onReply {w : World} (h : w.Bounded) (s : Nat) (r : Reply) : (w.onReply s r).Bounded := h

theorem Bounded_solve {w : World} (h : w.Bounded) (s : Nat) (a : List Lit) (r : Reply) :
    ((w.onSolve s a).onReply s r).Bounded := Bounded_onReply (Bounded_onSolve h s a) s r

theorem World.Bounded.step {w w' : World} (hs : w.Step w') (h : w.Bounded) : w'.Bounded := by
  cases hs with
  | new => exact Bounded_onNew h
  | reserve s n => exact Bounded_onReserve h s n
  | clause s c => exact Bounded_onClause h s c
  | nVars s => exact h
  | solve s a r => exact Bounded_solve h s a r

theorem wp_bounded {α : Type} {C : Prop} (p : Prog α) : ∀ (w : World) (Q : α → World → Prop),
    w.Bounded → wp C p w Q → wp C p w (fun a w' => w'.Bounded ∧ Q a w') :=
  wp_inv (fun _ _ => World.Bounded.step) p

theorem safe_of_wp {α : Type} {p : Prog α} {w : World} {Q : α → World → Prop} (hb : w.Bounded)
    (h : wp False p w Q) : wp False p w (fun _ w' => w'.Bounded) :=
  wp_mono _ _ _ _ (fun _ _ h => h.1) (wp_bounded p w Q hb h)

theorem Bounded_empty : ({} : World).Bounded := by
  intro s hs; simp at hs

open Prog (mkSolver addClause addClauses getNVars doSolve)

def addAllS (s : Nat) (w : World) (cs : Cnf) : World := cs.foldl (fun w c => w.onClause s c) w

theorem wp_addClausesS {C : Prop} (s : Nat) : ∀ (cs : Cnf) (w : World) (Q : Unit → World → Prop),
    wp C (addClauses s cs) w Q ↔ Q () (addAllS s w cs)
  | [], _, _ => Iff.rfl
  | c :: cs, w, Q => wp_addClausesS s cs (w.onClause s c) Q

theorem addAllS_cons (s : Nat) (w : World) (c : Clause) (cs : Cnf) :
    addAllS s w (c :: cs) = addAllS s (w.onClause s c) cs := rfl

theorem db_addAllS (s t : Nat) : ∀ (cs : Cnf) (w : World),
    (addAllS s w cs).db t = if s = t then cs.reverse ++ w.db t else w.db t
  | [], w => by simp [addAllS]
  | c :: cs, w => by
    rw [addAllS_cons, db_addAllS s t cs, db_onClause]
    by_cases h : s = t <;> simp [h]

theorem solvers_len_addAllS (s : Nat) : ∀ (cs : Cnf) (w : World), (addAllS s w cs).solvers.length = w.solvers.length
  | [], _ => rfl
  | c :: cs, w => (solvers_len_addAllS s cs (w.onClause s c)).trans (len_onClause w s c)

theorem nVarsOf_mono_addAllS (s t : Nat) : ∀ (cs : Cnf) (w : World), w.nVarsOf t ≤ (addAllS s w cs).nVarsOf t
  | [], _ => Nat.le_refl _
  | c :: cs, w => Nat.le_trans (nVarsOf_le_onClause w s c t) (nVarsOf_mono_addAllS s t cs (w.onClause s c))

theorem Bounded_addAllS (s : Nat) : ∀ (cs : Cnf) {w : World}, w.Bounded → (addAllS s w cs).Bounded
  | [], _, h => h
  | c :: cs, _, h => Bounded_addAllS s cs (Bounded_onClause h s c)

theorem calls_addAllS (s : Nat) : ∀ (cs : Cnf) (w : World), (addAllS s w cs).calls = w.calls
  | [], _ => rfl
  | c :: cs, w => calls_addAllS s cs (w.onClause s c)

theorem wp_mkSolver {C : Prop} (w : World) (Q : Nat → World → Prop) :
    wp C mkSolver w Q ↔ Q w.solvers.length w.onNew := Iff.rfl

theorem wp_getNVars {C : Prop} (s : Nat) (w : World) (Q : Nat → World → Prop) :
    wp C (getNVars s) w Q ↔ Q (w.nVarsOf s) (w.onNVars s) := Iff.rfl

theorem wp_addClause1 {C : Prop} (s : Nat) (c : Clause) (w : World) (Q : Unit → World → Prop) :
    wp C (addClause s c) w Q ↔ Q () (w.onClause s c) := Iff.rfl

theorem wp_addClause_bind {β : Type} {C : Prop} (s : Nat) (c : Clause) (g : Unit → Prog β) (w : World)
    (Q : β → World → Prop) : wp C ((addClause s c).bind g) w Q ↔ wp C (g ()) (w.onClause s c) Q := Iff.rfl

theorem wp_doSolve {C : Prop} (s : Nat) (a : List Lit) (w : World) (Q : Option Model → World → Prop) :
    wp C (doSolve s a) w Q ↔
      (∀ m, ReplySound (w.db s) a (.sat m) → Q (some m) ((w.onSolve s a).onReply s (.sat m))) ∧
      (ReplySound (w.db s) a .unsat → Q none ((w.onSolve s a).onReply s .unsat)) := Iff.rfl

end Crusta
