import Crusta.Proofs.GBasic

/-!
# Renumbering the arguments of a graph

`Renum`: a map `f` from the numbers in `D` to the numbers in `D'` and a map `f'` back.
`m.Iso g g'`: `f` and `f'` are inverse bijections between `D` and `D'`, which hold every argument
that is live or takes part in an attack, and `f` preserves liveness and attacks.  `m.Corr S S'`: the
set `S'` is the set `S` renumbered.  Every semantics holds of `S` in `g` iff it holds of `S'` in `g'`
(`Iso.transfer_ext`); statements quantifying over extensions are carried across by
`Transfer.exists_iff` and `Transfer.forall_iff`.

Instances: the positions and the ids of an extracted component (`CompIso.lean`), a bijection of
the id space (`GRename.lean`), a permutation of the arguments of a compact framework (`Iso.lean`).
-/

namespace Crusta

structure Renum where
  D : Nat → Bool
  D' : Nat → Bool
  f : Nat → Nat
  f' : Nat → Nat

namespace Renum

variable (m : Renum)

structure Iso (g g' : G) : Prop where
  map : ∀ a, m.D a = true → m.D' (m.f a) = true
  map' : ∀ b, m.D' b = true → m.D (m.f' b) = true
  l : ∀ a, m.D a = true → m.f' (m.f a) = a
  r : ∀ b, m.D' b = true → m.f (m.f' b) = b
  live : ∀ a, m.D a = true → g'.live (m.f a) = g.live a
  att : ∀ a b, m.D a = true → m.D b = true → (g'.att (m.f a) (m.f b) ↔ g.att a b)
  live_dom : ∀ a, g.live a = true → m.D a = true
  live_dom' : ∀ b, g'.live b = true → m.D' b = true
  att_dom : ∀ a b, g.att a b → m.D a = true ∧ m.D b = true
  att_dom' : ∀ a b, g'.att a b → m.D' a = true ∧ m.D' b = true

structure Corr (S S' : ASet) : Prop where
  dom : ∀ a, S a = true → m.D a = true
  dom' : ∀ b, S' b = true → m.D' b = true
  eq : ∀ a, m.D a = true → S' (m.f a) = S a

/-- `P` holds of a set iff `P'` holds of the renumbered set; both only hold of sets of numbers in use -/
structure Transfer (P P' : ASet → Prop) : Prop where
  dom : ∀ S, P S → ∀ a, S a = true → m.D a = true
  dom' : ∀ S', P' S' → ∀ b, S' b = true → m.D' b = true
  iff : ∀ S S', m.Corr S S' → (P S ↔ P' S')

variable {m} {g g' : G} {S S' T T' : ASet}

namespace Iso

variable (h : m.Iso g g')
include h

theorem surj (b : Nat) (hb : m.D' b = true) : ∃ a, m.D a = true ∧ m.f a = b :=
  ⟨m.f' b, h.map' b hb, h.r b hb⟩

theorem exists_corr (hS : ∀ a, S a = true → m.D a = true) : ∃ S', m.Corr S S' := by
  refine ⟨fun b => m.D' b && S (m.f' b), hS, fun b hb => (Bool.and_eq_true_iff.1 hb).1, fun a ha => ?_⟩
  show (m.D' (m.f a) && S (m.f' (m.f a))) = S a
  rw [h.map a ha, h.l a ha, Bool.true_and]

omit h in -- the maps back need no hypothesis
theorem exists_corr' (hS : ∀ b, S' b = true → m.D' b = true) : ∃ S, m.Corr S S' := by
  refine ⟨fun a => m.D a && S' (m.f a), fun a ha => (Bool.and_eq_true_iff.1 ha).1, hS, fun a ha => ?_⟩
  show S' (m.f a) = (m.D a && S' (m.f a))
  rw [ha, Bool.true_and]

theorem attackedBy (he : ∀ a, m.D a = true → S' (m.f a) = S a) {a : Nat} (ha : m.D a = true) :
    g'.AttackedBy S' (m.f a) ↔ g.AttackedBy S a := by
  constructor
  · rintro ⟨b', hb', hS'⟩
    obtain ⟨b, hb, rfl⟩ := h.surj b' (h.att_dom' _ _ hb').1
    exact ⟨b, (h.att b a hb ha).1 hb', (he b hb).symm.trans hS'⟩
  · rintro ⟨b, hb, hS⟩
    have hD := (h.att_dom b a hb).1
    exact ⟨m.f b, (h.att b a hD ha).2 hb, (he b hD).trans hS⟩

theorem defended (he : ∀ a, m.D a = true → S' (m.f a) = S a) {a : Nat} (ha : m.D a = true) :
    g'.Defended S' (m.f a) ↔ g.Defended S a := by
  constructor
  · intro hd b hb
    have hD := (h.att_dom b a hb).1
    exact (h.attackedBy he hD).1 (hd (m.f b) ((h.att b a hD ha).2 hb))
  · intro hd b' hb'
    obtain ⟨b, hb, rfl⟩ := h.surj b' (h.att_dom' _ _ hb').1
    exact (h.attackedBy he hb).2 (hd b ((h.att b a hb ha).1 hb'))

theorem inRange (he : ∀ a, m.D a = true → S' (m.f a) = S a) {a : Nat} (ha : m.D a = true) :
    g'.InRange S' (m.f a) ↔ g.InRange S a :=
  or_congr (by rw [he a ha]) (h.attackedBy he ha)

theorem obs (he : ∀ a, m.D a = true → S' (m.f a) = S a) {a : Nat} (ha : m.D a = true)
    (φ : Bool → Prop → Prop → Prop) :
    φ (S' (m.f a)) (g'.AttackedBy S' (m.f a)) (g'.Defended S' (m.f a)) ↔
      φ (S a) (g.AttackedBy S a) (g.Defended S a) := by
  rw [he a ha, propext (h.attackedBy he ha), propext (h.defended he ha)]

theorem local_iff (c : m.Corr S S') (φ : Bool → Prop → Prop → Prop) : g.Local φ S ↔ g'.Local φ S' := by
  constructor
  · rintro ⟨h1, h2⟩
    refine ⟨fun b hb => ?_, fun b hb => ?_⟩
    · obtain ⟨a, ha, rfl⟩ := h.surj b (c.dom' b hb)
      rw [h.live a ha]
      exact h1 a ((c.eq a ha).symm.trans hb)
    · obtain ⟨a, ha, rfl⟩ := h.surj b (h.live_dom' b hb)
      exact (h.obs c.eq ha φ).2 (h2 a ((h.live a ha).symm.trans hb))
  · rintro ⟨h1, h2⟩
    refine ⟨fun a ha => ?_, fun a ha => ?_⟩
    · rw [← h.live a (c.dom a ha)]
      exact h1 _ ((c.eq a (c.dom a ha)).trans ha)
    · have hD := h.live_dom a ha
      exact (h.obs c.eq hD φ).1 (h2 _ ((h.live a hD).trans ha))

theorem subsetS (cS : m.Corr S S') (cT : m.Corr T T') : SubsetS S T ↔ SubsetS S' T' := by
  constructor
  · intro hs b hb
    obtain ⟨a, ha, rfl⟩ := h.surj b (cS.dom' b hb)
    rw [cT.eq a ha]
    exact hs a ((cS.eq a ha).symm.trans hb)
  · intro hs a ha
    have hD := cS.dom a ha
    rw [← cT.eq a hD]
    exact hs _ ((cS.eq a hD).trans ha)

theorem rangeSub (cS : m.Corr S S') (cT : m.Corr T T') : g.RangeSub S T ↔ g'.RangeSub S' T' := by
  constructor
  · intro hs b hb
    have hD' : m.D' b = true := hb.elim (cS.dom' b) fun ⟨_, hc, _⟩ => (h.att_dom' _ _ hc).2
    obtain ⟨a, ha, rfl⟩ := h.surj b hD'
    exact (h.inRange cT.eq ha).2 (hs a ((h.inRange cS.eq ha).1 hb))
  · intro hs a ha
    have hD : m.D a = true := ha.elim (cS.dom a) fun ⟨_, hc, _⟩ => (h.att_dom _ _ hc).2
    exact (h.inRange cT.eq hD).1 (hs _ ((h.inRange cS.eq hD).2 ha))

end Iso

namespace Transfer

variable {P P' Q Q' : ASet → Prop}

theorem exists_iff (h : m.Iso g g') (tr : m.Transfer P P') {R R' : ASet → Prop}
    (hR : ∀ S S', m.Corr S S' → (R S ↔ R' S')) : (∃ S, P S ∧ R S) ↔ ∃ S', P' S' ∧ R' S' := by
  constructor
  · rintro ⟨S, hS, hr⟩
    obtain ⟨S', c⟩ := h.exists_corr (tr.dom S hS)
    exact ⟨S', (tr.iff S S' c).1 hS, (hR S S' c).1 hr⟩
  · rintro ⟨S', hS', hr⟩
    obtain ⟨S, c⟩ := Iso.exists_corr' (tr.dom' S' hS')
    exact ⟨S, (tr.iff S S' c).2 hS', (hR S S' c).2 hr⟩

theorem forall_iff (h : m.Iso g g') (tr : m.Transfer P P') {R R' : ASet → Prop}
    (hR : ∀ S S', m.Corr S S' → (R S ↔ R' S')) : (∀ S, P S → R S) ↔ ∀ S', P' S' → R' S' := by
  constructor
  · intro hall S' hS'
    obtain ⟨S, c⟩ := Iso.exists_corr' (tr.dom' S' hS')
    exact (hR S S' c).1 (hall S ((tr.iff S S' c).2 hS'))
  · intro hall S hS
    obtain ⟨S', c⟩ := h.exists_corr (tr.dom S hS)
    exact (hR S S' c).2 (hall S' ((tr.iff S S' c).1 hS))

/-- the members of one family that stand in a transferred relation to every member of another:
least members (`Rel S T := S ⊆ T`) and maximal members (`Rel S T := S ≤ T → T ≤ S`) alike -/
theorem all (h : m.Iso g g') (trP : m.Transfer P P') (trQ : m.Transfer Q Q') {Rel Rel' : ASet → ASet → Prop}
    (hRel : ∀ {S S' T T'}, m.Corr S S' → m.Corr T T' → (Rel S T ↔ Rel' S' T')) :
    m.Transfer (fun S => P S ∧ ∀ T, Q T → Rel S T) (fun S' => P' S' ∧ ∀ T', Q' T' → Rel' S' T') where
  dom := fun S hS => trP.dom S hS.1
  dom' := fun S' hS' => trP.dom' S' hS'.1
  iff := fun S S' c => and_congr (trP.iff S S' c)
    (forall_iff h trQ (R := Rel S) (R' := Rel' S') fun _ _ cT => hRel c cT)

end Transfer

namespace Iso

variable (h : m.Iso g g')
include h

theorem transfer_local (φ : Bool → Prop → Prop → Prop) : m.Transfer (g.Local φ) (g'.Local φ) where
  dom := fun _ hS a ha => h.live_dom a (hS.1 a ha)
  dom' := fun _ hS b hb => h.live_dom' b (hS.1 b hb)
  iff := fun _ _ c => h.local_iff c φ

theorem transfer_cf : m.Transfer g.CF g'.CF := by
  rw [G.cf_eq_local, G.cf_eq_local]; exact h.transfer_local _

theorem transfer_admissible : m.Transfer g.Admissible g'.Admissible := by
  rw [G.admissible_eq_local, G.admissible_eq_local]; exact h.transfer_local _

theorem transfer_complete : m.Transfer g.Complete g'.Complete := by
  rw [G.complete_eq_local, G.complete_eq_local]; exact h.transfer_local _

theorem transfer_stable : m.Transfer g.Stable g'.Stable := by
  rw [G.stable_eq_local, G.stable_eq_local]; exact h.transfer_local _

theorem transfer_grounded : m.Transfer g.Grounded g'.Grounded :=
  h.transfer_complete.all h h.transfer_complete h.subsetS

theorem transfer_preferred : m.Transfer g.Preferred g'.Preferred :=
  h.transfer_admissible.all h h.transfer_admissible fun c c' => imp_congr (h.subsetS c c') (h.subsetS c' c)

theorem transfer_semistable : m.Transfer g.SemiStable g'.SemiStable :=
  h.transfer_complete.all h h.transfer_complete fun c c' => imp_congr (h.rangeSub c c') (h.rangeSub c' c)

theorem transfer_stage : m.Transfer g.Stage g'.Stage :=
  h.transfer_cf.all h h.transfer_cf fun c c' => imp_congr (h.rangeSub c c') (h.rangeSub c' c)

theorem transfer_idealCand : m.Transfer g.IdealCand g'.IdealCand :=
  h.transfer_admissible.all h h.transfer_preferred h.subsetS

theorem transfer_ideal : m.Transfer g.Ideal g'.Ideal :=
  h.transfer_idealCand.all h h.transfer_idealCand fun c c' => imp_congr (h.subsetS c c') (h.subsetS c' c)

theorem transfer_ext (σ : Sem) : m.Transfer (g.Ext σ) (g'.Ext σ) := by
  cases σ
  · exact h.transfer_grounded
  · exact h.transfer_complete
  · exact h.transfer_preferred
  · exact h.transfer_stable
  · exact h.transfer_semistable
  · exact h.transfer_stage
  · exact h.transfer_ideal

end Iso

end Renum

end Crusta
