import Crusta.Proofs.SearchMEC
import Crusta.Proofs.Semantics
import Crusta.Proofs.StaticGR

/-!
# Preferred semantics on one component: `compute_maximal` and the skeptical search

Each search has one specification (`*_spec`) whose postcondition is the answer together with the bound
on the SAT calls.  The fuel of the model's loops enters in one of two ways: the crash condition of `wp`
is "the fuel is short" (`computeMaximal_specF`, `prSkeptInCc_spec`; partial correctness and termination
within the bound are read off by `wp_conseq`), or the crash condition `C` is free and a hypothesis says
"`C`, or the fuel suffices" (`prSkeptLoop_spec`, whose recursive calls then need no weakening).

`compute_maximal` of the preferred solver is proved on the syntactic invariant `MInvF` of the solver
(which clauses it holds) rather than on `wp_growMax` of `SearchMEC.lean`: `computeMaximal_specF`, from
which `SolveCalls.lean` counts the calls, is stated on it (so are `wp_increase`, `wp_computeMaximal` and
their neighbours on `MInv`/`GrowInv`, which nothing here uses).
The skeptical loop sees the computer through `Search.Sys` (`prefSys`, an instance of `MEC.asSys`).
-/

namespace Crusta
open Prog (mkSolver doReserve addClause addClauses getNVars doSolve)
open Search

theorem MInvF.congr_db {F : AF → ASet → Prop} {m : MEC} {w w' : World} {blocked : List (List Nat)}
    (h : MInvF F m w blocked) (hdb : w'.db m.sid = w.db m.sid) : MInvF F m w' blocked :=
  { h with db_sound := by rw [hdb]; exact h.db_sound
           db_enc := by rw [hdb]; exact h.db_enc
           db_blk := by rw [hdb]; exact h.db_blk }

theorem MInv.congr_db {m : MEC} {w w' : World} {blocked : List (List Nat)} (h : MInv m w blocked)
    (hdb : w'.db m.sid = w.db m.sid) : MInv m w' blocked := MInvF.congr_db h hdb

theorem MInvF.congr_m {F : AF → ASet → Prop} {m m' : MEC} {w : World} {blocked : List (List Nat)}
    (h : MInvF F m w blocked)
    (haf : m'.af = m.af) (henc : m'.enc = m.enc) (hsid : m'.sid = m.sid) (hsel : m'.sel = m.sel)
    (hadd : m'.additional = m.additional) : MInvF F m' w blocked := by
  cases m; cases m'
  cases haf; cases henc; cases hsid; cases hsel; cases hadd
  exact ⟨h.wf, h.isF, h.db_sound, h.db_enc, h.db_blk, h.fresh_enc, h.fresh_arg, h.no_add⟩

theorem MInvF.block {F : AF → ASet → Prop} {m : MEC} {w : World} {blocked : List (List Nat)}
    (h : MInvF F m w blocked) (E : List Nat) :
    MInvF F m (w.onClause m.sid (outL m.enc m.af.n E ++ [pl m.sel])) (E :: blocked) := by
  refine { h with db_sound := ?_, db_enc := ?_, db_blk := ?_ }
  · intro c hc
    rw [db_onClause_same] at hc
    rcases List.mem_cons.1 hc with rfl | hc
    · exact Or.inr ⟨E, List.mem_cons_self, rfl⟩
    · exact (h.db_sound c hc).imp_right fun ⟨E', hE', he⟩ => ⟨E', List.mem_cons_of_mem _ hE', he⟩
  · intro c hc; rw [db_onClause_same]; exact List.mem_cons_of_mem _ (h.db_enc c hc)
  · rw [db_onClause_same]
    exact List.forall_mem_cons.2 ⟨List.mem_cons_self, fun E' hE' => List.mem_cons_of_mem _ (h.db_blk E' hE')⟩

theorem wp_MEC_newF {F : AF → ASet → Prop} {C : Prop} {enc : EncKind} {af : AF} {sid : Nat} {w : World}
    (henc : Encoded enc af sid false w)
    (hwf : af.WF) (hco : ∀ T, enc.Base af T ↔ F af T) (kind : MKind) :
    wp C (MEC.new af enc sid kind) w (fun m w' => MInvF F m w' [] ∧ m.af = af ∧ m.kind = kind ∧ m.state = .init ∧
      w'.calls = w.calls) := by
  unfold MEC.new
  rw [wp_bind', wp_getNVars]
  have hdbc : ∀ c, c ∈ w.db sid ↔ c ∈ enc.clauses af := by
    intro c; rw [henc.db]; simp
  refine ⟨⟨hwf, hco, ?_, ?_, ?_, ?_, ?_, rfl⟩, rfl, rfl, rfl, rfl⟩
  · intro c hc; rw [db_onNVars] at hc; exact Or.inl ((hdbc c).1 hc)
  · intro c hc; rw [db_onNVars]; exact (hdbc c).2 hc
  · intro E hE; cases hE
  · exact fun c hc => henc.db_fresh c ((hdbc c).2 hc)
  · exact fun a ha => henc.argVar_fresh ha

theorem wp_MEC_solveF {F : AF → ASet → Prop} {C : Prop} {m : MEC} {w : World} {blocked : List (List Nat)}
    (h : MInvF F m w blocked)
    (must : List Nat) (Q : Option (Model × List Nat) → World → Prop)
    (hsat : ∀ mdl w', MInvF F m w' blocked → w'.db m.sid = w.db m.sid → w'.calls = w.calls + 1 →
      F m.af (ofList (m.enc.decode m.af.n mdl)) →
      (∀ a ∈ must, a < m.af.n → a ∈ m.enc.decode m.af.n mdl) →
      (∀ E ∈ blocked, ¬ SubL (ofList (m.enc.decode m.af.n mdl)) E) →
      Q (some (mdl, m.enc.decode m.af.n mdl)) w')
    (hunsat : ∀ w', MInvF F m w' blocked → w'.db m.sid = w.db m.sid → w'.calls = w.calls + 1 →
      (∀ T, F m.af T → (∀ a ∈ must, a < m.af.n → T a = true) → ∃ E ∈ blocked, SubL T E) →
      Q none w') :
    wp C (m.solve (inL m.enc m.af.n must ++ [nl m.sel])) w Q := by
  unfold MEC.solve
  simp only [h.no_add, List.append_nil]
  rw [wp_bind']
  have hdb : ∀ r, ((w.onSolve m.sid (inL m.enc m.af.n must ++ [nl m.sel])).onReply m.sid r).db m.sid = w.db m.sid := by
    intro r; simp
  constructor
  · rintro mdl ⟨_, hΓ, hA⟩
    obtain ⟨h1, h2, h3, _⟩ := h.solve_sat must [] hΓ (by rw [List.append_nil]; exact hA)
    have hS := m.enc.ofList_decode m.af mdl
    refine hsat mdl _ (h.congr_db (hdb _)) (hdb _) rfl (by rw [hS]; exact h1) ?_ (by rw [hS]; exact h3)
    intro a ha hn
    exact (m.enc.decode_spec m.af mdl a).2 (h2 a ha hn)
  · intro hun
    refine hunsat _ (h.congr_db (hdb _)) (hdb _) rfl ?_
    intro T hT hmust
    exact h.solve_unsat must [] (by rw [List.append_nil]; exact hun) hT hmust (fun _ _ _ => rfl)

theorem blockAndAssume_pref {m : MEC} (hk : m.kind = .preferred) :
    m.blockAndAssume = (outL m.enc m.af.n m.cur ++ [pl m.sel], inL m.enc m.af.n m.cur ++ [nl m.sel]) := by
  unfold MEC.blockAndAssume
  rw [hk]
  simp only [splitInExt_eq]

theorem wp_increase_step {F : AF → ASet → Prop} {C : Prop} {m : MEC} {w : World} {blocked : List (List Nat)}
    (hM : MInvF F m w blocked) (hk : m.kind = .preferred) (hst : m.state = .intermediate)
    (Q : MEC → World → Prop)
    (hsat : ∀ mdl w', MInvF F m w' (m.cur :: blocked) → w'.db m.sid ≠ [] → w'.calls = w.calls + 1 →
      F m.af (ofList (m.enc.decode m.af.n mdl)) →
      (∀ a ∈ m.cur, a < m.af.n → a ∈ m.enc.decode m.af.n mdl) →
      (∀ E ∈ m.cur :: blocked, ¬ SubL (ofList (m.enc.decode m.af.n mdl)) E) →
      Q { m with cur := m.enc.decode m.af.n mdl, model := some mdl, state := .intermediate } w')
    (hunsat : ∀ w', MInvF F m w' (m.cur :: blocked) → w'.db m.sid ≠ [] → w'.calls = w.calls + 1 →
      (∀ T, F m.af T → (∀ a ∈ m.cur, a < m.af.n → T a = true) → ∃ E ∈ m.cur :: blocked, SubL T E) →
      Q { m with state := .maximal } w') :
    wp C m.computeNext w Q := by
  unfold MEC.computeNext
  rw [hst]
  simp only [blockAndAssume_pref hk]
  rw [wp_bind', wp_addClause1, wp_bind']
  have hne : ∀ w' : World, w'.db m.sid = (w.onClause m.sid (outL m.enc m.af.n m.cur ++ [pl m.sel])).db m.sid →
      w'.db m.sid ≠ [] := by
    intro w' hdb; rw [hdb, db_onClause_same]; exact List.cons_ne_nil _ _
  apply wp_MEC_solveF (hM.block m.cur) m.cur
  · intro mdl w' hM' hdb hcal hco hmust hblk
    exact hsat mdl w' hM' (hne w' hdb) hcal hco hmust hblk
  · intro w' hM' hdb hcal hun
    exact hunsat w' hM' (hne w' hdb) hcal hun

/-- the families of sets whose ⊆-maximal members are the preferred extensions and that contain the
complete extensions: the complete extensions themselves and the admissible sets -/
structure PrefFam (F : AF → ASet → Prop) : Prop where
  sub : ∀ {af : AF} {T : ASet}, F af T → ∀ a, T a = true → a < af.n
  of_co : ∀ {af : AF} {T : ASet}, Complete af T → F af T
  max_pref : ∀ {af : AF} {S : ASet}, F af S → (∀ T, F af T → SubsetS S T → SubsetS T S) → Preferred af S

theorem prefFam_complete : PrefFam Complete :=
  ⟨fun h => h.1.1.1, fun h => h, fun h hmax => preferred_of_max_complete h hmax⟩

theorem prefFam_admissible : PrefFam Admissible :=
  ⟨fun h => h.1.1, fun h => h.1, fun h hmax => ⟨h, hmax⟩⟩

structure GrowInvF (F : AF → ASet → Prop) (m : MEC) (w : World) (blocked : List (List Nat)) : Prop where
  minv : MInvF F m w blocked
  kind : m.kind = .preferred
  st : m.state = .intermediate ∨ m.state = .maximal
  cur_lt : ∀ a ∈ m.cur, a < m.af.n
  cur_co : F m.af (ofList m.cur)
  below : ∀ B ∈ blocked, ∀ a ∈ B, a ∈ m.cur
  max : m.state = .maximal → ∀ T, F m.af T → SubsetS (ofList m.cur) T → SubsetS T (ofList m.cur)

abbrev GrowInv (m : MEC) (w : World) (blocked : List (List Nat)) : Prop := GrowInvF Complete m w blocked

-- from here on `wp` is only used through its rules (the lemmas above take solve nodes apart): keeping
-- it folded spares the elaborator the attempt to evaluate the program at every step
attribute [local irreducible] wp

/-- bounds the calls `compute_maximal` still makes; one more bounds its iterations -/
def growMeasure (m : MEC) : Nat :=
  if m.state = .maximal then 0 else outside m.af.n (ofList m.cur) + 1

theorem outside_le (n : Nat) (S : ASet) : outside n S ≤ n := by
  unfold outside
  exact Nat.le_trans (List.length_filter_le _ _) (by simp)

theorem outside_lt_of_not_SubL {n : Nat} {cur cur' : List Nat} (hsub : ∀ a ∈ cur, a ∈ cur')
    (hlt : ∀ a ∈ cur', a < n) (hns : ¬ SubL (ofList cur') cur) :
    outside n (ofList cur') < outside n (ofList cur) := by
  refine outside_lt (fun x _ hx => ofList_true.2 (hsub x (ofList_true.1 hx))) ?_
  apply Classical.byContradiction
  intro hn
  apply hns
  intro a ha
  cases hc : ofList cur a with
  | true => exact ofList_true.1 hc
  | false => exact absurd ⟨a, hlt a (ofList_true.1 ha), hc, ha⟩ hn

/-- the SAT reply contains the current set and, that set being blocked, is not inside it: the
measure decreases -/
theorem wp_increaseF {F : AF → ASet → Prop} (hF : PrefFam F) {C : Prop} {m : MEC} {w : World}
    {blocked : List (List Nat)} (h : GrowInvF F m w blocked)
    (hst : m.state = .intermediate) :
    wp C m.computeNext w (fun m' w' => ∃ blocked', GrowInvF F m' w' blocked' ∧ m'.af = m.af ∧ m'.enc = m.enc ∧
      m'.sid = m.sid ∧ m'.sel = m.sel ∧ (∀ a ∈ m.cur, a ∈ m'.cur) ∧ w'.db m.sid ≠ [] ∧
      growMeasure m' + 1 ≤ growMeasure m ∧ w'.calls = w.calls + 1) := by
  have hμ : growMeasure m = outside m.af.n (ofList m.cur) + 1 := if_neg (by rw [hst]; intro hh; cases hh)
  apply wp_increase_step h.minv h.kind hst
  · intro mdl w' hM' hdb hcal hco hmust hblk
    have hsub : ∀ a ∈ m.cur, a ∈ m.enc.decode m.af.n mdl := fun a ha => hmust a ha (h.cur_lt a ha)
    have hlt : ∀ a ∈ m.enc.decode m.af.n mdl, a < m.af.n := fun a ha => hF.sub hco a (ofList_true.2 ha)
    refine ⟨m.cur :: blocked, ⟨hM'.congr_m rfl rfl rfl rfl rfl, h.kind, Or.inl rfl, hlt, hco, ?_, ?_⟩,
      rfl, rfl, rfl, rfl, hsub, ?_, ?_, hcal⟩
    · exact List.forall_mem_cons.2 ⟨hsub, fun B hB a ha => hsub a (h.below B hB a ha)⟩
    · intro hmax; cases hmax
    · exact hdb
    · rw [hμ]
      exact Nat.succ_le_succ (outside_lt_of_not_SubL hsub hlt (hblk m.cur List.mem_cons_self))
  · intro w' hM' hdb hcal hun
    refine ⟨m.cur :: blocked, ⟨hM'.congr_m rfl rfl rfl rfl rfl, h.kind, Or.inr rfl, h.cur_lt, h.cur_co, ?_, ?_⟩,
      rfl, rfl, rfl, rfl, fun a ha => ha, ?_, ?_, hcal⟩
    · exact List.forall_mem_cons.2 ⟨fun a ha => ha, h.below⟩
    · intro _ T hT hsub
      obtain ⟨E, hE, hTE⟩ := hun T hT (fun a ha _ => hsub a (ofList_true.2 ha))
      intro a hTa
      apply ofList_true.2
      rcases List.mem_cons.1 hE with rfl | hE
      · exact hTE a hTa
      · exact h.below E hE a (hTE a hTa)
    · exact hdb
    · rw [hμ]; exact Nat.succ_le_succ (Nat.zero_le _)

theorem wp_increase {C : Prop} {m : MEC} {w : World} {blocked : List (List Nat)} (h : GrowInv m w blocked)
    (hst : m.state = .intermediate) :
    wp C m.computeNext w (fun m' w' => ∃ blocked', GrowInv m' w' blocked' ∧ m'.af = m.af ∧ m'.enc = m.enc ∧
      m'.sid = m.sid ∧ m'.sel = m.sel ∧ (∀ a ∈ m.cur, a ∈ m'.cur) ∧ w'.db m.sid ≠ [] ) :=
  wp_mono _ _ _ _ (fun _ _ ⟨b, hG, h1, h2, h3, h4, h5, h6, _⟩ => ⟨b, hG, h1, h2, h3, h4, h5, h6⟩)
    (wp_increaseF prefFam_complete h hst)

theorem computeMaximal_specF {F : AF → ASet → Prop} (hF : PrefFam F) :
    ∀ (fuel : Nat) (m : MEC) (w : World) (blocked : List (List Nat)),
    GrowInvF F m w blocked →
    wp (fuel < growMeasure m + 1) (MEC.computeMaximal fuel m) w (fun e w' =>
      (Preferred m.af (ofList e) ∧ (∀ a ∈ m.cur, a ∈ e) ∧ ∀ a ∈ e, a < m.af.n) ∧
        w'.calls ≤ w.calls + growMeasure m) := by
  intro fuel
  induction fuel with
  | zero => intro _ _ _ _; exact (wp_crash _ _ _).2 (Nat.succ_pos _)
  | succ fuel ih =>
    intro m w blocked h
    unfold MEC.computeMaximal
    by_cases hmax : m.state = .maximal
    · simp only [hmax, beq_self_eq_true, if_true]
      rw [wp_bind', wp_drop, wp_pure]
      exact ⟨⟨hF.max_pref h.cur_co (h.max hmax), fun a ha => ha, h.cur_lt⟩, Nat.le_add_right _ _⟩
    · have hst : m.state = .intermediate := h.st.resolve_right hmax
      have hne : (m.state == MState.maximal) = false := by rw [hst]; rfl
      simp only [hne, Bool.false_eq_true, if_false]
      rw [wp_bind']
      refine wp_mono _ _ _ _ ?_ (wp_increaseF hF h hst)
      rintro m' w' ⟨blocked', hG, haf, _, _, _, hsub, _, hμ, hcalls⟩
      refine wp_conseq (fun hc => Nat.succ_lt_succ (Nat.lt_of_lt_of_le hc hμ)) _ _ _ _ ?_ (ih m' w' blocked' hG)
      rintro e w'' ⟨⟨h1, h2, h3⟩, hc⟩
      rw [haf] at h1 h3
      refine ⟨⟨h1, fun a ha => h2 a (hsub a ha), h3⟩, Nat.le_trans hc (Nat.le_trans (Nat.add_le_add_right (Nat.le_of_eq hcalls) _) ?_)⟩
      rw [Nat.add_assoc, Nat.add_comm 1]
      exact Nat.add_le_add_left hμ _

theorem wp_computeMaximal : ∀ (fuel : Nat) (m : MEC) (w : World) (blocked : List (List Nat)),
    GrowInv m w blocked →
    wp True (MEC.computeMaximal fuel m) w (fun e _ => Preferred m.af (ofList e) ∧ (∀ a ∈ m.cur, a ∈ e) ∧
      ∀ a ∈ e, a < m.af.n) :=
  fun fuel m w blocked h => wp_conseq (fun _ => trivial) _ _ _ _ (fun _ _ h => h.1)
    (computeMaximal_specF prefFam_complete fuel m w blocked h)

theorem GrowInvF_init {F : AF → ASet → Prop} (hF : PrefFam F) {m : MEC} {w : World} (h : MInvF F m w [])
    (hk : m.kind = .preferred) (hgr : GrOK m.af) :
    GrowInvF F { m with cur := groundedV m.af.view, state := .intermediate } w [] :=
  ⟨h.congr_m rfl rfl rfl rfl rfl, hk, Or.inl rfl, hgr.2.1, hF.of_co hgr.1, (fun B hB => by cases hB), (fun hh => by cases hh)⟩

theorem GrowInv_init {m : MEC} {w : World} (h : MInv m w []) (hk : m.kind = .preferred) (hgr : GrOK m.af) :
    GrowInv { m with cur := groundedV m.af.view, state := .intermediate } w [] :=
  GrowInvF_init prefFam_complete h hk hgr

/-- fuel `n + 3`: one iteration for the initial state, at most `n + 1` increase steps, one iteration
to notice the maximal state -/
theorem computeMaximal_init_specF {F : AF → ASet → Prop} (hF : PrefFam F) (fuel : Nat) (m : MEC) (w : World)
    (h : MInvF F m w []) (hk : m.kind = .preferred) (hst : m.state = .init) (hgr : GrOK m.af) :
    wp (fuel < m.af.n + 3) (MEC.computeMaximal fuel m) w (fun e w' =>
      (Preferred m.af (ofList e) ∧ ∀ a ∈ e, a < m.af.n) ∧ w'.calls ≤ w.calls + m.af.n + 1) := by
  cases fuel with
  | zero => exact (wp_crash _ _ _).2 (Nat.succ_pos _)
  | succ fuel =>
    rw [computeMaximal_init hst]
    have hμ : growMeasure { m with cur := groundedV m.af.view, state := .intermediate } ≤ m.af.n + 1 := by
      unfold growMeasure
      rw [if_neg (by intro hh; cases hh)]
      exact Nat.succ_le_succ (outside_le _ _)
    refine wp_conseq (fun hc => Nat.succ_lt_succ (Nat.lt_of_lt_of_le hc (Nat.succ_le_succ hμ))) _ _ _ _ ?_
      (computeMaximal_specF hF fuel _ w [] (GrowInvF_init hF h hk hgr))
    rintro e w' ⟨⟨h1, _, h3⟩, hc⟩
    exact ⟨⟨h1, h3⟩, Nat.le_trans hc (Nat.add_le_add_left hμ _)⟩

theorem wp_computeMaximal_init (fuel : Nat) (m : MEC) (w : World) (h : MInv m w []) (hk : m.kind = .preferred)
    (hst : m.state = .init) (hgr : GrOK m.af) :
    wp True (MEC.computeMaximal fuel m) w (fun e _ => Preferred m.af (ofList e) ∧ ∀ a ∈ e, a < m.af.n) :=
  wp_conseq (fun _ => trivial) _ _ _ _ (fun _ _ h => h.1)
    (computeMaximal_init_specF prefFam_complete fuel m w h hk hst hgr)

theorem prMaximalOfComp_specF {F : AF → ASet → Prop} (hF : PrefFam F) (cfg : Cfg)
    (hk : ∀ af T, cfg.enc.Base af T ↔ F af T) (c : Comp)
    (hwf : c.af.WF) (hgr : GrOK c.af) (w : World) (hb : w.Bounded) :
    wp (cfg.fuel < c.af.n + 3) (prMaximalOfComp cfg c) w (fun res w' => w'.Bounded ∧
      (∃ e, res = c.back e ∧ Preferred c.af (ofList e) ∧ ∀ a ∈ e, a < c.af.n) ∧
      w'.calls ≤ w.calls + c.af.n + 1) := by
  apply wp_bounded _ _ _ hb
  unfold prMaximalOfComp
  rw [wp_bind', wp_mkSolver, wp_bind']
  refine wp_mono _ _ _ _ ?_ (wp_encodeInto_onNew cfg.enc c.af false w hb)
  rintro _ w1 ⟨henc, hc1⟩
  rw [wp_bind']
  refine wp_mono _ _ _ _ ?_ (wp_MEC_newF henc hwf (hk _) .preferred)
  rintro m w2 ⟨hM, haf, hkind, hst, hc2⟩
  rw [wp_bind']
  refine wp_conseq (fun hc => by rw [haf] at hc; exact hc) _ _ _ _ ?_
    (computeMaximal_init_specF hF cfg.fuel m w2 hM hkind hst (by rw [haf]; exact hgr))
  rintro e w3 ⟨⟨h1, h2⟩, hc3⟩
  rw [haf] at h1 h2 hc3
  have h1' : w1.calls = w.calls := hc1
  have h2' : w2.calls = w1.calls := hc2
  exact (wp_pure _ _ _).2 ⟨⟨e, rfl, h1, h2⟩, by rw [h2', h1'] at hc3; exact hc3⟩

/-- what the skeptical search returns; with the shortcut allowed, `false` may come without the
counterexample -/
def SkeptOK (af : AF) (pos : List Nat) (allowShortcut : Bool) (res : Bool × Option (List Nat)) : Prop :=
  (res.1 = true → res.2 = none ∧ ∀ P, Preferred af P → HitsL pos P) ∧
  (res.1 = false → (∃ P, Preferred af P ∧ ¬ HitsL pos P) ∧
    (allowShortcut = false → ∃ e, res.2 = some e ∧ Preferred af (ofList e) ∧ ¬ HitsL pos (ofList e) ∧ ∀ a ∈ e, a < af.n))

/-- a complete set that attacks every queried argument: the preferred extension above it misses the query -/
theorem shortcut_miss {af : AF} {pos cur : List Nat} (hco : Complete af (ofList cur))
    (hatt : ∀ p ∈ pos, ∃ b ∈ af.attackers p, cur.contains b = true) : ∃ P, Preferred af P ∧ ¬ HitsL pos P := by
  obtain ⟨P, hP, hsub⟩ := exists_preferred_superset hco.1
  refine ⟨P, hP, ?_⟩
  rintro ⟨p, hp, hPp⟩
  obtain ⟨b, hb, hbc⟩ := hatt p hp
  have hbp : (b, p) ∈ af.atts := by
    unfold AF.attackers at hb
    obtain ⟨q, hq, rfl⟩ := List.mem_map.1 hb
    obtain ⟨hq1, hq2⟩ := List.mem_filter.1 hq
    have : q.2 = p := by simpa using hq2
    rw [← this]; exact hq1
  exact hP.1.1.2 p hPp ⟨b, hbp, hsub b hbc⟩

/-- the preferred computer as a search system: the members are the complete sets, a member is its own key -/
abbrev prefSys (m₀ : MEC) : Sys MEC :=
  MEC.asSys (Complete m₀.af) (Complete m₀.af) SetKey m₀

theorem prefSys_ok {m₀ : MEC} (hk0 : m₀.kind = .preferred) (hgr : GrOK m₀.af) : (prefSys m₀).OK := by
  refine MEC.asSys_ok (by unfold MEC.forb; rw [hk0]) hgr.1 hgr.2.1 ?_
  rw [MEC.key_of_not_range (by show m₀.kind ≠ .range; rw [hk0]; exact fun e => nomatch e)]
  exact fun _ _ h => h

theorem preferred_of_keyMax {af : AF} {key : Nat → Bool} {cur : List Nat} (hmax : KeyMax af.n (Complete af) SetKey key)
    (hks : Above af.n SetKey key (ofList cur)) (hco : Complete af (ofList cur)) : Preferred af (ofList cur) :=
  preferred_of_max_complete hco fun _ hT hsub a hTa =>
    hmax.max hks hT (fun a _ h => hsub a h) a (hT.1.1.1 a hTa) hTa

/-- **the skeptical loop**.  Each iteration uses one unit of fuel and meets one more complete set
(`metSize`), or ends the search; each call but the last is paid by such a set, the grounded extension pays
the last one.  A set that hits the query is discarded while it is intermediate, so an iteration never
starts in the maximal state.  `c0`: the calls made before the loop -/
theorem prSkeptLoop_spec {C : Prop} {m₀ : MEC} (hk0 : m₀.kind = .preferred) (hgr : GrOK m₀.af) (sc : Bool)
    (pos : List Nat) (c0 : Nat) : ∀ (fuel : Nat) (m : MEC) (w : World) (bl : List (Nat → Bool)) (met : List (List Nat)),
    (prefSys m₀).CHead (TopHit m₀.af.n (Complete m₀.af) SetKey (HitsL pos)) c0 met m w bl →
    (m.state = .intermediate → ¬ pos.any m.cur.contains = true) →
    C ∨ (extsCO m₀.af).length + 1 ≤ fuel + metSize m.state met →
    wp C (prSkeptLoop sc pos fuel m) w (fun res w' =>
      SkeptOK m₀.af pos sc res ∧ w'.calls ≤ c0 + (extsCO m₀.af).length) := by
  have hS := prefSys_ok hk0 hgr
  have hN := length_le_extsCO m₀.af
  have hex : ∀ {m : MEC} {w : World} {bl : List (Nat → Bool)}, (prefSys m₀).R m w bl →
      In m₀.af.n SetKey (ofList m.cur) m.key :=
    fun hR => setKey_exact (by rw [hR.1.kind, hk0]; exact fun e => nomatch e) _
  intro fuel
  induction fuel with
  | zero =>
    intro m _ _ _ h _ hf
    exact (wp_crash _ _ _).2 (h.fuel_zero hN hf)
  | succ fuel ih =>
    intro m w bl met h hnohit hf
    refine (wp_bind' m.computeNext _ w _).2 ?_
    refine wp_mono _ _ _ _ ?_ (hS.wp_cnext hex hN h)
    rintro m' w' ⟨hdone, ⟨hst, _, hall⟩ | ⟨hst, bl', met', h', hlen⟩ | ⟨hst, hstm, hcur, _, hmax⟩⟩
    · -- `(prefSys m₀).st m'` unfolds to `m'.state`; restated so that `rw` finds it in the program
      have hst : m'.state = .none := hst
      rw [hst]
      simp only
      rw [wp_bind', wp_drop]
      refine (wp_pure _ _ _).2 ⟨⟨fun _ => ⟨rfl, fun P hP => ?_⟩, fun hf => by simp at hf⟩, hdone⟩
      have hPco := preferred_complete hP
      refine all_hit hall hPco fun D hD hsub hh => hitsL_mono (hP.2 D hD.1 fun a ha => ?_) hh
      exact hsub a (hPco.1.1.1 a ha) ha
    · have hst : m'.state = .intermediate := hst
      have hco : Complete m₀.af (ofList m'.cur) := (h'.member hst).1
      rw [hst]
      simp only
      by_cases hhit : pos.any m'.cur.contains = true
      · rw [if_pos hhit, wp_bind']
        refine wp_mono _ _ _ _ ?_ (hS.wp_cdiscard hex h' hst fun B hB => ⟨_, hco, ?_, (hitsL_any _ _).1 hhit⟩)
        · rintro m'' w'' ⟨hst'', _, bl'', h''⟩
          have hst'' : m''.state = .justDiscarded := hst''
          exact ih m'' w'' bl'' _ h'' (fun e => nomatch (hst''.symm.trans e))
            (fuel_succ hlen (by rw [hst'']; rfl) hf)
        · exact fun a ha hBa => (h'.member hst).2.2 a ha (hB a ha hBa)
      · rw [if_neg hhit]
        by_cases hsc : (sc && pos.all (fun a => (m'.af.attackers a).any m'.cur.contains)) = true
        · rw [if_pos hsc, wp_bind', wp_drop]
          simp only [Bool.and_eq_true, List.all_eq_true, List.any_eq_true] at hsc
          refine (wp_pure _ _ _).2 ⟨⟨fun hf => by simp at hf, fun _ => ⟨?_, fun hf => by rw [hsc.1] at hf; cases hf⟩⟩, hdone⟩
          exact shortcut_miss hco (h'.rel.1.af ▸ hsc.2)
        · rw [if_neg hsc]
          exact ih m' w' bl' met' h' (fun _ => hhit) (fuel_succ hlen (by rw [hst]; rfl) hf)
    · have hst : m'.state = .maximal := hst
      have hcur : m'.cur = m.cur := hcur
      have hMem := h.member hstm
      rw [hst]
      simp only
      have hhit : ¬ pos.any m'.cur.contains = true := by rw [hcur]; exact hnohit hstm
      have : (!pos.any m'.cur.contains) = true := by
        cases hb : pos.any m'.cur.contains with
        | false => rfl
        | true => exact absurd hb hhit
      rw [if_pos this, wp_bind', wp_drop]
      have hpref : Preferred m₀.af (ofList m'.cur) := hcur ▸ preferred_of_keyMax hmax hMem.2.2 hMem.1
      have hnh : ¬ HitsL pos (ofList m'.cur) := fun hh => hhit ((hitsL_any _ _).2 hh)
      exact (wp_pure _ _ _).2 ⟨⟨fun hf => by simp at hf, fun _ => ⟨⟨_, hpref, hnh⟩, fun _ => ⟨_, rfl, hpref, hnh,
        fun a ha => hpref.1.1.1 a (ofList_true.2 ha)⟩⟩⟩, hdone⟩

/-- **DS-PR inside the merged component**, within `|CO|` SAT calls: the grounded extension and the SAT
replies are pairwise different complete sets, and each call but the last returns a new one -/
theorem prSkeptInCc_spec (cfg : Cfg) (hk : ∀ af T, cfg.enc.Base af T ↔ Complete af T) (c : Comp) (args : List Nat)
    (sc : Bool) (hwf : c.af.WF) (hgr : GrOK c.af) (w : World) (hb : w.Bounded) :
    wp (posAll c args = none ∨ cfg.fuel < (extsCO c.af).length + 1) (prSkeptInCc cfg c args sc) w
      (fun res w' => w'.Bounded ∧ (∀ pos, posAll c args = some pos → SkeptOK c.af pos sc res) ∧
        w'.calls ≤ w.calls + (extsCO c.af).length) := by
  apply wp_bounded _ _ _ hb
  unfold prSkeptInCc
  rw [wp_bind']
  refine wp_conseq Or.inl _ _ _ _ ?_ (wp_ccArgs_spec c args w)
  rintro pos w' ⟨hpos, hw⟩
  rw [hw, wp_bind', wp_mkSolver, wp_bind']
  refine wp_mono _ _ _ _ ?_ (wp_encodeInto_onNew cfg.enc c.af false w hb)
  rintro _ w1 ⟨henc, hc1⟩
  rw [wp_bind', wp_MEC_new_iff]
  have hD := (Den.of_encoded henc hwf (hk c.af) (kind := .preferred) (fun e => nomatch e)).1
  have hc1 : w1.calls = w.calls := hc1
  refine wp_mono _ _ _ _ ?_ (prSkeptLoop_spec (m₀ := MEC.init c.af cfg.enc _ _ .preferred)
    rfl hgr sc pos w.calls cfg.fuel _ _ [] []
    ⟨⟨⟨⟨rfl, rfl, rfl, rfl, rfl, rfl⟩, hD, fun _ => rfl⟩, Inv.nil, (fun e => nomatch e), Or.inl ⟨rfl, rfl⟩⟩, Cnt.nil,
      Nat.le_of_eq (congrArg (· + 1) hc1)⟩ (fun e => nomatch e)
    ((Nat.lt_or_ge cfg.fuel ((extsCO c.af).length + 1)).imp Or.inr id))
  rintro res _ ⟨hres, hcalls⟩
  refine ⟨?_, hcalls⟩
  intro pos' hpos'
  cases hpos.symm.trans hpos'
  exact hres

end Crusta
