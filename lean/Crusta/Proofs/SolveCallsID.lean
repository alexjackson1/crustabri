import Crusta.Proofs.SolveID

/-!
# C18 on the `Prog` models, ideal semantics: termination and SAT-call bound on one component

The `wp False` readings of `idOneForCc_spec` and `idCredForCc_spec` (`SolveID.lean`): with the stated
fuel no crash node is reached, and the calls are bounded.
-/

namespace Crusta

/-- **SE-ID on one component terminates** with fuel `|CO| + |PR| + 2` **within `2|CO| + |PR|` SAT
calls**, hence within the `2|base| + |PR| + 2` of property C18 -/
theorem idOneForCc_calls_c18 (cfg : Cfg) (hk : ∀ af T, cfg.enc.Base af T ↔ Complete af T) (c : Comp)
    (hwf : c.af.WF) (hgr : GrOK c.af) (w : World) (hb : w.Bounded)
    (hfuel : cfg.fuel ≥ (extsCO c.af).length + (extsPR c.af).length + 2) :
    wp False (idOneForCc cfg c) w
      (fun _ w' => w'.calls ≤ w.calls + 2 * (extsCO c.af).length + (extsPR c.af).length + 2) :=
  wp_conseq (fun hc => Nat.not_le_of_lt hc hfuel) _ _ _ _ (fun _ _ h => Nat.le_trans h.2 (Nat.le_add_right _ 2))
    (idOneForCc_spec cfg hk c hwf hgr w hb)

/-- **DC-ID on one component**: the same fuel and bound -/
theorem idCredForCc_calls_c18 (cfg : Cfg) (hk : ∀ af T, cfg.enc.Base af T ↔ Complete af T) (c : Comp)
    (pos : List Nat) (hwf : c.af.WF) (hgr : GrOK c.af) (w : World) (hb : w.Bounded)
    (hfuel : cfg.fuel ≥ (extsCO c.af).length + (extsPR c.af).length + 2) :
    wp False (idCredForCc cfg c pos) w
      (fun _ w' => w'.calls ≤ w.calls + 2 * (extsCO c.af).length + (extsPR c.af).length + 2) :=
  wp_conseq (fun hc => Nat.not_le_of_lt hc hfuel) _ _ _ _ (fun _ _ h => Nat.le_trans h.2 (Nat.le_add_right _ 2))
    (idCredForCc_spec cfg hk c pos hwf hgr w hb)

end Crusta
