import Crusta.Proofs.Sat
import Crusta.Proofs.RoundTripAux

/-!
# The exchange with the external SAT solver is lossless in both directions (C16)

Both texts are lists of `\n`-terminated lines (`IO.unlines`: `dimacs_eq_lines`, `renderModel_eq`), so
`splitNl` / `IO.lines` return these lines and the readers run over them.

To the solver: a small reference DIMACS reader (`readDimacs`), independent of the writer, reads
`Buffered.dimacs b as` back as the announced counts and the clauses of the buffer followed by one
unit clause per assumption (`readDimacs_dimacs`, `dimacs_header_exact`), for proper literals, i.e.
variables numbered from 1: an invariant of the buffer under proper operations (`proper_reachable`),
and a necessary hypothesis (`C16.dimacs_variable_zero_breaks`).

From the solver: a satisfiable reply for the model `m` in an arbitrary `Layout` (comment lines
anywhere, the literals split over value lines in any way) is parsed as `.sat (m.map some)`, for
`m.length ≤ isize::MAX` (`parseReply_renderModel`; the bound is necessary,
`parseReply_renderModel_big`).  Every prefix of its bytes that ends before the terminating `0` token
is reported as `.unknown` or `.abort _` (`truncated_reply_not_result`): every line of such a prefix
is what remains of a line after cutting its bytes (`IO.lines_take_forall`), and no remainder is the
line `s UNSATISFIABLE` or carries a `0` (`Quiet`; a non-empty part of a literal token is never read
as `0`), so `result_needs` applies.
-/

namespace Crusta.Sat
open Crusta Crusta.IO

theorem splitAsciiWs_spaced_append (ws : List Str) (h : ∀ w ∈ ws, Tok w) (rest : Str) :
    splitAsciiWs (ws.flatMap (fun w => w ++ [32]) ++ rest) = ws ++ splitAsciiWs rest := by
  induction ws with
  | nil => rfl
  | cons w ws ih =>
    simp only [List.flatMap_cons, List.append_assoc, List.cons_append, List.nil_append]
    rw [splitAsciiWs_word_ws w (h w (List.mem_cons_self ..)) 32 isAsciiWs_32,
      ih (fun x hx => h x (List.mem_cons_of_mem _ hx))]

theorem splitAsciiWs_spaced (ws : List Str) (h : ∀ w ∈ ws, Tok w) :
    splitAsciiWs (ws.flatMap (fun w => w ++ [32])) = ws := by
  simpa [splitAsciiWs_nil] using splitAsciiWs_spaced_append ws h []

theorem splitAsciiWs_sep (w : Str) (hw : Tok w) (ws : List Str) (h : ∀ t ∈ ws, Tok t) :
    splitAsciiWs (w ++ ws.flatMap (fun t => 32 :: t)) = w :: ws := by
  induction ws generalizing w with
  | nil => simpa using splitAsciiWs_word w hw
  | cons t ts ih =>
    simp only [List.flatMap_cons, List.cons_append]
    rw [splitAsciiWs_word_ws w hw 32 isAsciiWs_32,
      ih t (h t (List.mem_cons_self ..)) (fun x hx => h x (List.mem_cons_of_mem _ hx))]

theorem tok_no_nl (w : Str) (hw : Tok w) : ∀ c ∈ w, c ≠ 10 := by
  rintro c hc rfl
  exact absurd (hw.2 10 hc) (by decide)

theorem tok_digits (k : Nat) : Tok (natToStr k) :=
  ⟨natToStr_ne_nil k, fun c hc => by
    have := natToStr_digits k c hc
    simp only [isAsciiWs, Bool.or_eq_false_iff, beq_eq_false_iff_ne]; omega⟩

/-- the token of variable `i + 1` with value `b` -/
def litTok (i : Nat) (b : Bool) : Str := if b then natToStr (i + 1) else 45 :: natToStr (i + 1)

theorem tok_litTok (i : Nat) (b : Bool) : Tok (litTok i b) := by
  unfold litTok
  split
  · exact tok_digits _
  · exact tok_cons 45 _ (by decide) (tok_digits _).2

/-! ## A reference DIMACS reader, written in the obvious way and independent of the writer
(unbounded integers, so that no size hypothesis is needed) -/

/-- split at `\n` (`k` newlines give `k + 1` segments) -/
def splitNl : Str → List Str
  | [] => [[]]
  | c :: cs =>
    if c = 10 then [] :: splitNl cs
    else match splitNl cs with
      | [] => [[c]]
      | h :: t => (c :: h) :: t

def parseNat (w : Str) : Option Nat :=
  if w.isEmpty || !w.all isAsciiDigit then none else some (digitsVal w)

/-- an optional `-`, then a natural number -/
def parseInt (w : Str) : Option Int :=
  match w with
  | 45 :: r => (parseNat r).map (fun n => -(n : Int))
  | r => (parseNat r).map (fun n => (n : Int))

/-- the inverse of `Lit.toInt` on non-zero integers -/
def litOfInt (i : Int) : Lit := ⟨i.natAbs, decide (0 < i)⟩

/-- the literals of a clause line: non-zero integers, then the terminating `0` as last token -/
def readLits : List Str → Option Clause
  | [] => none
  | w :: ws =>
    match parseInt w with
    | none => none
    | some i =>
      if i = 0 then (if ws.isEmpty then some [] else none)
      else (readLits ws).map (litOfInt i :: ·)

/-- one clause per non-empty line -/
def readClauses : List Str → Option (List Clause)
  | [] => some []
  | l :: ls =>
    if l.isEmpty then readClauses ls
    else match readLits (splitAsciiWs l) with
      | none => none
      | some c => (readClauses ls).map (c :: ·)

/-- the reference reader: `(announced variables, announced clauses, clauses)` -/
def readDimacs (s : Str) : Option (Nat × Nat × List Clause) :=
  match splitNl s with
  | [] => none
  | h :: rest =>
    match splitAsciiWs h with
    | [p, cnf, v, c] =>
      if p == strOf "p" && cnf == strOf "cnf" then
        match parseNat v, parseNat c, readClauses rest with
        | some nv, some nc, some cls => some (nv, nc, cls)
        | _, _, _ => none
      else none
    | _ => none

/-- the number of clause lines of a DIMACS text: the non-empty lines after the header -/
def clauseLineCount (s : Str) : Nat := (((splitNl s).drop 1).filter (fun l => !l.isEmpty)).length

theorem splitNl_line (l : Str) (h : ∀ c ∈ l, c ≠ 10) (rest : Str) :
    splitNl (l ++ 10 :: rest) = l :: splitNl rest := by
  induction l with
  | nil => simp [splitNl]
  | cons c cs ih =>
    have hc : c ≠ 10 := h c (List.mem_cons_self ..)
    simp only [List.cons_append, splitNl, hc, if_false]
    rw [ih (fun d hd => h d (List.mem_cons_of_mem _ hd))]

theorem splitNl_unlines (ls : List Str) (h : ∀ l ∈ ls, ∀ c ∈ l, c ≠ 10) :
    splitNl (unlines ls) = ls ++ [[]] := by
  induction ls with
  | nil => simp [unlines_nil, splitNl]
  | cons l ls ih =>
    rw [unlines_cons, List.append_assoc, List.singleton_append, splitNl_line l (h l (List.mem_cons_self ..)),
      ih (fun x hx => h x (List.mem_cons_of_mem _ hx)), List.cons_append]

theorem intStr_lit (l : Lit) (hl : 1 ≤ l.var) : Buffered.intStr l.toInt = litTok (l.var - 1) l.pos := by
  obtain ⟨v, p⟩ := l
  obtain ⟨k, rfl⟩ := Nat.exists_eq_succ_of_ne_zero (Nat.ne_of_gt hl)
  cases p
  · -- `toString` of a negative `Int` is `"-"` followed by the numeral of its absolute value
    show strOf (Int.repr (Int.negSucc k)) = 45 :: strOf (Nat.repr (k + 1))
    simp only [Int.repr, strOf, String.toList_append, List.map_append]
    rfl
  · rfl

theorem parseNat_natToStr (k : Nat) : parseNat (natToStr k) = some k := by
  have he : (natToStr k).isEmpty = false := by simp [natToStr_ne_nil k]
  simp [parseNat, he, natToStr_all_digit k, digitsVal_natToStr k]

theorem parseInt_of_head (c : Nat) (cs : Str) (hc : c ≠ 45) :
    parseInt (c :: cs) = (parseNat (c :: cs)).map (fun n => (n : Int)) := by
  unfold parseInt
  split
  · rename_i h; cases h; exact absurd rfl hc
  · rfl

theorem parseInt_litTok (i : Nat) (b : Bool) :
    parseInt (litTok i b) = some (Lit.toInt ⟨i + 1, b⟩) := by
  cases b
  · simp [litTok, parseInt, parseNat_natToStr, Lit.toInt]
  · cases hs : natToStr (i + 1) with
    | nil => exact absurd hs (natToStr_ne_nil _)
    | cons c cs =>
      have hc := natToStr_digits _ c (by rw [hs]; exact List.mem_cons_self ..)
      simp only [litTok, if_true, hs]
      rw [parseInt_of_head c cs (Nat.ne_of_gt (Nat.lt_of_lt_of_le (by decide) hc.1)), ← hs, parseNat_natToStr]
      rfl

theorem litOfInt_toInt (l : Lit) (hl : 1 ≤ l.var) : l.toInt ≠ 0 ∧ litOfInt l.toInt = l := by
  obtain ⟨v, p⟩ := l
  cases p <;> simp [Lit.toInt, litOfInt] at hl ⊢ <;> omega

/-- a clause line without its `\n` -/
def clauseBody (c : Clause) : Str := c.flatMap (fun l => Buffered.intStr l.toInt ++ [32]) ++ [48]

theorem tok_zero : Tok [48] := tok_cons 48 [] (by decide) (by simp)

theorem readLits_clauseBody (c : Clause) (hc : ∀ l ∈ c, 1 ≤ l.var) :
    readLits (splitAsciiWs (clauseBody c)) = some c := by
  unfold clauseBody
  induction c with
  | nil => simp [splitAsciiWs_word _ tok_zero, readLits, (by decide : parseInt [48] = some 0)]
  | cons l c ih =>
    have hl := hc l (List.mem_cons_self ..)
    obtain ⟨h0, h1⟩ := litOfInt_toInt l hl
    have hp : parseInt (Buffered.intStr l.toInt) = some l.toInt := by
      rw [intStr_lit l hl, parseInt_litTok, Nat.sub_add_cancel hl]
    simp only [List.flatMap_cons, List.append_assoc, List.cons_append, List.nil_append]
    rw [splitAsciiWs_word_ws _ (intStr_lit l hl ▸ tok_litTok _ _) 32 isAsciiWs_32]
    simp only [readLits, hp, h0, if_false, ih (fun x hx => hc x (List.mem_cons_of_mem _ hx)), h1,
      Option.map_some]

theorem readClauses_bodies (cs : List Clause) (h : ∀ c ∈ cs, ∀ l ∈ c, 1 ≤ l.var) :
    readClauses (cs.map clauseBody ++ [[]]) = some cs := by
  induction cs with
  | nil => simp [readClauses]
  | cons c cs ih =>
    have he : (clauseBody c).isEmpty = false :=
      List.isEmpty_eq_false_iff.2 (List.append_ne_nil_of_right_ne_nil _ (List.cons_ne_nil _ _))
    simp only [List.map_cons, List.cons_append, readClauses, he, Bool.false_eq_true,
      if_false, readLits_clauseBody c (h c (List.mem_cons_self ..))]
    rw [ih (fun x hx => h x (List.mem_cons_of_mem _ hx))]
    rfl

theorem clauseBody_no_nl (c : Clause) (hc : ∀ l ∈ c, 1 ≤ l.var) : ∀ x ∈ clauseBody c, x ≠ 10 := by
  intro x hx
  simp only [clauseBody, List.mem_append, List.mem_flatMap, List.mem_singleton] at hx
  rcases hx with ⟨l, hl, hx | rfl⟩ | rfl
  · exact tok_no_nl _ (intStr_lit l (hc l hl) ▸ tok_litTok _ _) x hx
  · decide
  · decide

def dimacsHeader (nv nc : Nat) : Str := strOf "p cnf " ++ natToStr nv ++ [32] ++ natToStr nc

theorem strOf_p_cnf : strOf "p cnf " = [112, 32, 99, 110, 102, 32] := by decide +kernel

theorem dimacsHeader_eq (nv nc : Nat) :
    dimacsHeader nv nc =
      [[112], [99, 110, 102], natToStr nv].flatMap (fun w => w ++ [32]) ++ natToStr nc := by
  simp only [dimacsHeader, strOf_p_cnf, List.cons_append, List.nil_append, List.append_assoc, List.flatMap_cons,
    List.flatMap_nil, List.append_nil]

theorem tok_header (nv : Nat) : ∀ w ∈ [[112], [99, 110, 102], natToStr nv], Tok w :=
  List.forall_mem_cons.2 ⟨⟨nofun, by decide⟩, List.forall_mem_cons.2 ⟨⟨nofun, by decide⟩,
    List.forall_mem_cons.2 ⟨tok_digits nv, nofun⟩⟩⟩

theorem splitAsciiWs_header (nv nc : Nat) :
    splitAsciiWs (dimacsHeader nv nc) = [[112], [99, 110, 102], natToStr nv, natToStr nc] := by
  rw [dimacsHeader_eq, splitAsciiWs_spaced_append _ (tok_header nv), splitAsciiWs_word _ (tok_digits nc)]
  rfl

theorem dimacsHeader_no_nl (nv nc : Nat) : ∀ x ∈ dimacsHeader nv nc, x ≠ 10 := by
  intro x hx
  simp only [dimacsHeader_eq, List.mem_append, List.mem_flatMap, List.mem_singleton] at hx
  rcases hx with ⟨w, hw, hx | rfl⟩ | hx
  · exact tok_no_nl w (tok_header nv w hw) x hx
  · decide
  · exact tok_no_nl _ (tok_digits nc) x hx

/-- the DIMACS text as a list of `\n`-terminated lines: the header, one line per clause, one unit
line per assumption -/
theorem dimacs_eq_lines (b : Buffered) (as : List Lit) :
    Buffered.dimacs b as =
      unlines (dimacsHeader (b.withAssumptions as).nVars (b.clauses.length + as.length) ::
        (b.clauses ++ as.map (fun a => [a])).map clauseBody) := by
  have e : Buffered.clauseLine = fun c => clauseBody c ++ [10] :=
    funext fun c => by simp [Buffered.clauseLine, clauseBody]
  simp only [unlines, Buffered.dimacs, Buffered.withAssumptions, List.append_assoc, List.cons_append, List.nil_append, e,
    clauseBody, (by decide : strOf " 0\n" = [32, 48, 10]), dimacsHeader, List.map_append, List.map_map, List.flatMap_cons, List.flatMap_append,
    List.flatMap_map, Function.comp_apply, List.flatMap_nil, List.append_nil]

/-- proper literals: DIMACS variables are numbered from 1 (variable `0` would render as the
clause terminator) -/
def ProperLits (cs : List Clause) : Prop := ∀ c ∈ cs, ∀ l ∈ c, 1 ≤ l.var

theorem readDimacs_lines (nv nc : Nat) (cs : List Clause) (h : ProperLits cs) :
    readDimacs (unlines (dimacsHeader nv nc :: cs.map clauseBody)) =
      some (nv, nc, cs) := by
  unfold readDimacs
  rw [splitNl_unlines]
  · have h1 : (([112] : Str) == strOf "p") = true := by decide
    have h2 : (([99, 110, 102] : Str) == strOf "cnf") = true := by decide
    simp only [List.cons_append, splitAsciiWs_header, h1, h2, Bool.and_self, if_true,
      parseNat_natToStr, readClauses_bodies cs h]
  · refine List.forall_mem_cons.2 ⟨dimacsHeader_no_nl nv nc, fun l hl => ?_⟩
    obtain ⟨c, hc, rfl⟩ := List.mem_map.1 hl
    exact clauseBody_no_nl c (h c hc)

theorem forall_instance_lits {P : Lit → Prop} {cs : List Clause} {as : List Lit}
    (hc : ∀ c ∈ cs, ∀ l ∈ c, P l) (ha : ∀ a ∈ as, P a) :
    ∀ c ∈ cs ++ as.map (fun a => [a]), ∀ l ∈ c, P l := by
  intro c hm l hl
  rcases List.mem_append.1 hm with hm | hm
  · exact hc c hm l hl
  · obtain ⟨a, ha', rfl⟩ := List.mem_map.1 hm
    rw [List.mem_singleton.1 hl]; exact ha a ha'

/-- **the DIMACS text denotes exactly the instance**: the reference reader reads back the
announced counts, and exactly the buffered clauses followed by one unit clause per assumption, in
order. -/
theorem readDimacs_dimacs (b : Buffered) (as : List Lit)
    (hb : ProperLits b.clauses) (has : ∀ a ∈ as, 1 ≤ a.var) :
    readDimacs (Buffered.dimacs b as) =
      some ((b.withAssumptions as).nVars, b.clauses.length + as.length,
        b.clauses ++ as.map (fun a => [a])) := by
  rw [dimacs_eq_lines]
  exact readDimacs_lines _ _ _ (forall_instance_lits hb has)

theorem readClauses_length (ls : List Str) : ∀ cls, readClauses ls = some cls →
    cls.length = (ls.filter (fun l => !l.isEmpty)).length := by
  induction ls with
  | nil => intro cls h; cases h; rfl
  | cons l ls ih =>
    intro cls h
    simp only [readClauses] at h
    cases hl : l.isEmpty
    · rw [hl] at h
      simp only [Bool.false_eq_true, if_false] at h
      split at h
      · cases h
      · obtain ⟨cls', hr, rfl⟩ := Option.map_eq_some_iff.1 h
        simp [hl, ih cls' hr]
    · rw [hl, if_pos rfl] at h
      simp [hl, ih cls h]

theorem readDimacs_count (s : Str) (nv nc : Nat) (cls : List Clause)
    (h : readDimacs s = some (nv, nc, cls)) : cls.length = clauseLineCount s := by
  unfold readDimacs at h
  unfold clauseLineCount
  split at h
  · cases h
  · rename_i hd rest hs
    rw [hs]
    split at h
    · split at h
      · split at h
        · rename_i hr
          cases h
          exact readClauses_length rest _ hr
        · cases h
      · cases h
    · cases h

/-- an operation whose clause (if any) uses DIMACS variables, i.e. variables numbered from 1 -/
def BOp.Proper : BOp → Prop
  | .add c => ∀ l ∈ c, 1 ≤ l.var
  | _ => True

theorem proper_apply (b : Buffered) (op : BOp) (h : ProperLits b.clauses) (hop : op.Proper) :
    ProperLits (b.apply op).clauses := by
  cases op with
  | add c =>
    intro c' hc'
    simp only [Buffered.apply, Buffered.addClause, List.mem_append, List.mem_singleton] at hc'
    rcases hc' with hc' | rfl
    · exact h c' hc'
    · exact hop
  | reserve n =>
    simp only [Buffered.apply, Buffered.reserve]
    split <;> exact h
  | solve as => exact h

theorem proper_reachable (ops : List BOp) (h : ∀ op ∈ ops, op.Proper) :
    ProperLits (ops.foldl Buffered.apply {}).clauses :=
  Buffered.reachable_ind (P := fun b => ProperLits b.clauses) (fun c hc => by cases hc) proper_apply ops h

/-- **the header is exact**: for every history of proper operations and every call
with proper assumptions, the text is accepted by the reference reader, the number of clause lines
of the text is exactly the announced clause count (and the number of clauses read), and every
variable of every clause read is between 1 and the announced variable count. -/
theorem dimacs_header_exact (ops : List BOp) (as : List Lit)
    (hops : ∀ op ∈ ops, op.Proper) (has : ∀ a ∈ as, 1 ≤ a.var) :
    let b := ops.foldl Buffered.apply {}
    ∃ nv nc cls, readDimacs (b.dimacs as) = some (nv, nc, cls) ∧
      cls = b.clauses ++ as.map (fun a => [a]) ∧
      clauseLineCount (b.dimacs as) = nc ∧ cls.length = nc ∧
      ∀ c ∈ cls, ∀ l ∈ c, 1 ≤ l.var ∧ l.var ≤ nv := by
  intro b
  have hb : ProperLits b.clauses := proper_reachable ops hops
  have hr := readDimacs_dimacs b as hb has
  have hwf := dimacs_wellformed ops as
  refine ⟨_, _, _, hr, rfl, ?_, by simp, ?_⟩
  · rw [← readDimacs_count _ _ _ _ hr]; simp
  · exact forall_instance_lits (fun c hc l hl => ⟨hb c hc l hl, hwf.1 c hc l hl⟩)
      (fun a ha => ⟨has a ha, hwf.2 a ha⟩)

/-- a line the reply parser skips: empty, `c`, or `c <text>`, with any text that can be written and
read back (`LineOk`) -/
def Noise (l : Str) : Prop := LineOk l ∧ (l = [] ∨ l = [99] ∨ ∃ t, l = 99 :: 32 :: t)

/-- the tokens of the values `bs` of variables `i + 1, i + 2, …` -/
def litToks (i : Nat) : List Bool → List Str
  | [] => []
  | b :: bs => litTok i b :: litToks (i + 1) bs

/-- a value line: `v` followed by ` <token>` for every token -/
def vLine (toks : List Str) : Str := 118 :: toks.flatMap (fun t => 32 :: t)

/-- how a reply is laid out: comment lines before the status line; then any number of value lines,
each preceded by comment lines and carrying the next `k` literals (fewer if the model is
exhausted, possibly none); then comment lines, the last value line with all remaining literals and
the terminating `0`; then comment lines -/
structure Layout where
  pre : List Str
  chunks : List (List Str × Nat)
  mid : List Str
  post : List Str

def Layout.Ok (lay : Layout) : Prop :=
  (∀ l ∈ lay.pre, Noise l) ∧ (∀ ch ∈ lay.chunks, ∀ l ∈ ch.1, Noise l) ∧
  (∀ l ∈ lay.mid, Noise l) ∧ (∀ l ∈ lay.post, Noise l)

/-- the lines from the first value line to the last one.  `last` renders the last value line from
its tokens: closed by `0` in the full reply (`replyLines`), stopping right before the `0` in the
truncated one (`headLines`); the lemmas on `bodyLines` hold for any `last`. -/
def bodyLines (last : List Str → List Str) (mid : List Str) (i : Nat) (bs : List Bool) :
    List (List Str × Nat) → List Str
  | [] => mid ++ last (litToks i bs)
  | (cs, k) :: rest =>
    cs ++ vLine (litToks i (bs.take k)) :: bodyLines last mid (i + (bs.take k).length) (bs.drop k) rest

/-- the lines of a satisfiable reply for the model `m` -/
def replyLines (m : List Bool) (lay : Layout) : List Str :=
  lay.pre ++ sSat :: (bodyLines (fun toks => [vLine (toks ++ [[48]])]) lay.mid 0 m lay.chunks ++ lay.post)

/-- **the rendering of a satisfiable reply**, every line `\n`-terminated, as UTF-8 bytes -/
def renderModel (m : List Bool) (lay : Layout) : List UInt8 :=
  encodeUtf8 ((replyLines m lay).flatMap (fun l => l ++ [10]))

/-- **the rendering of an unsatisfiable reply**: comment lines, the status line, comment lines -/
def renderUnsat (pre post : List Str) : List UInt8 :=
  encodeUtf8 ((pre ++ sUnsat :: post).flatMap (fun l => l ++ [10]))

theorem renderModel_eq (m : List Bool) (lay : Layout) :
    renderModel m lay = encodeUtf8 (unlines (replyLines m lay)) := rfl

theorem renderUnsat_eq (pre post : List Str) :
    renderUnsat pre post = encodeUtf8 (unlines (pre ++ sUnsat :: post)) := rfl

theorem mem_litToks (bs : List Bool) : ∀ i, ∀ t ∈ litToks i bs, ∃ j b, t = litTok j b := by
  induction bs with
  | nil => intro i t ht; cases ht
  | cons b bs ih =>
    intro i t ht
    rcases List.mem_cons.1 ht with rfl | ht
    · exact ⟨i, b, rfl⟩
    · exact ih _ t ht

theorem tok_litToks (bs : List Bool) (i : Nat) : ∀ t ∈ litToks i bs, Tok t := fun t ht => by
  obtain ⟨j, b, rfl⟩ := mem_litToks bs i t ht
  exact tok_litTok j b

theorem litToks_append (i : Nat) (a b : List Bool) :
    litToks i (a ++ b) = litToks i a ++ litToks (i + a.length) b := by
  induction a generalizing i with
  | nil => rfl
  | cons x xs ih =>
    simp only [List.cons_append, litToks, List.length_cons]
    rw [ih, Nat.add_assoc, Nat.add_comm 1]

theorem parseIsize_litTok (i : Nat) (b : Bool) (hi : i + 1 ≤ 9223372036854775807) :
    parseIsize (litTok i b) = some (Lit.toInt ⟨i + 1, b⟩) := by
  cases b
  · have he : (natToStr (i + 1)).isEmpty = false := by simp [natToStr_ne_nil]
    simp only [litTok, Lit.toInt, Bool.false_eq_true, if_false]
    rw [parseIsize_neg, he, natToStr_all_digit, digitsVal_natToStr, if_neg (by simp), if_pos (Nat.le_succ_of_le hi)]
  · simp only [litTok, Lit.toInt, if_true]
    exact parseIsize_natToStr _ hi

theorem vTokens_litTok (nv : Nat) (st : PSt) (i : Nat) (b : Bool) (rest : List Str) (hi : i < nv)
    (hmax : i + 1 ≤ 9223372036854775807) :
    vTokens nv st (litTok i b :: rest) = vTokens nv { st with asg := st.asg.set i (some b) } rest := by
  obtain ⟨h0, h1⟩ := litOfInt_toInt ⟨i + 1, b⟩ (Nat.le_add_left 1 i)
  injection h1 with ha hp
  rw [vTokens_lit (parseIsize_litTok i b hmax) h0 (by rw [ha]; exact hi), ha, hp]
  rfl

/-- the assignment after the values `bs` have been written at the positions `i, i+1, …` -/
def writeFrom (asg : List (Option Bool)) (i : Nat) : List Bool → List (Option Bool)
  | [] => asg
  | b :: bs => writeFrom (asg.set i (some b)) (i + 1) bs

theorem writeFrom_append (asg : List (Option Bool)) (i : Nat) (a b : List Bool) :
    writeFrom asg i (a ++ b) = writeFrom (writeFrom asg i a) (i + a.length) b := by
  induction a generalizing asg i with
  | nil => rfl
  | cons x xs ih =>
    simp only [List.cons_append, writeFrom, List.length_cons]
    rw [ih]
    congr 1
    omega

theorem writeFrom_spec (bs : List Bool) : ∀ (pre : List (Option Bool)) (r : Nat),
    writeFrom (pre ++ List.replicate (bs.length + r) none) pre.length bs =
      pre ++ bs.map some ++ List.replicate r none := by
  induction bs with
  | nil => intro pre r; simp [writeFrom]
  | cons b bs ih =>
    intro pre r
    have e : (b :: bs).length + r = (bs.length + r) + 1 := Nat.add_right_comm _ 1 r
    have := ih (pre ++ [some b]) r
    simp only [List.length_append, List.length_singleton] at this
    simp only [writeFrom, e, List.replicate_succ, List.map_cons]
    rw [List.set_append_right _ _ (Nat.le_refl _)]
    simp only [Nat.sub_self, List.set_cons_zero]
    simpa only [List.append_assoc, List.cons_append, List.nil_append] using this

theorem vTokens_lits (nv : Nat) (bs : List Bool) :
    ∀ (i : Nat) (st : PSt) (rest : List Str), i + bs.length ≤ nv →
      i + bs.length ≤ 9223372036854775807 →
      vTokens nv st (litToks i bs ++ rest) = vTokens nv { st with asg := writeFrom st.asg i bs } rest := by
  induction bs with
  | nil => intro i st rest _ _; rfl
  | cons b bs ih =>
    intro i st rest hi hmax
    simp only [List.length_cons] at hi hmax
    simp only [litToks, List.cons_append, writeFrom]
    have h1 : i + 1 ≤ i + (bs.length + 1) := Nat.add_le_add_left (Nat.le_add_left 1 _) i
    rw [vTokens_litTok nv st i b _ (Nat.le_trans h1 hi) (Nat.le_trans h1 hmax),
      ih (i + 1) _ rest (by rwa [Nat.add_assoc, Nat.add_comm 1]) (by rwa [Nat.add_assoc, Nat.add_comm 1])]

theorem replyLine_noise (nv : Nat) (st : PSt) (l : Str) (h : Noise l) :
    replyLine nv st (some l) = .ok st := by
  apply replyLine_skip
  rcases h.2 with rfl | rfl | ⟨t, rfl⟩
  · exact .inr (.inr (.inr rfl))
  · exact .inr (.inl rfl)
  · exact .inl ⟨t, rfl⟩

theorem foldLines_noise (nv : Nat) (st : PSt) (ls : List Str) (h : ∀ l ∈ ls, Noise l) :
    foldLines (replyLine nv) st (ls.map some) = .ok st := by
  induction ls with
  | nil => rfl
  | cons l ls ih =>
    rw [List.map_cons, foldLines_cons_of_ok _ (replyLine_noise nv st l (h l (List.mem_cons_self ..)))]
    exact ih (fun x hx => h x (List.mem_cons_of_mem _ hx))

theorem replyLine_vLine (nv : Nat) (st : PSt) (toks : List Str) (h : ∀ t ∈ toks, Tok t) (hne : toks ≠ []) :
    replyLine nv st (some (vLine toks)) = vTokens nv { st with seen := true } toks := by
  cases toks with
  | nil => exact absurd rfl hne
  | cons t ts =>
    show replyLine nv st (some (118 :: 32 :: (t ++ ts.flatMap (fun t => 32 :: t)))) = _
    rw [replyLine_vline, splitAsciiWs_sep t (h t (List.mem_cons_self ..)) ts
      (fun x hx => h x (List.mem_cons_of_mem _ hx))]

theorem tok_litToks_zero (bs : List Bool) (i : Nat) : ∀ t ∈ litToks i bs ++ [[48]], Tok t := by
  intro t ht
  rcases List.mem_append.1 ht with ht | ht
  · exact tok_litToks bs i t ht
  · rw [List.mem_singleton.1 ht]; exact tok_zero

/-- `∃ sn`: without values the line is the bare `v`, which the parser skips without setting `seen` -/
theorem replyLine_chunk (nv : Nat) (hnv : nv ≤ 9223372036854775807) (st : PSt) (i : Nat) (bs : List Bool)
    (hi : i + bs.length ≤ nv) :
    ∃ sn, replyLine nv st (some (vLine (litToks i bs))) =
      .ok { st with seen := sn, asg := writeFrom st.asg i bs } := by
  cases bs with
  | nil => exact ⟨st.seen, replyLine_skip nv st _ (.inr (.inr (.inl rfl)))⟩
  | cons b bs =>
    refine ⟨true, ?_⟩
    rw [replyLine_vLine nv st _ (tok_litToks _ i) (by simp [litToks]),
      ← List.append_nil (litToks i (b :: bs)), vTokens_lits nv _ i _ [] hi (by omega)]
    rfl

theorem replyLine_last (nv : Nat) (hnv : nv ≤ 9223372036854775807) (st : PSt) (i : Nat) (bs : List Bool)
    (hi : i + bs.length ≤ nv) (he : st.ended = false) :
    replyLine nv st (some (vLine (litToks i bs ++ [[48]]))) =
      .ok { status := st.status, asg := writeFrom st.asg i bs, seen := true, ended := true } := by
  rw [replyLine_vLine nv st _ (tok_litToks_zero bs i) (by simp), vTokens_lits nv bs i _ _ hi (by omega),
    vTokens_zero (by decide) (by exact he)]
  rfl

theorem foldLines_body (nv : Nat) (hnv : nv ≤ 9223372036854775807) (mid : List Str)
    (hmid : ∀ l ∈ mid, Noise l) (chunks : List (List Str × Nat)) :
    (∀ ch ∈ chunks, ∀ l ∈ ch.1, Noise l) → ∀ (i : Nat) (bs : List Bool) (st : PSt),
      i + bs.length ≤ nv → st.ended = false →
      foldLines (replyLine nv) st
          ((bodyLines (fun toks => [vLine (toks ++ [[48]])]) mid i bs chunks).map some) =
        .ok { status := st.status, asg := writeFrom st.asg i bs, seen := true, ended := true } := by
  induction chunks with
  | nil =>
    intro _ i bs st hi he
    rw [bodyLines, List.map_append, foldLines_append_of_ok _ (foldLines_noise nv st mid hmid)]
    exact foldLines_cons_of_ok _ (replyLine_last nv hnv st i bs hi he)
  | cons ch chunks ih =>
    intro hch i bs st hi he
    obtain ⟨cs, k⟩ := ch
    have hlen : (bs.take k).length + (bs.drop k).length = bs.length := by
      rw [← List.length_append, List.take_append_drop]
    obtain ⟨sn, h1⟩ := replyLine_chunk nv hnv st i (bs.take k)
      (Nat.le_trans (Nat.add_le_add_left (List.length_take_le' k bs) i) hi)
    rw [bodyLines, List.map_append, List.map_cons,
      foldLines_append_of_ok _ (foldLines_noise nv st cs (hch _ (List.mem_cons_self ..))),
      foldLines_cons_of_ok _ h1]
    rw [ih (fun c hc => hch c (List.mem_cons_of_mem _ hc)) _ _
      { st with seen := sn, asg := writeFrom st.asg i (bs.take k) } (by rwa [Nat.add_assoc, hlen]) he]
    simp only [← writeFrom_append, List.take_append_drop]

theorem forall_bodyLines {P : Str → Prop} (last : List Str → List Str) (mid : List Str)
    (chunks : List (List Str × Nat)) (hmid : ∀ l ∈ mid, P l) (hch : ∀ ch ∈ chunks, ∀ l ∈ ch.1, P l)
    (hv : ∀ j bs, P (vLine (litToks j bs))) (hlast : ∀ j bs, ∀ l ∈ last (litToks j bs), P l) :
    ∀ (i : Nat) (bs : List Bool), ∀ l ∈ bodyLines last mid i bs chunks, P l := by
  induction chunks with
  | nil => exact fun i bs => List.forall_mem_append.2 ⟨hmid, hlast i bs⟩
  | cons ch chunks ih =>
    intro i bs
    exact List.forall_mem_append.2 ⟨hch ch (List.mem_cons_self ..), List.forall_mem_cons.2
      ⟨hv i _, ih (fun c hc => hch c (List.mem_cons_of_mem _ hc)) _ _⟩⟩

theorem printable_litToks (bs : List Bool) (i : Nat) : ∀ t ∈ litToks i bs, ∀ c ∈ t, 32 ≤ c ∧ c < 127 := by
  intro t ht c hc
  obtain ⟨j, b, rfl⟩ := mem_litToks bs i t ht
  unfold litTok at hc
  split at hc
  · exact natToStr_printable _ c hc
  · rcases List.mem_cons.1 hc with rfl | hc
    · decide
    · exact natToStr_printable _ c hc

theorem printable_vLine (toks : List Str) (h : ∀ t ∈ toks, ∀ c ∈ t, 32 ≤ c ∧ c < 127) :
    ∀ c ∈ vLine toks, 32 ≤ c ∧ c < 127 := by
  intro c hc
  simp only [vLine, List.mem_cons, List.mem_flatMap] at hc
  rcases hc with rfl | ⟨t, ht, rfl | hc⟩
  · decide
  · decide
  · exact h t ht c hc

theorem printable_sSat : ∀ c ∈ sSat, 32 ≤ c ∧ c < 127 := by decide

theorem lineOk_vLine_lits (i : Nat) (bs : List Bool) (extra : List Str)
    (he : ∀ t ∈ extra, ∀ c ∈ t, 32 ≤ c ∧ c < 127) : LineOk (vLine (litToks i bs ++ extra)) := by
  apply lineOk_of_printable
  apply printable_vLine
  intro t ht
  rcases List.mem_append.1 ht with ht | ht
  · exact printable_litToks bs i t ht
  · exact he t ht

theorem lineOk_replyLines (m : List Bool) (lay : Layout) (hlay : lay.Ok) :
    ∀ l ∈ replyLines m lay, LineOk l := by
  obtain ⟨hpre, hch, hmid, hpost⟩ := hlay
  refine List.forall_mem_append.2 ⟨fun l hl => (hpre l hl).1, List.forall_mem_cons.2
    ⟨lineOk_of_printable _ printable_sSat,
      List.forall_mem_append.2 ⟨forall_bodyLines _ _ _ (fun l h => (hmid l h).1) (fun ch hc l h => (hch ch hc l h).1)
        (fun j bs => ?_) (fun j bs l h => ?_) 0 m, fun l hl => (hpost l hl).1⟩⟩⟩
  · have := lineOk_vLine_lits j bs [] nofun
    rwa [List.append_nil] at this
  · rw [List.mem_singleton.1 h]
    exact lineOk_vLine_lits j bs [[48]] (by decide)

/-- general form: the solver was asked about `r` more variables than the reply mentions -/
theorem parseReply_renderModel_pad (m : List Bool) (r : Nat) (lay : Layout) (hlay : lay.Ok)
    (hm : m.length + r ≤ 9223372036854775807) :
    parseReply (m.length + r) (renderModel m lay) = .sat (m.map some ++ List.replicate r none) := by
  have hok := lineOk_replyLines m lay hlay
  obtain ⟨hpre, hch, hmid, hpost⟩ := hlay
  have hw : writeFrom (List.replicate (m.length + r) none) 0 m = m.map some ++ List.replicate r none :=
    writeFrom_spec m [] r
  rw [renderModel_eq, parseReply_of_ok (st := ⟨some true, m.map some ++ List.replicate r none, true, true⟩)]
  · rfl
  · rw [lines_encode_unlines _ hok, replyLines, List.map_append,
      foldLines_append_of_ok _ (foldLines_noise _ _ _ hpre), List.map_cons,
      foldLines_cons_of_ok _ (by rw [replyLine_sSat]; rfl), List.map_append,
      foldLines_append_of_ok _ (foldLines_body _ hm lay.mid hmid lay.chunks hch 0 m _ (by simp) rfl),
      foldLines_noise _ _ _ hpost, hw]

/-- **a well-formed satisfiable reply is reported as such**: for every model `m` (below
`isize::MAX` variables), every way of splitting the literals over value lines, and all comment
lines before the status line, between the value lines and after them, the parser returns exactly
`m`. -/
theorem parseReply_renderModel (m : List Bool) (lay : Layout) (hlay : lay.Ok)
    (hm : m.length ≤ 9223372036854775807) :
    parseReply m.length (renderModel m lay) = .sat (m.map some) := by
  have := parseReply_renderModel_pad m 0 lay hlay hm
  simpa using this

/-- **a well-formed unsatisfiable reply is reported as such**, whatever the number of
variables, with comment lines before and after the status line -/
theorem parseReply_renderUnsat (nv : Nat) (pre post : List Str)
    (hpre : ∀ l ∈ pre, Noise l) (hpost : ∀ l ∈ post, Noise l) :
    parseReply nv (renderUnsat pre post) = .unsat := by
  have hok : ∀ l ∈ pre ++ sUnsat :: post, LineOk l :=
    List.forall_mem_append.2 ⟨fun l hl => (hpre l hl).1,
      List.forall_mem_cons.2 ⟨lineOk_of_printable _ (by decide), fun l hl => (hpost l hl).1⟩⟩
  rw [renderUnsat_eq, parseReply_of_ok (st := ⟨some false, List.replicate nv none, false, false⟩)]
  rw [lines_encode_unlines _ hok, List.map_append, foldLines_append_of_ok _ (foldLines_noise _ _ _ hpre),
    List.map_cons, foldLines_cons_of_ok _ (by rw [replyLine_sUnsat]; rfl),
    foldLines_noise _ _ _ hpost]

/-- a line that is neither the "unsatisfiable" status line nor a value line carrying a `0` -/
def Quiet (x : Option Str) : Prop := x ≠ some sUnsat ∧ ¬ ZeroLine x

theorem quiet_none : Quiet none := ⟨nofun, fun ⟨_, h, _⟩ => nomatch h⟩

theorem quiet_of_head (c : Nat) (t : Str) (hc : c ≠ 115 ∧ c ≠ 118) : Quiet (some (c :: t)) :=
  ⟨fun e => hc.1 (by cases e; rfl), fun ⟨_, e, _⟩ => hc.2 (by cases e; rfl)⟩

theorem quiet_nil : Quiet (some []) := ⟨nofun, fun ⟨_, e, _⟩ => nomatch e⟩

theorem quiet_nozero (s : Str) (h1 : s ≠ sUnsat) (h2 : ∀ w ∈ splitAsciiWs s, parseIsize w ≠ some 0) :
    Quiet (some s) := by
  refine ⟨fun e => h1 (Option.some.inj e), ?_⟩
  rintro ⟨t, e, w, hw, h0⟩
  cases e
  rw [← vline_tokens] at hw
  exact h2 w (List.mem_of_mem_drop hw) h0

theorem prefix_cons_of_ne_nil (w : Str) (c : Nat) (cs : Str) (hne : w ≠ []) (h : w <+: c :: cs) :
    ∃ w', w = c :: w' ∧ w' <+: cs := by
  cases w with
  | nil => exact absurd rfl hne
  | cons a w' =>
    obtain ⟨rfl, h'⟩ := List.cons_prefix_cons.1 h
    exact ⟨w', rfl, h'⟩

/-- a non-empty part of a literal token is never read as `0` (no leading zeros) -/
theorem prefix_litTok (i : Nat) (b : Bool) (w : Str) (hne : w ≠ []) (h : w <+: litTok i b) :
    parseIsize w ≠ some 0 := by
  obtain ⟨c, cs, hs, hc⟩ := natToStr_head (i + 1) (Nat.succ_pos i)
  unfold litTok at h
  rw [hs] at h
  cases b
  · simp only [Bool.false_eq_true, if_false] at h
    obtain ⟨w', rfl, h'⟩ := prefix_cons_of_ne_nil w _ _ hne h
    cases w' with
    | nil => decide
    | cons a w'' =>
      obtain ⟨w3, e, _⟩ := prefix_cons_of_ne_nil (a :: w'') _ _ (by simp) h'
      rw [e]; exact parseIsize_neg_nonzero_head c w3 hc
  · simp only [if_true] at h
    obtain ⟨w', rfl, _⟩ := prefix_cons_of_ne_nil w _ _ hne h
    exact parseIsize_nonzero_head c w' hc

theorem tokens_take_spaced (toks : List Str) (h : ∀ t ∈ toks, Tok t) :
    ∀ k, ∀ w ∈ splitAsciiWs ((toks.flatMap (fun t => t ++ [32])).take k),
      ∃ t ∈ toks, w ≠ [] ∧ w <+: t := by
  induction toks with
  | nil => intro k w hw; simp [splitAsciiWs_nil] at hw
  | cons t ts ih =>
    intro k w hw
    have ht := h t (List.mem_cons_self ..)
    rw [List.flatMap_cons, List.append_assoc, List.singleton_append] at hw
    by_cases hk : k ≤ t.length
    · rw [List.take_append_of_le_length hk] at hw
      by_cases he : t.take k = []
      · rw [he, splitAsciiWs_nil] at hw; cases hw
      · rw [splitAsciiWs_word _ ⟨he, fun c hc => ht.2 c (List.mem_of_mem_take hc)⟩] at hw
        rw [List.mem_singleton.1 hw]
        exact ⟨t, List.mem_cons_self .., he, List.take_prefix _ _⟩
    · obtain ⟨j, rfl⟩ := Nat.exists_eq_add_of_lt (Nat.lt_of_not_le hk)
      rw [Nat.add_assoc, List.take_length_add_append, List.take_succ_cons,
        splitAsciiWs_word_ws t ht 32 isAsciiWs_32] at hw
      rcases List.mem_cons.1 hw with rfl | hw
      · exact ⟨w, List.mem_cons_self .., ht.1, List.prefix_refl _⟩
      · obtain ⟨t', ht', h1, h2⟩ := ih (fun x hx => h x (List.mem_cons_of_mem _ hx)) j w hw
        exact ⟨t', List.mem_cons_of_mem _ ht', h1, h2⟩

theorem vLine_spaced (toks : List Str) :
    vLine toks ++ [32] = (([118] : Str) :: toks).flatMap (fun t => t ++ [32]) := by
  have : toks.flatMap (fun t => 32 :: t) ++ [32] = 32 :: toks.flatMap (fun t => t ++ [32]) := by
    induction toks with
    | nil => rfl
    | cons t ts ih => simp only [List.flatMap_cons, List.cons_append, List.append_assoc, ih,
        List.nil_append]
  simp only [vLine, List.flatMap_cons, List.cons_append, List.nil_append, this]

theorem quiet_vcut (i : Nat) (bs : List Bool) (k : Nat) :
    Quiet (some ((vLine (litToks i bs) ++ [32]).take k)) := by
  apply quiet_nozero
  · intro e
    cases k with
    | zero => cases e
    | succ k => cases e
  · intro w hw
    rw [vLine_spaced] at hw
    have htok : ∀ t ∈ ([118] : Str) :: litToks i bs, Tok t :=
      List.forall_mem_cons.2 ⟨tok_v, tok_litToks bs i⟩
    obtain ⟨t, ht, hne, hpre⟩ := tokens_take_spaced _ htok k w hw
    rcases List.mem_cons.1 ht with rfl | ht
    · obtain ⟨w', rfl, h'⟩ := prefix_cons_of_ne_nil w _ _ hne hpre
      rw [List.prefix_nil.1 h']; decide
    · obtain ⟨j, b, rfl⟩ := mem_litToks bs i t ht
      exact prefix_litTok j b w hne hpre

/-- the lines of a satisfiable reply up to the last value line, which stops right before its `0` -/
def headLines (m : List Bool) (lay : Layout) : List Str :=
  lay.pre ++ sSat :: bodyLines (fun toks => [vLine toks ++ [32]]) lay.mid 0 m lay.chunks

/-- the bytes of a satisfiable reply before the terminating `0` token of its last value line -/
def renderHead (m : List Bool) (lay : Layout) : List UInt8 :=
  (encodeUtf8 ((headLines m lay).flatMap (fun l => l ++ [10]))).dropLast

theorem renderHead_eq (m : List Bool) (lay : Layout) :
    renderHead m lay = (encodeUtf8 (unlines (headLines m lay))).dropLast := rfl

theorem bodyLines_last (mid : List Str) (chunks : List (List Str × Nat)) : ∀ (i : Nat) (bs : List Bool),
    ∃ P toks, ∀ last, bodyLines last mid i bs chunks = P ++ last toks := by
  induction chunks with
  | nil => intro i bs; exact ⟨mid, litToks i bs, fun _ => rfl⟩
  | cons ch chunks ih =>
    intro i bs
    obtain ⟨cs, k⟩ := ch
    obtain ⟨P, toks, h⟩ := ih (i + (bs.take k).length) (bs.drop k)
    exact ⟨cs ++ vLine (litToks i (bs.take k)) :: P, toks, fun last => by
      simp only [bodyLines, h, List.append_assoc, List.cons_append]⟩

theorem unlines_cut (A : List Str) (v w : Str) (B : List Str) :
    encodeUtf8 (unlines (A ++ (v ++ w) :: B)) =
      (encodeUtf8 (unlines (A ++ [v]))).dropLast ++ encodeUtf8 (w ++ 10 :: unlines B) := by
  have e10 : encodeUtf8 [10] = [0x0A] := by decide
  simp only [unlines_append, unlines_cons, unlines_nil, List.append_nil,
    encodeUtf8_append, e10]
  rw [← List.append_assoc _ (encodeUtf8 v), List.dropLast_concat]
  simp only [List.append_assoc, encodeUtf8_cons, encChar_nl, List.cons_append, List.nil_append]

/-- `renderHead` is the rendering cut right before the `0` token of the last value line -/
theorem renderModel_eq_head (m : List Bool) (lay : Layout) :
    renderModel m lay =
      renderHead m lay ++ encodeUtf8 (48 :: 10 :: unlines lay.post) := by
  obtain ⟨P, toks, hb⟩ := bodyLines_last lay.mid lay.chunks 0 m
  have hv : vLine (toks ++ [[48]]) = (vLine toks ++ [32]) ++ [48] := by
    simp only [vLine, List.flatMap_append, List.flatMap_cons, List.flatMap_nil, List.append_nil,
      List.cons_append, List.append_assoc, List.nil_append]
  have := unlines_cut (lay.pre ++ sSat :: P) (vLine toks ++ [32]) [48] lay.post
  simpa only [renderModel_eq, renderHead_eq, replyLines, headLines, hb, hv, List.append_assoc,
    List.cons_append, List.nil_append] using this

/-- a line that can be cut anywhere: it is written and read back unchanged, and whatever remains
of it after cutting its bytes is quiet.  This is what `IO.lines_take_forall` asks of every line of a
text, at `P := Quiet`. -/
def CutSafe (l : Str) : Prop := LineOk l ∧ ∀ r, 0 < r → Quiet (decodeUtf8 ((encodeUtf8 l).take r))

theorem cutSafe_noise (l : Str) (h : Noise l) : CutSafe l := by
  refine ⟨h.1, fun r hr => ?_⟩
  rcases h.2 with rfl | rfl | ⟨t, rfl⟩
  · rw [encodeUtf8_nil, List.take_nil]
    exact quiet_nil
  all_goals
    rcases decode_take_comment _ r hr with e | ⟨u, e⟩ <;> rw [e]
    · exact quiet_none
    · exact quiet_of_head 99 u (by decide)

theorem cutSafe_printable (l : Str) (hp : ∀ c ∈ l, 32 ≤ c ∧ c < 127)
    (h : ∀ r, Quiet (some (l.take r))) : CutSafe l := by
  refine ⟨lineOk_of_printable l hp, fun r _ => ?_⟩
  rw [decode_take_ascii l (fun c hc => by have := hp c hc; omega)]
  exact h r

theorem cutSafe_sSat : CutSafe sSat := by
  refine cutSafe_printable _ printable_sSat (fun r => ?_)
  cases r with
  | zero => exact quiet_nil
  | succ j =>
    refine ⟨fun e => ?_, fun ⟨_, e, _⟩ => nomatch e⟩
    -- at most 13 characters against 15
    have h1 : ((sSat.drop 1).take j).length ≤ 12 := List.length_take_le' j _
    exact Nat.ne_of_lt (Nat.succ_lt_succ (Nat.lt_of_le_of_lt h1 (by decide : 12 < 14)))
      (congrArg List.length (Option.some.inj e))

theorem cutSafe_vtake (i : Nat) (bs : List Bool) (k : Nat) :
    CutSafe ((vLine (litToks i bs) ++ [32]).take k) := by
  refine cutSafe_printable _ (fun c hc => ?_) (fun r => ?_)
  · rcases List.mem_append.1 (List.mem_of_mem_take hc) with hc | hc
    · exact printable_vLine _ (printable_litToks bs i) c hc
    · simp at hc; omega
  · rw [List.take_take]
    exact quiet_vcut i bs _

/-- **a truncated reply is never a result**: every prefix of the bytes of a rendered
satisfiable reply that ends before the terminating `0` token of the last value line — cut between
lines, inside a line, inside a token or inside a multi-byte character of a comment — is reported
as undecided or as an error, never as a model (and never as "unsatisfiable"), whatever the number
of variables the parser expects. -/
theorem truncated_reply_not_result (nv : Nat) (m : List Bool) (lay : Layout) (hlay : lay.Ok)
    (out : List UInt8) (h : out <+: renderHead m lay) :
    parseReply nv out = .unknown ∨ ∃ e, parseReply nv out = .abort e := by
  obtain ⟨hpre, hch, hmid, hpost⟩ := hlay
  suffices hq : ∀ x ∈ lines out, Quiet x from
    result_needs nv out (fun l hl => (hq l hl).2) (fun hu => (hq _ hu).1 rfl)
  rw [List.prefix_iff_eq_take.1 (h.trans (List.dropLast_prefix _))]
  apply lines_take_forall Quiet (headLines m lay)
  -- every line before the terminating `0` is a comment line, the status line or a value line
  intro l hl
  simp only [headLines, List.mem_append, List.mem_cons] at hl
  rcases hl with hl | rfl | hl
  · exact cutSafe_noise l (hpre l hl)
  · exact cutSafe_sSat
  · refine forall_bodyLines _ _ _ (fun l h => cutSafe_noise l (hmid l h)) (fun ch hc l h => cutSafe_noise l (hch ch hc l h))
      (fun j bs => ?_) (fun j bs l h => ?_) 0 m l hl
    · have := cutSafe_vtake j bs (vLine (litToks j bs)).length
      rwa [List.take_left' rfl] at this
    · have := cutSafe_vtake j bs (vLine (litToks j bs) ++ [32]).length
      rwa [List.take_length, ← List.mem_singleton.1 h] at this

theorem truncated_reply_not_sat (nv : Nat) (m : List Bool) (lay : Layout) (hlay : lay.Ok)
    (out : List UInt8) (h : out <+: renderHead m lay) (a : List (Option Bool)) :
    parseReply nv out ≠ .sat a := by
  rcases truncated_reply_not_result nv m lay hlay out h with e | ⟨_, e⟩ <;> rw [e] <;> intro h' <;> cases h'

/-- the bound on the number of variables is necessary: the literal of variable
`isize::MAX + 1` is not an `isize`, so a reply that sets it to true is rejected -/
theorem parseReply_renderModel_big (a : List Bool) (ha : a.length = 9223372036854775807) :
    parseReply (a ++ [true]).length (renderModel (a ++ [true]) ⟨[], [], [], []⟩) =
      .abort "not a literal" := by
  have hok := lineOk_replyLines (a ++ [true]) ⟨[], [], [], []⟩
    ⟨List.forall_mem_nil _, List.forall_mem_nil _, List.forall_mem_nil _, List.forall_mem_nil _⟩
  have hlen : (a ++ [true]).length = a.length + 1 := List.length_append
  apply parseReply_of_error
  rw [renderModel_eq, lines_encode_unlines _ hok]
  show foldLines _ _ (some sSat :: [some (vLine (litToks 0 (a ++ [true]) ++ [[48]]))]) = _
  rw [foldLines_cons_of_ok _ (by rw [replyLine_sSat]; rfl), foldLines,
    replyLine_vLine _ _ _ (tok_litToks_zero _ 0) (by simp), litToks_append, List.append_assoc,
    vTokens_lits _ a 0 _ _ (by omega) (by omega)]
  -- the token of the last variable is `isize::MAX + 1`
  have hp : parseIsize (litTok (0 + a.length) true) = none := by
    simp only [litTok, if_true]
    exact parseIsize_natToStr_big _ (by omega)
  rw [show litToks (0 + a.length) [true] ++ [[48]] = litTok (0 + a.length) true :: [[48]] from rfl,
    vTokens_not_lit hp]

end Crusta.Sat
