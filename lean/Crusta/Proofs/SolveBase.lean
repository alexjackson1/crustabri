import Crusta.Proofs.EncKind
import Crusta.Proofs.Wp
import Crusta.Model.Solvers

/-!
# Common ground for the proofs about the static solvers

What `encodeInto` leaves in a solver that held no clause (`Encoded`): the clauses of the encoder, the
variables of the arguments below `n_vars`, so that `n_vars + 1` is a fresh selector.  Its `wp` rule comes
in three forms: `wp_encodeInto` hands `Encoded` to a continuation; `wp_encodeIntoC` has `Encoded` and
"no SAT call was made" as postcondition, for the proofs that count calls; `wp_encodeInto_onNew` is the
latter on a solver just created.  Also: `decode` produces no id twice, and a position `Comp.pos` finds
lies inside the component.
-/

namespace Crusta

@[simp] theorem litTrue_nl' (ν : Asg) (v : Nat) : litTrue ν (nl v) = !ν v := litTrue_nl ν v

theorem Comp.pos_lt {c : Comp} (hn : c.af.n = c.ids.length) {a i : Nat} (h : c.pos a = some i) : i < c.af.n := by
  unfold Comp.pos posOf at h
  obtain ⟨hlt, _⟩ := List.findIdx?_eq_some_iff_getElem.1 h
  omega

structure Encoded (k : EncKind) (af : AF) (s : Nat) (withRange : Bool) (w : World) : Prop where
  exists_ : s < w.solvers.length
  db : w.db s = (if withRange then k.clausesRange af else k.clauses af).reverse
  reserved : ∀ r, k.reserve af.n withRange = some r → r ≤ w.nVarsOf s
  bounded : w.Bounded

/-- the world `encodeInto` starts adding clauses in: after the reservation, if the encoder makes one -/
def afterReserve (k : EncKind) (af : AF) (s : Nat) (withRange : Bool) (w : World) : World :=
  match k.reserve af.n withRange with
  | some r => w.onReserve s r
  | none => w

theorem wp_encodeInto_iff {C : Prop} (k : EncKind) (af : AF) (s : Nat) (withRange : Bool) (w : World)
    (Q : Unit → World → Prop) :
    wp C (encodeInto k af s withRange) w Q ↔
      Q () (addAllS s (afterReserve k af s withRange w) (if withRange then k.clausesRange af else k.clauses af)) := by
  unfold encodeInto afterReserve
  cases k.reserve af.n withRange <;> exact wp_addClausesS s _ _ Q

theorem wp_encodeInto {C : Prop} (k : EncKind) (af : AF) (s : Nat) (withRange : Bool) (w : World)
    (hb : w.Bounded) (hs : s < w.solvers.length) (hdb : w.db s = []) (Q : Unit → World → Prop)
    (h : ∀ w', Encoded k af s withRange w' → Q () w') :
    wp C (encodeInto k af s withRange) w Q := by
  rw [wp_encodeInto_iff]
  have hw : (afterReserve k af s withRange w).Bounded ∧ (afterReserve k af s withRange w).solvers.length = w.solvers.length ∧
      (afterReserve k af s withRange w).db s = [] ∧
      ∀ r, k.reserve af.n withRange = some r → r ≤ (afterReserve k af s withRange w).nVarsOf s := by
    unfold afterReserve
    cases k.reserve af.n withRange with
    | none => exact ⟨hb, rfl, hdb, fun r hr => by cases hr⟩
    | some r =>
      refine ⟨Bounded_onReserve hb s r, List.length_set .., hdb, fun r' hr' => ?_⟩
      cases hr'
      exact nVarsOf_onReserve_ge _ _ _ hs
  obtain ⟨hb', hlen, hdb', hres⟩ := hw
  have hlen' := fun cs => (solvers_len_addAllS s cs (afterReserve k af s withRange w)).trans hlen
  refine h _ ⟨(hlen' _).symm ▸ hs, ?_, fun r hr => Nat.le_trans (hres r hr) (nVarsOf_mono_addAllS _ _ _ _),
    Bounded_addAllS _ _ hb'⟩
  rw [db_addAllS, if_pos rfl, hdb']; simp

theorem wp_encodeInto_calls (k : EncKind) (af : AF) (s : Nat) (wr : Bool) (w : World) :
    wp True (encodeInto k af s wr) w (fun _ w' => w'.calls = w.calls) := by
  rw [wp_encodeInto_iff, calls_addAllS]
  unfold afterReserve
  cases k.reserve af.n wr <;> rfl

theorem wp_encodeIntoC {C : Prop} (k : EncKind) (af : AF) (s : Nat) (wr : Bool) (w : World)
    (hb : w.Bounded) (hs : s < w.solvers.length) (hdb : w.db s = []) :
    wp C (encodeInto k af s wr) w (fun _ w' => Encoded k af s wr w' ∧ w'.calls = w.calls) :=
  wp_andT _ _ _ _ (wp_encodeInto k af s wr w hb hs hdb _ (fun _ h => h)) (wp_encodeInto_calls k af s wr w)

theorem wp_encodeInto_onNew {C : Prop} (k : EncKind) (af : AF) (wr : Bool) (w : World) (hb : w.Bounded) :
    wp C (encodeInto k af w.solvers.length wr) w.onNew
      (fun _ w' => Encoded k af w.solvers.length wr w' ∧ w'.calls = w.calls) :=
  wp_encodeIntoC k af _ wr w.onNew (Bounded_onNew hb) (lt_len_onNew w) (db_onNew_self w)

theorem Encoded.argVar_le {k : EncKind} {af : AF} {s : Nat} {w : World} (h : Encoded k af s false w)
    {a : Nat} (ha : a < af.n) : k.argVar a ≤ w.nVarsOf s := by
  cases k with
  | auxCF | auxADM | auxCO => exact Nat.le_trans (Aux.x_le_reserve ha).2 (h.reserved (af.n * 2) rfl)
  | expCF | expCO | hyb => exact Nat.le_trans ha (h.reserved af.n rfl)
  | stb =>
    -- no reservation: the variable occurs in the clause of `a`, and the clauses are bounded
    have hc : (pl (Stb.x a) :: ((af.attackers a).filter (fun b => !(b == a))).map (fun b => pl (Stb.x b))) ∈ w.db s := by
      rw [h.db]
      simp only [Bool.false_eq_true, if_false, List.mem_reverse, EncKind.clauses, Stb.enc, List.mem_flatMap,
        List.mem_range]
      exact ⟨a, ha, by simp [Stb.argCl]⟩
    exact h.bounded s h.exists_ _ hc (pl (Stb.x a)) List.mem_cons_self

theorem Encoded.cnfTrue_db {k : EncKind} {af : AF} {s : Nat} {wr : Bool} {w : World} (h : Encoded k af s wr w)
    (ν : Asg) : cnfTrue ν (w.db s) = cnfTrue ν (if wr then k.clausesRange af else k.clauses af) := by
  rw [h.db, cnfTrue_reverse]

theorem Encoded.db_lt {k : EncKind} {af : AF} {s : Nat} {wr : Bool} {w : World} (h : Encoded k af s wr w) :
    ∀ c ∈ w.db s, ∀ l ∈ c, l.var < w.nVarsOf s + 1 :=
  fun c hc l hl => Nat.lt_succ_of_le (h.bounded s h.exists_ c hc l hl)

theorem Encoded.db_fresh {k : EncKind} {af : AF} {s : Nat} {wr : Bool} {w : World} (h : Encoded k af s wr w) :
    ∀ c ∈ w.db s, ∀ l ∈ c, l.var ≠ w.nVarsOf s + 1 :=
  fun c hc l hl => Nat.ne_of_lt (h.db_lt c hc l hl)

theorem Encoded.argVar_fresh {k : EncKind} {af : AF} {s : Nat} {w : World} (h : Encoded k af s false w)
    {a : Nat} (ha : a < af.n) : k.argVar a ≠ w.nVarsOf s + 1 :=
  Nat.ne_of_lt (Nat.lt_succ_of_le (h.argVar_le ha))

theorem nodup_decode {α : Type} (m : List α) (c : α → Nat → Bool) (g : Nat → Nat)
    (hg : ∀ v i v' i', c v i = true → c v' i' = true → g i = g i' → i = i') :
    ((m.zipIdx).filterMap (fun (v, i) => if c v i then some (g i) else none)).Nodup := by
  refine List.Pairwise.filterMap _ ?_ (zipIdx_pairwise m)
  rintro ⟨v, i⟩ ⟨v', i'⟩ hne b hb b' hb' rfl
  simp only [Option.ite_none_right_eq_some, Option.some.injEq] at hb hb'
  exact hne (hg v i v' i' hb.1 hb'.1 (hb.2.trans hb'.2.symm))

theorem Aux.decode_nodup (n : Nat) (m : List (Option Bool)) : (Aux.decode n m).Nodup := by
  refine nodup_decode m (fun v i => v == some true && (i + 1) % 2 == 0 && (i + 1) / 2 - 1 < n)
    (fun i => (i + 1) / 2 - 1) ?_
  intro v i v' i' h h' hg
  simp only [Bool.and_eq_true, beq_iff_eq, decide_eq_true_eq] at h h'
  omega

theorem EncKind.decode_nodup (k : EncKind) (n : Nat) (m : List (Option Bool)) : (k.decode n m).Nodup := by
  cases k with
  | auxCF | auxADM | auxCO => exact Aux.decode_nodup n m
  | stb => exact nodup_decode m (fun v i => v == some true && i + 1 ≤ n) id (fun _ _ _ _ _ _ h => h)
  | expCF | expCO | hyb => exact nodup_decode m (fun v i => v == some true && i < n) id (fun _ _ _ _ _ _ h => h)

end Crusta
