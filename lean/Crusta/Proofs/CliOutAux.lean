import Crusta.Model.CliOut
import Crusta.Proofs.RoundTrip

/-!
# stdout of `crustabri solve` parses back to what the answer shows (round trips)

The labels of a file the Aspartix reader accepts are identifiers (`readApx_labels_valid`), which makes
them printable and re-readable.  The line structure of stdout is treated once, for any writer whose
extension line is one `\n`-terminated line that its reader reads back; the two formats are instances.
-/

namespace Crusta.IO

/-- **every label of a framework the Aspartix reader returns is an identifier** of its label
language (`ValidId`: a letter or `_`, then letters, `_`, decimal digits) -/
theorem readApx_labels_valid (bs : List UInt8) (fw : ApxFw) (h : readApx bs = .ok fw) :
    ∀ l ∈ fw.labels, ValidId l :=
  (readApx_inv matchArg_validId bs fw h).2

theorem validId_no_sep (l : Str) (h : ValidId l) : l ≠ [] ∧ ∀ c ∈ l, c ≠ 44 ∧ c ≠ 10 := by
  refine ⟨?_, fun c hc => ?_⟩
  · obtain ⟨⟨c, cs, rfl, _⟩, _⟩ := h; simp
  · have := (isIdChar_props c (h.2 c hc)).2.2
    omega

end Crusta.IO

namespace Crusta.Cli
open Crusta Crusta.IO

theorem linesOf_seg (l : Str) (h : ∀ c ∈ l, c ≠ 10) (rest cur : Str) :
    linesOf (l ++ 10 :: rest) cur = (linesOf rest []).map ((cur.reverse ++ l) :: ·) := by
  induction l generalizing cur with
  | nil => simp [linesOf]
  | cons c cs ih =>
    have hc : (c == 10) = false := by simpa using h c (List.mem_cons_self ..)
    simp only [List.cons_append, linesOf, hc, Bool.false_eq_true, if_false]
    rw [ih (fun d hd => h d (List.mem_cons_of_mem _ hd))]
    simp

theorem linesOf_one (l : Str) (h : ∀ c ∈ l, c ≠ 10) : linesOf (l ++ [10]) [] = some [l] := by
  rw [linesOf_seg l h]; simp [linesOf]

theorem linesOf_two (l l2 : Str) (h : ∀ c ∈ l, c ≠ 10) (h2 : ∀ c ∈ l2, c ≠ 10) :
    linesOf (l ++ [10] ++ (l2 ++ [10])) [] = some [l, l2] := by
  rw [List.append_assoc, List.singleton_append, linesOf_seg l h, linesOf_one l2 h2]; simp

theorem writeNoExt_eq : writeNoExt = sNO ++ [10] := by decide

theorem sNO_no_nl : ∀ c ∈ sNO, c ≠ 10 := by decide

theorem writeStatus_eq (b : Bool) : writeStatus b = (if b then sYES else sNO) ++ [10] := by
  cases b <;> decide

theorem statusOfLine_eq (b : Bool) : statusOfLine (if b then sYES else sNO) = some b := by
  cases b <;> decide

theorem status_no_nl (b : Bool) : ∀ c ∈ (if b then sYES else sNO), c ≠ 10 := by
  cases b <;> decide

/-- **stdout parses back**, for any writer / reader pair of extension lines: whenever the line
written for the set the answer carries is one `\n`-terminated line, different from `NO`, that the
line reader reads back to the set, the whole of stdout reads back to what the answer shows -/
theorem parseStdoutWith_stdoutOf (pext : Str → Option (List Nat)) (lab : Nat → Str) (wext : List Str → Str)
    (t : Task) (ans : Ans) (hs : shapeOk t ans = true)
    (hw : ∀ e, (shownOf ans).ext = some e → ∃ body, wext (e.map lab) = body ++ [10] ∧
      (∀ c ∈ body, c ≠ 10) ∧ body ≠ sNO ∧ pext body = some e) :
    parseStdoutWith pext t (stdoutOf lab wext ans) = some (shownOf ans) := by
  cases ans with
  | ext r =>
    cases t with
    | DC => cases hs
    | DS => cases hs
    | SE =>
      cases r with
      | none =>
        simp only [stdoutOf, parseStdoutWith, writeNoExt_eq, linesOf_one sNO sNO_no_nl, if_true, shownOf]
      | some e =>
        obtain ⟨body, hb, hnl, hno, hp⟩ := hw e rfl
        simp only [stdoutOf, parseStdoutWith, hb, linesOf_one body hnl, hno, if_false, hp, Option.map_some,
          shownOf]
  | acc a cv =>
    have key : parseStdoutWith pext .DC (stdoutOf lab wext (.acc a cv)) = some (shownOf (.acc a cv)) ∧
        parseStdoutWith pext .DS (stdoutOf lab wext (.acc a cv)) = some (shownOf (.acc a cv)) := by
      obtain ⟨st, c⟩ := a
      cases c with
      | none =>
        simp only [stdoutOf, parseStdoutWith, writeStatus_eq, List.append_nil,
          linesOf_one _ (status_no_nl st), statusOfLine_eq, Option.map_some, shownOf, and_self]
      | some e =>
        obtain ⟨body, hb, hnl, _, hp⟩ := hw e rfl
        simp only [stdoutOf, parseStdoutWith, writeStatus_eq, hb,
          linesOf_two _ body (status_no_nl st) hnl, statusOfLine_eq, hp, shownOf, and_self]
    cases t with
    | SE => cases hs
    | DC => exact key.1
    | DS => exact key.2

theorem mapOpt_map {α β : Type} (f : α → Option β) (g : β → α) (l : List β) (h : ∀ x ∈ l, f (g x) = some x) :
    mapOpt f (l.map g) = some l := by
  induction l with
  | nil => rfl
  | cons x xs ih =>
    simp only [List.map_cons, mapOpt, h x (List.mem_cons_self ..), ih (fun y hy => h y (List.mem_cons_of_mem _ hy))]

theorem parseDec_natToStr (k : Nat) : parseDec (natToStr k) = some k := by
  unfold parseDec
  have h1 : (natToStr k).isEmpty = false := by simpa using natToStr_ne_nil k
  simp [h1, natToStr_all_digit k, digitsVal_natToStr k]

theorem iccmaIdOf_lab (i : Nat) : iccmaIdOf (iccmaLab i) = some i := by
  simp only [iccmaIdOf, iccmaLab, parseDec_natToStr]

/-- the hypothesis `hw` of `parseStdoutWith_stdoutOf` for the ICCMA'23 writer -/
theorem extLineIccma_write (e : List Nat) :
    ∃ body, writeExtIccma (e.map iccmaLab) = body ++ [10] ∧ (∀ c ∈ body, c ≠ 10) ∧ body ≠ sNO ∧
      extLineIccma body = some e := by
  refine ⟨_, writeExtIccma_eq _, extIccma_body_no_lf _ fun l hl c hc => ?_, ?_, ?_⟩
  · obtain ⟨i, _, rfl⟩ := List.mem_map.1 hl
    exact Nat.ne_of_gt (Nat.lt_of_lt_of_le (by decide) (natToStr_digits (i + 1) c hc).1)
  · intro h; simp [sNO] at h
  · unfold extLineIccma
    rw [← writeExtIccma_eq, parseExtIccma_write]
    · exact mapOpt_map _ _ _ (fun i _ => iccmaIdOf_lab i)
    · intro l hl
      obtain ⟨i, _, rfl⟩ := List.mem_map.1 hl
      exact ⟨natToStr_ne_nil _, digits_not_ws _⟩

/-- **round trip, ICCMA'23**: for every answer of the kind the task's entry point returns, the text
printed on stdout reads back to exactly what the answer shows (status, and the set as ids) -/
theorem parseStdoutIccma_stdoutIccma (t : Task) (ans : Ans) (hs : shapeOk t ans = true) :
    parseStdoutIccma t (stdoutIccma ans) = some (shownOf ans) :=
  parseStdoutWith_stdoutOf extLineIccma iccmaLab writeExtIccma t ans hs (fun e _ => extLineIccma_write e)

theorem intercalate_chars (sep : Str) (ls : List Str) :
    ∀ c ∈ IO.intercalate sep ls, c ∈ sep ∨ ∃ l ∈ ls, c ∈ l := by
  induction ls with
  | nil => intro c hc; cases hc
  | cons x xs ih =>
    intro c hc
    cases xs with
    | nil => exact Or.inr ⟨x, List.mem_cons_self .., by simpa [IO.intercalate] using hc⟩
    | cons y ys =>
      simp only [IO.intercalate, List.mem_append] at hc
      rcases hc with (hc | hc) | hc
      · exact Or.inr ⟨x, List.mem_cons_self .., hc⟩
      · exact Or.inl hc
      · rcases ih c hc with h | ⟨l, hl, h⟩
        · exact Or.inl h
        · exact Or.inr ⟨l, List.mem_cons_of_mem _ hl, h⟩

/-- the same for the Aspartix writer, the printed set being positions of labels -/
theorem extLineApx_write (labels : List Str) (hnd : labels.Nodup)
    (hl : ∀ l ∈ labels, l ≠ [] ∧ ∀ c ∈ l, c ≠ 44 ∧ c ≠ 10) (e : List Nat) (he : ∀ x ∈ e, x < labels.length) :
    ∃ body, writeExtApx (e.map (fun i => labels.getD i [])) = body ++ [10] ∧ (∀ c ∈ body, c ≠ 10) ∧
      body ≠ sNO ∧ extLineApx labels body = some e := by
  have hmem : ∀ l ∈ e.map (fun i => labels.getD i []), l ∈ labels := by
    intro l hl'
    obtain ⟨i, hi, rfl⟩ := List.mem_map.1 hl'
    exact getD_mem [] (he i hi)
  have hw : writeExtApx (e.map (fun i => labels.getD i [])) =
      (91 :: (IO.intercalate [44] (e.map (fun i => labels.getD i [])) ++ [93])) ++ [10] := by
    simp [writeExtApx]
  refine ⟨91 :: (IO.intercalate [44] (e.map (fun i => labels.getD i [])) ++ [93]), hw, ?_, ?_, ?_⟩
  · intro c hc
    simp only [List.mem_cons, List.mem_append, List.not_mem_nil, or_false] at hc
    rcases hc with rfl | hc | rfl
    · omega
    · rcases intercalate_chars _ _ c hc with h | ⟨l, hl', h⟩
      · simp only [List.mem_singleton] at h; omega
      · exact ((hl l (hmem l hl')).2 c h).2
    · omega
  · intro h; simp [sNO] at h
  · unfold extLineApx
    rw [← hw, parseExtApx_write _ (fun l hl' c hc => ((hl l (hmem l hl')).2 c hc).1)
      (fun l hl' => (hl l (hmem l hl')).1)]
    exact mapOpt_map _ _ _ (fun i hi => idxOf_getD labels hnd i (he i hi))

/-- **round trip, Aspartix**: for pairwise distinct, non-empty labels without comma and line feed
(what the reader guarantees: `readApx_wfa`, `readApx_labels_valid`), every answer of the kind the
task's entry point returns whose printed set consists of positions of labels reads back from stdout
to exactly what it shows -/
theorem parseStdoutApx_stdoutApx (labels : List Str) (hnd : labels.Nodup)
    (hl : ∀ l ∈ labels, l ≠ [] ∧ ∀ c ∈ l, c ≠ 44 ∧ c ≠ 10) (t : Task) (ans : Ans) (hs : shapeOk t ans = true)
    (hin : ∀ e, (shownOf ans).ext = some e → ∀ x ∈ e, x < labels.length) :
    parseStdoutApx labels t (stdoutApx labels ans) = some (shownOf ans) :=
  parseStdoutWith_stdoutOf (extLineApx labels) _ writeExtApx t ans hs
    (fun e he => extLineApx_write labels hnd hl e (hin e he))

end Crusta.Cli
