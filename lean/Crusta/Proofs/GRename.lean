import Crusta.Proofs.StaticAll

/-!
# Renaming the arguments of a sparse graph

`Bij`: a bijection of the id space `Nat`, given with its inverse.  `G.rename g ρ` is the graph `g`
with every argument `a` renamed `ρ.f a`; `ρ.image S` is the set `S` renamed the same way.  `ρ` gives
a renumbering `Bij.renum` under which `g` and `g.rename ρ` are isomorphic (`G.rename_iso`) and `S`
corresponds to exactly `ρ.image S` (`Bij.corr_iff`); so `Renum.Iso.transfer_ext` carries every one of
the seven semantics across (`G.ext_rename`, no finiteness hypothesis needed), and with them the
credulous and skeptical statuses of a list of arguments (`G.status_rename`).
-/

namespace Crusta

structure Bij where
  f : Nat → Nat
  finv : Nat → Nat
  l : ∀ a, finv (f a) = a
  r : ∀ a, f (finv a) = a

namespace Bij

def id : Bij := ⟨fun a => a, fun a => a, fun _ => rfl, fun _ => rfl⟩

def image (ρ : Bij) (S : ASet) : ASet := fun a => S (ρ.finv a)

variable (ρ : Bij)

@[simp] theorem image_apply (S : ASet) (a : Nat) : ρ.image S a = S (ρ.finv a) := rfl

theorem image_f (S : ASet) (a : Nat) : ρ.image S (ρ.f a) = S a := by
  show S (ρ.finv (ρ.f a)) = S a
  rw [ρ.l]

theorem image_preimage (T : ASet) : ρ.image (fun a => T (ρ.f a)) = T := by
  funext a
  show T (ρ.f (ρ.finv a)) = T a
  rw [ρ.r]

theorem preimage_image (S : ASet) : (fun a => ρ.image S (ρ.f a)) = S := by
  funext a
  exact ρ.image_f S a

theorem hitsL_map (args : List Nat) (S : ASet) : HitsL (args.map ρ.f) (ρ.image S) ↔ HitsL args S := by
  unfold HitsL
  constructor
  · rintro ⟨a, ha, hS⟩
    obtain ⟨b, hb, rfl⟩ := List.mem_map.1 ha
    rw [ρ.image_f] at hS
    exact ⟨b, hb, hS⟩
  · rintro ⟨a, ha, hS⟩
    refine ⟨ρ.f a, List.mem_map.2 ⟨a, ha, rfl⟩, ?_⟩
    rw [ρ.image_f]
    exact hS

def renum : Renum := ⟨fun _ => true, fun _ => true, ρ.f, ρ.finv⟩

theorem corr_iff (S S' : ASet) : ρ.renum.Corr S S' ↔ S' = ρ.image S := by
  constructor
  · intro c
    funext b
    exact (congrArg S' (ρ.r b)).symm.trans (c.eq (ρ.finv b) rfl)
  · rintro rfl
    exact ⟨fun _ _ => rfl, fun _ _ => rfl, fun a _ => ρ.image_f S a⟩

end Bij

def G.rename (g : G) (ρ : Bij) : G :=
  ⟨fun a => g.live (ρ.finv a), fun a b => g.att (ρ.finv a) (ρ.finv b)⟩

namespace G

variable (g : G) (ρ : Bij)

@[simp] theorem rename_live (a : Nat) : (g.rename ρ).live a = g.live (ρ.finv a) := rfl
@[simp] theorem rename_att (a b : Nat) : (g.rename ρ).att a b ↔ g.att (ρ.finv a) (ρ.finv b) := Iff.rfl

theorem rename_live_f (a : Nat) : (g.rename ρ).live (ρ.f a) = g.live a := by
  show g.live (ρ.finv (ρ.f a)) = g.live a
  rw [ρ.l]

theorem rename_att_f (a b : Nat) : (g.rename ρ).att (ρ.f a) (ρ.f b) ↔ g.att a b := by
  show g.att (ρ.finv (ρ.f a)) (ρ.finv (ρ.f b)) ↔ g.att a b
  rw [ρ.l, ρ.l]

theorem wf_rename : (g.rename ρ).WF ↔ g.WF := by
  unfold WF
  constructor
  · intro h a b hab
    have := h (ρ.f a) (ρ.f b) ((g.rename_att_f ρ a b).2 hab)
    rw [rename_live_f, rename_live_f] at this
    exact this
  · intro h a b hab
    exact h _ _ hab

theorem rename_iso : ρ.renum.Iso g (g.rename ρ) where
  map _ _ := rfl
  map' _ _ := rfl
  l a _ := ρ.l a
  r a _ := ρ.r a
  live a _ := g.rename_live_f ρ a
  att a b _ _ := g.rename_att_f ρ a b
  live_dom _ _ := rfl
  live_dom' _ _ := rfl
  att_dom _ _ _ := ⟨rfl, rfl⟩
  att_dom' _ _ _ := ⟨rfl, rfl⟩

theorem ext_rename (σ : Sem) (S : ASet) : (g.rename ρ).Ext σ (ρ.image S) ↔ g.Ext σ S :=
  (((g.rename_iso ρ).transfer_ext σ).iff S _ ((ρ.corr_iff S _).2 rfl)).symm

theorem gext_rename (σ : Sem) (S : ASet) : σ.GExt (g.rename ρ) (ρ.image S) ↔ σ.GExt g S := by
  rw [gext_iff, gext_iff]
  exact ext_rename g ρ σ S

theorem gext_rename_iff (σ : Sem) (S' : ASet) :
    σ.GExt (g.rename ρ) S' ↔ ∃ S, σ.GExt g S ∧ S' = ρ.image S := by
  constructor
  · intro h
    refine ⟨fun a => S' (ρ.f a), ?_, (ρ.image_preimage S').symm⟩
    rw [← gext_rename g ρ, ρ.image_preimage]
    exact h
  · rintro ⟨S, hS, rfl⟩
    exact (gext_rename g ρ σ S).2 hS

theorem status_rename (σ : Sem) (args : List Nat) :
    ((∃ S, g.Ext σ S ∧ HitsL args S) ↔ (∃ S', (g.rename ρ).Ext σ S' ∧ HitsL (args.map ρ.f) S')) ∧
    ((∀ S, g.Ext σ S → HitsL args S) ↔ (∀ S', (g.rename ρ).Ext σ S' → HitsL (args.map ρ.f) S')) := by
  have tr := (g.rename_iso ρ).transfer_ext σ
  have hR : ∀ S S', ρ.renum.Corr S S' → (HitsL args S ↔ HitsL (args.map ρ.f) S') := by
    intro S S' c
    rw [(ρ.corr_iff S S').1 c]
    exact (ρ.hitsL_map args S).symm
  exact ⟨tr.exists_iff (g.rename_iso ρ) hR, tr.forall_iff (g.rename_iso ρ) hR⟩

theorem exists_gext_rename (σ : Sem) : (∃ S, σ.GExt g S) ↔ ∃ S', σ.GExt (g.rename ρ) S' :=
  ⟨fun ⟨S, hS⟩ => ⟨_, (gext_rename g ρ σ S).2 hS⟩,
    fun ⟨S', hS'⟩ => let ⟨S, hS, _⟩ := (gext_rename_iff g ρ σ S').1 hS'; ⟨S, hS⟩⟩

end G

/-- **the solvers' statuses do not depend on the names of the arguments** (on the solver programs):
a view presenting `g`, queried on `args`, and a view presenting `g` with its arguments renamed by
any bijection `ρ` of the id space, queried on the renamed arguments, give the same credulous and
the same skeptical status — for every solver type, admissible encoders, sound reply lists, with or
without certificate, whatever the histories of the two views -/
theorem solver_status_renaming_invariant (sk : SolverKind) (v1 v2 : FwView) (g : G) (ρ : Bij)
    (hv1 : v1.Ok g) (hv2 : v2.Ok (g.rename ρ))
    (args : List Nat) (hargs : ∀ a ∈ args, g.live a = true)
    (cfg1 cfg2 : Cfg) (h1 : CfgOK sk cfg1) (h2 : CfgOK sk cfg2) (c1 c2 : Bool)
    (w1 w2 : World) (hb1 : w1.Bounded) (hb2 : w2.Bounded) (rs1 rs2 : List Reply)
    (a1 a2 : AccAns) (cv1 cv2 : Bool) (w1' w2' : World) :
    (∀ p1 p2, entryProg sk cfg1 v1 (.dc c1 args) = some p1 →
      entryProg sk cfg2 v2 (.dc c2 (args.map ρ.f)) = some p2 →
      RunSound p1 rs1 w1 → RunSound p2 rs2 w2 →
      interp p1 rs1 w1 = (.done (.acc a1 cv1), w1') → interp p2 rs2 w2 = (.done (.acc a2 cv2), w2') →
      a1.status = a2.status) ∧
    (∀ p1 p2, entryProg sk cfg1 v1 (.ds c1 args) = some p1 →
      entryProg sk cfg2 v2 (.ds c2 (args.map ρ.f)) = some p2 →
      RunSound p1 rs1 w1 → RunSound p2 rs2 w2 →
      interp p1 rs1 w1 = (.done (.acc a1 cv1), w1') → interp p2 rs2 w2 = (.done (.acc a2 cv2), w2') →
      a1.status = a2.status) := by
  have hargs2 : ∀ x, x ∈ args.map ρ.f → (g.rename ρ).live x = true := by
    intro x hx
    obtain ⟨a, ha, rfl⟩ := List.mem_map.1 hx
    rw [G.rename_live_f]
    exact hargs a ha
  have hst := G.status_rename g ρ sk.sem args
  simp only [← gext_iff] at hst
  have hdet := status_determined_of_iff sk.sem hst.1 hst.2 c1 c2 a1 a2
  constructor
  · intro p1 p2 hp1 hp2 hs1 hs2 hr1 hr2
    obtain ⟨_, hd1, _⟩ := static_answers_conform sk cfg1 h1 v1 g hv1 (.dc c1 args)
      hargs p1 hp1 w1 hb1 rs1 hs1 _ w1' hr1
    obtain ⟨_, hd2, _⟩ := static_answers_conform sk cfg2 h2 v2 (g.rename ρ) hv2 (.dc c2 (args.map ρ.f))
      hargs2 p2 hp2 w2 hb2 rs2 hs2 _ w2' hr2
    exact hdet.1 hd1 hd2
  · intro p1 p2 hp1 hp2 hs1 hs2 hr1 hr2
    obtain ⟨_, hd1, _⟩ := static_answers_conform sk cfg1 h1 v1 g hv1 (.ds c1 args)
      hargs p1 hp1 w1 hb1 rs1 hs1 _ w1' hr1
    obtain ⟨_, hd2, _⟩ := static_answers_conform sk cfg2 h2 v2 (g.rename ρ) hv2 (.ds c2 (args.map ρ.f))
      hargs2 p2 hp2 w2 hb2 rs2 hs2 _ w2' hr2
    exact hdet.2 hd1 hd2

end Crusta
