import Crusta.Proofs.NonVacuity
import Crusta.Props.C18

/-!
# Non-vacuity witness for the call bounds (C18)

The hypotheses of `C18.pr_calls_on_prog` hold on the component the preferred solver extracts for a
query about argument 0 of `afA` (`c18_hyps`), and the theorem applied to it bounds the SAT calls of
`compute_maximal` by 4 and of the skeptical search by 6 on every sound run (`c18_concl`; the reply list is
a variable, no run is evaluated).  Same purpose as `NonVacuity.lean`, whose framework and configuration it
uses; on its own because `Props/C18.lean` alone among the property files rests on Mathlib.
-/

namespace Crusta.NonVacuity
open Crusta

/- `c18_concl` gives `C18.calls_statement_meaning` a hypothesis `hs : RunSound p rs {}` with `p` a concrete
program: open, `RunSound` would be evaluated along `p` up to its first SAT call when `hs` is unified. -/
seal RunSound

/-- the component the PR / CO solvers extract for a query about argument 0 of `afA` -/
def compA : Comp := ⟨[0, 1, 2], afA⟩

/-- the hypotheses of `C18.pr_calls_on_prog`: those of the theorem and those of each of its two conclusions -/
theorem c18_hyps :
    (∀ af T, cfgA.enc.Base af T ↔ Complete af T) ∧
    compA.af.WF ∧
    ({} : World).Bounded ∧
    cfgA.fuel ≥ compA.af.n + 3 ∧
    (∃ pos, posAll compA [0] = some pos) ∧
    cfgA.fuel ≥ (extsCO compA.af).length + 1 ∧
    -- the component is the one the solver computes, and the bounds evaluated
    (CC.mergedOf afA.view (CC.new afA.view) [0]).map (fun r => r.1.map (fun c => (c.ids, c.af))) =
      some (some (compA.ids, compA.af)) ∧
    (extsCO compA.af).length = 3 ∧ (extsPR compA.af).length = 2 :=
  ⟨cfgA_PR, afA_wf, Bounded_empty, by decide, ⟨[0], by decide +kernel⟩, by decide +kernel⟩

/-- the conclusions of `C18.pr_calls_on_prog`, read on runs through `C18.calls_statement_meaning`; the skeptical
run of `static_hyps_PR_ds` made 3 calls -/
theorem c18_concl (rs : List Reply) :
    (RunSound (prMaximalOfComp cfgA compA) rs {} →
      ∀ a w', interp (prMaximalOfComp cfgA compA) rs {} = (.done a, w') → w'.calls ≤ 4) ∧
    (∀ sc, RunSound (prSkeptInCc cfgA compA [0] sc) rs {} →
      ∀ a w', interp (prSkeptInCc cfgA compA [0] sc) rs {} = (.done a, w') → w'.calls ≤ 6) := by
  obtain ⟨hk, hwf, hb, hf1, hpos, hf2, _, h3, h2⟩ := c18_hyps
  have h := C18.pr_calls_on_prog cfgA hk compA hwf {} hb
  -- `4` is `compA.af.n + 1`, `6` is `3 + 2 + 1`: the bounds of the theorem, up to evaluation
  refine ⟨fun hs => (C18.calls_statement_meaning _ _ 4 (h.1 hf1) rs hs).2, fun sc hs => ?_⟩
  have h' := h.2 [0] sc hpos hf2
  rw [h3, h2] at h'
  exact (C18.calls_statement_meaning _ _ 6 h' rs hs).2

end Crusta.NonVacuity
