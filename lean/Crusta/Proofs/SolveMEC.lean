import Crusta.Proofs.SolveBase
import Crusta.Proofs.Maximal

/-!
# `MaximalExtensionComputer` on one component: what a SAT call means

`MInvF F m w blocked`: the solver of the computer holds the clauses of an encoder of the family `F`
plus, for every set `E` of the ghost list `blocked`, the clause "some argument outside `E`, or the
selector"; the selector is fresh.  Under the assumption `¬selector` a call asks for a member of `F`
that contains the required arguments and is not included in any blocked set.  `MInvF` is the syntactic
account, on which `compute_maximal` of the preferred solver is stated (`GrowInvF`, `SolvePR`); `Den` in
`SearchMEC` is the semantic account the other searches use.  The file begins with the literal lists
(`inL`/`outL`, `kIn`/`kOut`) both accounts read.
-/

namespace Crusta

def inL (enc : EncKind) (n : Nat) (cur : List Nat) : List Lit :=
  ((List.range n).filter (fun i => cur.contains i)).map (argLit enc)
def outL (enc : EncKind) (n : Nat) (cur : List Nat) : List Lit :=
  ((List.range n).filter (fun i => !cur.contains i)).map (argLit enc)

theorem splitInExt_eq (enc : EncKind) (n : Nat) (cur : List Nat) :
    splitInExt enc n cur = (inL enc n cur, outL enc n cur) := by
  unfold splitInExt inL outL
  simp only
  rw [range_filter_lt n _ (foldl_max_ge cur n)]

/-- the positive literals of the positions inside / outside the key `R`, `kv a` being the variable of
position `a`: `inL`/`outL` for the argument variables, `routL` and `Dyn.inLits`/`outLits` likewise -/
def kIn (kv : Nat → Nat) (n : Nat) (R : Nat → Bool) : List Lit :=
  ((List.range n).filter R).map (fun i => pl (kv i))

def kOut (kv : Nat → Nat) (n : Nat) (R : Nat → Bool) : List Lit :=
  ((List.range n).filter (fun i => !R i)).map (fun i => pl (kv i))

theorem kIn_true (kv : Nat → Nat) (n : Nat) (R : Nat → Bool) (ν : Asg) :
    (∀ l ∈ kIn kv n R, litTrue ν l = true) ↔ ∀ a, a < n → R a = true → ν (kv a) = true := by
  unfold kIn
  simp only [all_filter_map, List.mem_range, litTrue_pl]

theorem kOut_true (kv : Nat → Nat) (n : Nat) (R : Nat → Bool) (ν : Asg) :
    (∃ l ∈ kOut kv n R, litTrue ν l = true) ↔ ∃ a, a < n ∧ R a = false ∧ ν (kv a) = true := by
  unfold kOut
  simp only [any_filter_map, List.mem_range, litTrue_pl, Bool.not_eq_true']

theorem kOut_neg_true (kv : Nat → Nat) (n : Nat) (R : Nat → Bool) (ν : Asg) :
    (∀ l ∈ (kOut kv n R).map Lit.neg, litTrue ν l = true) ↔ ∀ a, a < n → R a = false → ν (kv a) = false := by
  unfold kOut
  rw [List.map_map, all_filter_map]
  simp

theorem inL_true (enc : EncKind) (af : AF) (ν : Asg) (cur : List Nat) :
    (∀ l ∈ inL enc af.n cur, litTrue ν l = true) ↔ ∀ a ∈ cur, a < af.n → enc.S af ν a = true := by
  rw [show inL enc af.n cur = kIn enc.argVar af.n (fun i => cur.contains i) from rfl, kIn_true]
  exact ⟨fun h a ha hn => (enc.S_lt hn).trans (h a hn (List.contains_iff_mem.2 ha)),
    fun h a hn hc => (enc.S_lt hn).symm.trans (h a (List.contains_iff_mem.1 hc) hn)⟩

theorem outL_true (enc : EncKind) (af : AF) (ν : Asg) (cur : List Nat) :
    (∃ l ∈ outL enc af.n cur, litTrue ν l = true) ↔ ∃ a, a ∉ cur ∧ enc.S af ν a = true := by
  rw [show outL enc af.n cur = kOut enc.argVar af.n (fun i => cur.contains i) from rfl, kOut_true]
  constructor
  · rintro ⟨a, hn, hc, ht⟩
    exact ⟨a, fun hm => Bool.false_ne_true (hc.symm.trans (List.contains_iff_mem.2 hm)), (enc.S_lt hn).trans ht⟩
  · rintro ⟨a, ha, hS⟩
    have hn := enc.S_sub af ν a hS
    exact ⟨a, hn, Bool.eq_false_iff.2 fun hc => ha (List.contains_iff_mem.1 hc), (enc.S_lt hn).symm.trans hS⟩

theorem inL_var (enc : EncKind) (n : Nat) (cur : List Nat) : ∀ l ∈ inL enc n cur, ∃ a, a < n ∧ l = pl (enc.argVar a) := by
  intro l hl
  unfold inL at hl
  obtain ⟨a, ha, rfl⟩ := List.mem_map.1 hl
  exact ⟨a, List.mem_range.1 (List.mem_filter.1 ha).1, rfl⟩

theorem outL_var (enc : EncKind) (n : Nat) (cur : List Nat) : ∀ l ∈ outL enc n cur, ∃ a, a < n ∧ l = pl (enc.argVar a) := by
  intro l hl
  unfold outL at hl
  obtain ⟨a, ha, rfl⟩ := List.mem_map.1 hl
  exact ⟨a, List.mem_range.1 (List.mem_filter.1 ha).1, rfl⟩

/-- `F` is the family of sets the encoder describes (complete extensions for the default encoders,
admissible sets for the encoder the command line hands to the preferred solver for `SE-PR`).  The clause
list is given from both sides (`db_sound`; `db_enc`, `db_blk`) and not by an equation: its order and
repetitions do not matter.  `no_add`: `solve` appends `m.additional` to its assumptions -/
structure MInvF (F : AF → ASet → Prop) (m : MEC) (w : World) (blocked : List (List Nat)) : Prop where
  wf : m.af.WF
  isF : ∀ T, m.enc.Base m.af T ↔ F m.af T
  db_sound : ∀ c ∈ w.db m.sid, c ∈ m.enc.clauses m.af ∨ ∃ E ∈ blocked, c = outL m.enc m.af.n E ++ [pl m.sel]
  db_enc : ∀ c ∈ m.enc.clauses m.af, c ∈ w.db m.sid
  db_blk : ∀ E ∈ blocked, outL m.enc m.af.n E ++ [pl m.sel] ∈ w.db m.sid
  fresh_enc : ∀ c ∈ m.enc.clauses m.af, ∀ l ∈ c, l.var ≠ m.sel
  fresh_arg : ∀ a, a < m.af.n → m.enc.argVar a ≠ m.sel
  no_add : m.additional = []

abbrev MInv (m : MEC) (w : World) (blocked : List (List Nat)) : Prop := MInvF Complete m w blocked

theorem MInvF.isCO {m : MEC} {w : World} {blocked : List (List Nat)} (h : MInv m w blocked) :
    ∀ T, m.enc.Base m.af T ↔ Complete m.af T := h.isF

/-- a model under the assumptions "`must`, selector off" (and any `extra` ones) is a member of `F` above
`must` that no blocked set contains -/
theorem MInvF.solve_sat {F : AF → ASet → Prop} {m : MEC} {w : World} {blocked : List (List Nat)}
    (h : MInvF F m w blocked) (must : List Nat)
    (extra : List Lit) {ν : Asg} (hΓ : cnfTrue ν (w.db m.sid) = true)
    (hA : assumpsTrue ν (inL m.enc m.af.n must ++ [nl m.sel] ++ extra) = true) :
    F m.af (m.enc.S m.af ν) ∧ (∀ a ∈ must, a < m.af.n → m.enc.S m.af ν a = true) ∧
      (∀ E ∈ blocked, ¬ SubL (m.enc.S m.af ν) E) ∧ assumpsTrue ν extra = true := by
  rw [cnfTrue_iff] at hΓ
  have henc : cnfTrue ν (m.enc.clauses m.af) = true := by
    rw [cnfTrue_iff]; intro c hc; exact hΓ c (h.db_enc c hc)
  rw [assumpsTrue_append_iff, assumpsTrue_append_iff, assumpsTrue_singleton, assumpsTrue_iff] at hA
  obtain ⟨⟨hin, hsel⟩, hextra⟩ := hA
  have hsel' : ν m.sel = false := by simpa using hsel
  refine ⟨(h.isF _).1 (m.enc.sound m.af h.wf ν henc), (inL_true m.enc m.af ν must).1 hin, ?_, ?_⟩
  · intro E hE hsub
    have := hΓ _ (h.db_blk E hE)
    rw [clauseTrue_append, clauseTrue_singleton, litTrue_pl, hsel', Bool.or_false, clauseTrue_iff] at this
    obtain ⟨a, ha, hS⟩ := (outL_true m.enc m.af ν E).1 this
    exact ha (hsub a hS)
  · exact hextra

theorem solve_sat {m : MEC} {w : World} {blocked : List (List Nat)} (h : MInv m w blocked) (must : List Nat)
    (extra : List Lit) {ν : Asg} (hΓ : cnfTrue ν (w.db m.sid) = true)
    (hA : assumpsTrue ν (inL m.enc m.af.n must ++ [nl m.sel] ++ extra) = true) :
    Complete m.af (m.enc.S m.af ν) ∧ (∀ a ∈ must, a < m.af.n → m.enc.S m.af ν a = true) ∧
      (∀ E ∈ blocked, ¬ SubL (m.enc.S m.af ν) E) ∧ assumpsTrue ν extra = true :=
  MInvF.solve_sat h must extra hΓ hA

/-- the canonical assignment of `T`, with `selector := false`, is a model -/
theorem MInvF.solve_unsat {F : AF → ASet → Prop} {m : MEC} {w : World} {blocked : List (List Nat)}
    (h : MInvF F m w blocked) (must : List Nat)
    (extra : List Lit)
    (hun : ∀ ν : Asg, ¬ (cnfTrue ν (w.db m.sid) = true ∧
      assumpsTrue ν (inL m.enc m.af.n must ++ [nl m.sel] ++ extra) = true))
    {T : ASet} (hT : F m.af T) (hmust : ∀ a ∈ must, a < m.af.n → T a = true)
    (hextra : ∀ ν, m.enc.S m.af ν = T → ν m.sel = false → assumpsTrue ν extra = true) :
    ∃ E ∈ blocked, SubL T E := by
  apply Classical.byContradiction
  intro hno
  obtain ⟨ν0, hν0, hS0⟩ := m.enc.complete m.af h.wf T ((h.isF _).2 hT)
  have hS : m.enc.S m.af (ν0.set m.sel false) = T := by
    rw [m.enc.S_set_fresh m.af ν0 _ _ h.fresh_arg, hS0]
  have hsel : (ν0.set m.sel false) m.sel = false := Asg.set_self _ _ _
  apply hun (ν0.set m.sel false)
  constructor
  · rw [cnfTrue_iff]
    intro c hc
    rcases h.db_sound c hc with hc' | ⟨E, hE, rfl⟩
    · rw [clauseTrue_set_fresh _ _ _ (h.fresh_enc c hc')]
      exact (cnfTrue_iff _ _).1 hν0 c hc'
    · rw [clauseTrue_iff]
      have : ¬ SubL T E := fun hsub => hno ⟨E, hE, hsub⟩
      simp only [SubL, Classical.not_forall] at this
      obtain ⟨a, hTa, hna⟩ := this
      obtain ⟨l, hl, hlt⟩ := (outL_true m.enc m.af (ν0.set m.sel false) E).2 ⟨a, hna, by rw [hS]; exact hTa⟩
      exact ⟨l, List.mem_append_left _ hl, hlt⟩
  · rw [assumpsTrue_append_iff, assumpsTrue_append_iff, assumpsTrue_singleton, litTrue_nl, hsel]
    refine ⟨⟨(assumpsTrue_iff _ _).2 ?_, rfl⟩, hextra _ hS hsel⟩
    apply (inL_true m.enc m.af _ must).2
    intro a ha hn
    rw [hS]; exact hmust a ha hn

theorem solve_unsat {m : MEC} {w : World} {blocked : List (List Nat)} (h : MInv m w blocked) (must : List Nat)
    (extra : List Lit)
    (hun : ∀ ν : Asg, ¬ (cnfTrue ν (w.db m.sid) = true ∧
      assumpsTrue ν (inL m.enc m.af.n must ++ [nl m.sel] ++ extra) = true))
    {T : ASet} (hT : Complete m.af T) (hmust : ∀ a ∈ must, a < m.af.n → T a = true)
    (hextra : ∀ ν, m.enc.S m.af ν = T → ν m.sel = false → assumpsTrue ν extra = true) :
    ∃ E ∈ blocked, SubL T E :=
  MInvF.solve_unsat h must extra hun hT hmust hextra

end Crusta
