import Crusta.Proofs.Wp
import Crusta.Model.Solvers

/-!
# Checking a concrete run by evaluation

`RunSound` is a `Prop` defined by recursion on the program; `runSoundB` is a Boolean mirror of it
(the `unsat` case is discharged by a small splitting refutation procedure `refuteB`, proved sound),
so that `RunSound p rs {}` of a concrete run follows from a kernel computation; `RunsTo` gathers
what is evaluated about one run, so that the run is evaluated once.  The non-vacuity witnesses
(`NonVacuity*.lean`) are built with it.
-/

namespace Crusta.NonVacuity
open Crusta

/-- `f` with the variable `v` set to `b` -/
def assignCnf (v : Nat) (b : Bool) (f : Cnf) : Cnf :=
  (f.filter (fun c => !c.any (fun l => l.var == v && l.pos == b))).map (fun c => c.filter (fun l => l.var != v))

/-- the variable to split on: that of a unit clause if there is one, so that units propagate -/
def splitVar : Cnf → Nat
  | [l] :: _ => l.var
  | [l :: _] => l.var
  | _ :: f => splitVar f
  | [] => 0

/-- refutation by splitting, at most `k` deep: `true` only if `f` is unsatisfiable -/
def refuteB : Nat → Cnf → Bool
  | 0, f => f.any (fun c => c.isEmpty)
  | k + 1, f => f.any (fun c => c.isEmpty) ||
      (refuteB k (assignCnf (splitVar f) true f) && refuteB k (assignCnf (splitVar f) false f))

theorem clauseTrue_assign (ν : Asg) (v : Nat) (c : Clause)
    (hc : c.any (fun l => l.var == v && l.pos == ν v) = false) :
    clauseTrue ν (c.filter (fun l => l.var != v)) = clauseTrue ν c := by
  induction c with
  | nil => rfl
  | cons l t ih =>
    rw [List.any_cons, Bool.or_eq_false_iff] at hc
    by_cases h : l.var = v
    · have hl : litTrue ν l = false := by
        have h1 := hc.1
        rw [h, beq_self_eq_true, Bool.true_and] at h1
        unfold litTrue
        rw [h]
        revert h1
        cases l.pos <;> cases ν v <;> decide
      simp only [List.filter_cons, h, bne_self_eq_false, Bool.false_eq_true, if_false, clauseTrue_cons, hl,
        Bool.false_or]
      exact ih hc.2
    · simp only [List.filter_cons, bne_iff_ne.2 h, if_true, clauseTrue_cons]
      rw [ih hc.2]

theorem cnfTrue_assign (ν : Asg) (v : Nat) (f : Cnf) :
    cnfTrue ν (assignCnf v (ν v) f) = cnfTrue ν f := by
  induction f with
  | nil => rfl
  | cons c t ih =>
    unfold assignCnf at *
    cases hc : c.any (fun l => l.var == v && l.pos == ν v)
    · simp only [List.filter_cons, hc, Bool.not_false, if_true, List.map_cons, cnfTrue_cons]
      rw [ih, clauseTrue_assign ν v c hc]
    · have hct : clauseTrue ν c = true := by
        obtain ⟨l, hl, h⟩ := List.any_eq_true.1 hc
        simp only [Bool.and_eq_true, beq_iff_eq] at h
        exact (clauseTrue_iff _ _).2 ⟨l, hl, by unfold litTrue; rw [h.1, h.2]; cases ν v <;> rfl⟩
      simp only [List.filter_cons, hc, Bool.not_true, Bool.false_eq_true, if_false, cnfTrue_cons, hct,
        Bool.true_and]
      exact ih

theorem refuteB_sound : ∀ (k : Nat) (f : Cnf), refuteB k f = true → ∀ ν : Asg, cnfTrue ν f = false := by
  have hempty : ∀ (f : Cnf) (ν : Asg), f.any (fun c => c.isEmpty) = true → cnfTrue ν f = false := by
    intro f ν h
    obtain ⟨c, hc, he⟩ := List.any_eq_true.1 h
    rw [List.isEmpty_iff] at he
    subst he
    rw [Bool.eq_false_iff]
    intro ht
    cases (cnfTrue_iff _ _).1 ht [] hc
  intro k
  induction k with
  | zero => intro f h ν; exact hempty f ν h
  | succ k ih =>
    intro f h ν
    rcases Bool.or_eq_true_iff.1 h with h | h
    · exact hempty f ν h
    · obtain ⟨h1, h2⟩ := Bool.and_eq_true_iff.1 h
      rw [← cnfTrue_assign ν (splitVar f) f]
      cases hv : ν (splitVar f)
      · exact ih _ h2 ν
      · exact ih _ h1 ν

theorem assumps_as_units (ν : Asg) (a : List Lit) : assumpsTrue ν a = cnfTrue ν (a.map (fun l => [l])) := by
  induction a with
  | nil => rfl
  | cons l t ih =>
    rw [assumpsTrue_cons, List.map_cons, cnfTrue_cons, clauseTrue_singleton, ih]

def modelTotalB (m : Model) (db : Cnf) : Bool :=
  db.all (fun c => c.all (fun l => (m.getD (l.var - 1) none).isSome))

/-- `unsat` is checked by refutation over the variables up to the largest one occurring in the clauses
and the assumptions -/
def replySoundB (db : Cnf) (a : List Lit) : Reply → Bool
  | .sat m => modelTotalB m db && cnfTrue (asgOfModel m) db && assumpsTrue (asgOfModel m) a
  | .unsat => refuteB (max (Cnf.maxVar db) (litsMax a)) (a.map (fun l => [l]) ++ db)
  | .unknown => true

theorem replySoundB_sound (db : Cnf) (a : List Lit) (r : Reply) (h : replySoundB db a r = true) :
    ReplySound db a r := by
  cases r with
  | unknown => trivial
  | sat m =>
    obtain ⟨h12, h3⟩ := Bool.and_eq_true_iff.1 h
    obtain ⟨h1, h2⟩ := Bool.and_eq_true_iff.1 h12
    exact ⟨fun c hc l hl => List.all_eq_true.1 (List.all_eq_true.1 h1 c hc) l hl, h2, h3⟩
  | unsat =>
    intro ν ⟨h1, h2⟩
    have := refuteB_sound _ _ h ν
    rw [cnfTrue_append, ← assumps_as_units, h1, h2] at this
    cases this

def runSoundB {α : Type} : Prog α → List Reply → World → Bool
  | .pure _, _, _ => true
  | .crash _, _, _ => true
  | .newSolver k, rs, w => runSoundB (k w.solvers.length) rs w.onNew
  | .reserve s n k, rs, w => runSoundB k rs (w.onReserve s n)
  | .clause s c k, rs, w => runSoundB k rs (w.onClause s c)
  | .nVars s k, rs, w => runSoundB (k (w.nVarsOf s)) rs (w.onNVars s)
  | .solve _ _ _, [], _ => true
  | .solve _ _ _, .unknown :: _, _ => true
  | .solve s a k, .unsat :: rs', w =>
    replySoundB (w.db s) a .unsat && runSoundB (k none) rs' ((w.onSolve s a).onReply s .unsat)
  | .solve s a k, .sat m :: rs', w =>
    replySoundB (w.db s) a (.sat m) && runSoundB (k (some m)) rs' ((w.onSolve s a).onReply s (.sat m))

theorem runSoundB_sound {α : Type} (p : Prog α) : ∀ (rs : List Reply) (w : World),
    runSoundB p rs w = true → RunSound p rs w := by
  induction p with
  | pure a => intro rs w _; trivial
  | crash m => intro rs w _; trivial
  | newSolver k ih => intro rs w h; exact ih _ rs _ h
  | reserve s n k ih => intro rs w h; exact ih rs _ h
  | clause s c k ih => intro rs w h; exact ih rs _ h
  | nVars s k ih => intro rs w h; exact ih _ rs _ h
  | solve s a k ih =>
    intro rs w h
    cases rs with
    | nil => trivial
    | cons r rs' =>
      cases r with
      | unknown => trivial
      | unsat =>
        obtain ⟨h1, h2⟩ := Bool.and_eq_true_iff.1 h
        exact ⟨replySoundB_sound _ _ _ h1, ih none rs' _ h2⟩
      | sat m =>
        obtain ⟨h1, h2⟩ := Bool.and_eq_true_iff.1 h
        exact ⟨replySoundB_sound _ _ _ h1, ih (some m) rs' _ h2⟩

def doneD {α : Type} (x : Outcome α × World) (dflt : α) : α := match x.1 with | .done a => a | _ => dflt

def isDoneB {α : Type} (x : Outcome α × World) : Bool := match x.1 with | .done _ => true | _ => false

theorem done_eq {α : Type} (x : Outcome α × World) (dflt : α) (h : isDoneB x = true) :
    x = (.done (doneD x dflt), x.2) := by
  obtain ⟨o, w⟩ := x
  cases o <;> first | rfl | cases h

-- the model derives only `Repr` for answers; `RunsTo` compares the answer of a run with the expected one
deriving instance DecidableEq for AccAns, Ans

/-- what is left to evaluation about a run.  `doneD` takes the expected answer as its default, so the third
conjunct says that the run returned `a` only together with the second (`isDoneB`) -/
def RunsTo {α : Type} (p : Prog α) (rs : List Reply) (w : World) (a : α) (n : Nat) : Prop :=
  runSoundB p rs w = true ∧ isDoneB (interp p rs w) = true ∧ doneD (interp p rs w) a = a ∧
    (interp p rs w).2.calls = n

instance {α : Type} [DecidableEq α] (p : Prog α) (rs : List Reply) (w : World) (a : α) (n : Nat) :
    Decidable (RunsTo p rs w a n) := inferInstanceAs (Decidable (_ ∧ _ ∧ _ ∧ _))

section
variable {α : Type} {p : Prog α} {rs : List Reply} {w : World} {a : α} {n : Nat} (h : RunsTo p rs w a n)
include h

theorem RunsTo.sound : RunSound p rs w := runSoundB_sound _ _ _ h.1

theorem RunsTo.eq : interp p rs w = (.done a, (interp p rs w).2) := by
  have := done_eq _ a h.2.1
  rwa [h.2.2.1] at this

theorem RunsTo.calls : (interp p rs w).2.calls = n := h.2.2.2

end

/-! ## Shared by the witness files -/

/-- the model over variables `1..n` in which exactly the variables listed in `ts` (1-based) are true -/
def modelOf (n : Nat) (ts : List Nat) : Model := (List.range n).map (fun i => some (ts.contains (i + 1)))

def cfgA : Cfg := { enc := .auxCO }

/-- aux_var layout on 3 arguments: `P0 x0 P1 x1 P2 x2`, then the selector (variable 7).
The model encodes the extension {0,2}. -/
def mCO : Model := [some false, some true, some true, some false, some false, some true, some true]

end Crusta.NonVacuity
