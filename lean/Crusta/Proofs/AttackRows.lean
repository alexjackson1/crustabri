import Crusta.Proofs.ViewSpec

/-! # The rows `attackers` / `attackedOf` of a framework list exactly its attacks, so its view presents its graph -/

namespace Crusta

theorem AF.mem_attackers {af : AF} {a b : Nat} : b ∈ af.attackers a ↔ (b, a) ∈ af.atts := by
  unfold AF.attackers
  simp only [List.mem_map, List.mem_filter, beq_iff_eq]
  constructor
  · rintro ⟨p, ⟨hp, rfl⟩, rfl⟩
    exact hp
  · exact fun h => ⟨(b, a), ⟨h, rfl⟩, rfl⟩

theorem AF.mem_attackedOf {af : AF} {a t : Nat} : t ∈ af.attackedOf a ↔ (a, t) ∈ af.atts := by
  unfold AF.attackedOf
  simp only [List.mem_map, List.mem_filter, beq_iff_eq]
  constructor
  · rintro ⟨p, ⟨hp, rfl⟩, rfl⟩
    exact hp
  · exact fun h => ⟨(a, t), ⟨h, rfl⟩, rfl⟩

theorem AF.attackers_lt {af : AF} (hwf : af.WF) {a b : Nat} (h : b ∈ af.attackers a) : b < af.n :=
  (hwf _ (AF.mem_attackers.1 h)).1

/-- both count the occurrences of the attack `(a, b)` -/
theorem AF.count_rows (atts : List (Nat × Nat)) (a b : Nat) :
    ((atts.filter (fun p => p.1 == a)).map (·.2)).count b
      = ((atts.filter (fun p => p.2 == b)).map (·.1)).count a := by
  rw [List.count_eq_countP, List.count_eq_countP, List.countP_map, List.countP_map, List.countP_filter,
    List.countP_filter]
  exact List.countP_congr fun p _ => by
    show ((p.2 == b) && (p.1 == a)) = true ↔ ((p.1 == a) && (p.2 == b)) = true
    rw [Bool.and_comm]

theorem AF.view_ok (af : AF) (hwf : af.WF) : af.view.Ok af.g where
  wf a b hab := ⟨decide_eq_true (hwf _ hab).1, decide_eq_true (hwf _ hab).2⟩
  maxId_ge a ha := by
    have ha' : a < af.n := of_decide_eq_true ha
    exact ⟨af.n - 1, if_neg fun e => absurd (beq_iff_eq.1 e ▸ ha') (Nat.not_lt_zero a), Nat.le_sub_one_of_lt ha'⟩
  isLive _ := rfl
  live_mem _ := List.mem_range.trans decide_eq_true_iff.symm
  live_nodup := List.nodup_range
  attFrom_mem _ _ := AF.mem_attackedOf
  attTo_mem _ _ := AF.mem_attackers
  count := AF.count_rows af.atts
  allAtts_mem _ _ := Iff.rfl

end Crusta
