import Crusta.Proofs.EncAux
import Crusta.Proofs.EncExp

/-!
# Decoding (`assignment_to_extension`) inverts the argument layout and ignores everything else
-/

namespace Crusta

/-- a `filterMap` over `zipIdx` that emits `a` exactly at position `j`, under the side condition `Q` -/
theorem mem_decodeWith (m : List (Option Bool)) (g : Option Bool × Nat → Option Nat) (a j : Nat)
    (Q : Prop) (hg : ∀ v i, g (v, i) = some a ↔ (v = some true ∧ i = j ∧ Q)) :
    a ∈ m.zipIdx.filterMap g ↔ (Q ∧ m[j]? = some (some true)) := by
  simp only [List.mem_filterMap, List.mem_zipIdx_iff_getElem?, Prod.exists, hg]
  exact ⟨fun ⟨v, i, hm, hv, hi, hq⟩ => ⟨hq, hi ▸ hv ▸ hm⟩, fun ⟨hq, hm⟩ => ⟨_, j, hm, rfl, rfl, hq⟩⟩

theorem Exp.mem_decode (n : Nat) (m : List (Option Bool)) (a : Nat) :
    a ∈ Exp.decode n m ↔ (a < n ∧ asgOfModel m (Exp.x a) = true) := by
  rw [Exp.decode, mem_decodeWith m _ a a (a < n), asgOfModel_iff]
  · simp [Exp.x]
  · intro v i
    simp only [Bool.and_eq_true, beq_iff_eq, decide_eq_true_eq, Option.ite_none_right_eq_some, Option.some.injEq]
    exact ⟨fun ⟨⟨hv, hi⟩, e⟩ => ⟨hv, e, e ▸ hi⟩, fun ⟨hv, e, hi⟩ => ⟨⟨hv, e ▸ hi⟩, e⟩⟩

/-- the stable encoder decodes like the exp layout (`i + 1 ≤ n` is `i < n`) -/
theorem Stb.mem_decode (n : Nat) (m : List (Option Bool)) (a : Nat) :
    a ∈ Stb.decode n m ↔ (a < n ∧ asgOfModel m (Stb.x a) = true) :=
  Exp.mem_decode n m a

theorem Aux.mem_decode (n : Nat) (m : List (Option Bool)) (a : Nat) :
    a ∈ Aux.decode n m ↔ (a < n ∧ asgOfModel m (Aux.x a) = true) := by
  have hx : Aux.x a - 1 + 1 = Aux.x a := Nat.sub_add_cancel (Aux.x_le_reserve (Nat.lt_succ_self a)).1
  rw [Aux.decode, mem_decodeWith m _ a (Aux.x a - 1) (a < n), asgOfModel_iff]
  · simp only [(Aux.x_le_reserve (Nat.lt_succ_self a)).1, true_and]
  · intro v i
    simp only [Bool.and_eq_true, beq_iff_eq, decide_eq_true_eq, Option.ite_none_right_eq_some,
      Option.some.injEq, and_assoc]
    refine and_congr_right fun _ => ⟨fun ⟨h2, hn, h3⟩ => ?_, fun ⟨hi, ha⟩ => ?_⟩
    · rw [← Aux.x_of_decode (Nat.succ_ne_zero i) h2 h3]
      exact ⟨rfl, h3 ▸ hn⟩
    · rw [hi, hx, Aux.x, Nat.mul_mod_left, Nat.mul_div_cancel _ (by decide), Nat.add_sub_cancel]
      exact ⟨rfl, ha, rfl⟩

theorem Aux.decode_eq_S (af : AF) (m : List (Option Bool)) (a : Nat) :
    a ∈ Aux.decode af.n m ↔ Aux.S af (asgOfModel m) a = true :=
  (Aux.mem_decode af.n m a).trans setOfAsg_true.symm

theorem Exp.decode_eq_S (af : AF) (m : List (Option Bool)) (a : Nat) :
    a ∈ Exp.decode af.n m ↔ Exp.S af (asgOfModel m) a = true :=
  (Exp.mem_decode af.n m a).trans setOfAsg_true.symm

theorem Stb.decode_eq_S (af : AF) (m : List (Option Bool)) (a : Nat) :
    a ∈ Stb.decode af.n m ↔ Stb.S af (asgOfModel m) a = true :=
  Exp.decode_eq_S af m a

end Crusta
