import Crusta.Spec.Oracle
import Crusta.Proofs.Deciders

/-!
# The conformance oracle is exactly the property text of C01–C04 / C07

`Conforms af q a` restates the properties as a `Prop` over the textbook semantics; the executable
`checkAnswer` (run by the checks on every answer of the real solvers) accepts an answer iff it
conforms.  Hence a `verdict BAD` is a genuine violation of the property, and `verdict ok` means the
property holds on that answer; no bound on the framework.  Two accepted answers to one acceptance
question have the same status (`Conforms.status_unique`).
-/

namespace Crusta

theorem nodupB_iff (l : List Nat) : nodupB l = true ↔ l.Nodup := by
  induction l with
  | nil => simp [nodupB]
  | cons a l ih => simp [nodupB, ih]

theorem validExtB_iff (σ : Sem) (af : AF) (hwf : af.WF) (e : List Nat) :
    validExtB σ af e = true ↔ e.Nodup ∧ σ.Ext af (ofList e) := by
  simp [validExtB, nodupB_iff, extB_iff σ af hwf]

theorem hitsB_iff (e as : List Nat) : hitsB e as = true ↔ ∃ a ∈ as, a ∈ e := by
  simp [hitsB]

theorem exts_isEmpty_iff (σ : Sem) (af : AF) (hwf : af.WF) :
    (σ.exts af).isEmpty = true ↔ ¬ ∃ S, σ.Ext af S := by
  rw [List.isEmpty_iff, List.eq_nil_iff_forall_not_mem, not_exists]
  exact (forall_fam_iff af (σ.Ext af) (fun _ => False) (σ.exts af) (mem_exts_iff σ af hwf)
    (fun _ => ext_sub σ)).symm

/-- what a certificate slot must look like (C04): `wantWitness` says whether this status promises one;
`P e` is the membership condition on the witness -/
def CertConforms (σ : Sem) (af : AF) (certFlag : Bool) (wantWitness : Bool) (P : List Nat → Prop) :
    Option (Option (List Nat)) → Prop
  | none => certFlag = false
  | some none => certFlag = true ∧ wantWitness = false
  | some (some e) => certFlag = true ∧ wantWitness = true ∧ e.Nodup ∧ σ.Ext af (ofList e) ∧ P e

/-- C01–C04, C07 as one predicate on (framework, query, answer) -/
def Conforms (af : AF) (q : Query) : Answer → Prop
  | .se none => q.task = .SE ∧ ¬ ∃ S, q.sem.Ext af S
  | .se (some e) => q.task = .SE ∧ e.Nodup ∧ q.sem.Ext af (ofList e)
  | .acc st c =>
    match q.task with
    | .SE => False
    | .DC => (st = true ↔ ∃ S, q.sem.Ext af S ∧ ∃ a ∈ q.args, S a = true) ∧
        CertConforms q.sem af q.cert st (fun e => ∃ a ∈ q.args, a ∈ e) c
    | .DS => (st = true ↔ ∀ S, q.sem.Ext af S → ∃ a ∈ q.args, S a = true) ∧
        CertConforms q.sem af q.cert (!st) (fun e => ¬ ∃ a ∈ q.args, a ∈ e) c

theorem status_eq_of_iff {st b : Bool} {P : Prop} (h1 : st = true ↔ P) (h2 : b = true ↔ P) : st = b :=
  Bool.eq_iff_iff.2 (h1.trans h2.symm)

theorem ite_ok_iff {b : Bool} {s : String} :
    (if b = true then Except.ok () else Except.error s : Except String Unit) = .ok () ↔ b = true := by
  cases b <;> simp

theorem ite_error_iff {b : Bool} {s : String} {r : Except String Unit} :
    (if b = true then Except.error s else r) = .ok () ↔ b = false ∧ r = .ok () := by
  cases b <;> simp

/-- the discipline of the certificate slot is the same for both acceptance tasks; they differ in
the result `r1` for an empty slot and the result `r2 e` for a witness `e` -/
theorem cert_slot_iff (σ : Sem) (af : AF) (cert want : Bool) (P : List Nat → Prop) (s1 s2 : String)
    (r1 : Except String Unit) (r2 : List Nat → Except String Unit)
    (h1 : r1 = .ok () ↔ want = false)
    (h2 : ∀ e, r2 e = .ok () ↔ want = true ∧ e.Nodup ∧ σ.Ext af (ofList e) ∧ P e)
    (c : Option (Option (List Nat))) :
    (match c, cert with
      | none, false => .ok ()
      | none, true => .error s1
      | some _, false => .error s2
      | some none, true => r1
      | some (some e), true => r2 e : Except String Unit) = .ok () ↔ CertConforms σ af cert want P c := by
  rcases c with _ | _ | e <;> cases cert <;> simp [CertConforms, h1, h2]

theorem checkAnswer_iff (af : AF) (hwf : af.WF) (q : Query) (a : Answer) :
    checkAnswer af q a = .ok () ↔ Conforms af q a := by
  obtain ⟨σ, task, cert, args⟩ := q
  cases a with
  | se ext =>
    cases ext with
    | none =>
      -- `show` unfolds `checkAnswer` on this shape of answer into its chain of `if`s
      show (if (task != .SE) = true then _ else if _ then _ else _) = _ ↔ _ ∧ _
      rw [ite_error_iff, ite_ok_iff, bne_eq_false_iff_eq, exts_isEmpty_iff σ af hwf]
    | some e =>
      show (if (task != .SE) = true then _ else if _ then _ else _) = _ ↔ _ ∧ _
      rw [ite_error_iff, ite_ok_iff, bne_eq_false_iff_eq, validExtB_iff σ af hwf]
  | acc st c =>
    cases task with
    | SE => exact ⟨nofun, False.elim⟩
    | DC =>
      show (if (st != σ.credB af args) = true then _ else _) = _ ↔ _ ∧ _
      rw [ite_error_iff, bne_eq_false_iff_eq, Bool.eq_iff_iff, credB_iff σ af hwf]
      refine and_congr_right fun _ => cert_slot_iff σ af cert st _ _ _ _ _ ?_ (fun e => ?_) c
      · cases st <;> simp
      · rw [ite_error_iff, ite_error_iff, ite_error_iff]
        simp only [Bool.not_eq_false', and_true]
        rw [validExtB_iff σ af hwf, hitsB_iff, and_assoc]
    | DS =>
      show (if (st != σ.skepB af args) = true then _ else _) = _ ↔ _ ∧ _
      rw [ite_error_iff, bne_eq_false_iff_eq, Bool.eq_iff_iff, skepB_iff σ af hwf]
      refine and_congr_right fun _ => cert_slot_iff σ af cert (!st) _ _ _ _ _ ?_ (fun e => ?_) c
      · cases st <;> simp
      · rw [ite_error_iff, ite_error_iff, ite_error_iff]
        simp only [Bool.not_eq_false', Bool.not_eq_true', and_true]
        rw [validExtB_iff σ af hwf, Bool.eq_false_iff (b := hitsB e args), Ne, hitsB_iff, and_assoc]

/-- whatever the judge accepts has the status the semantics dictate, so two accepted answers to one
question agree (for answers that meet `DCOK` / `DSOK`: `DCOK.status_iff`, `DSOK.status_iff` in `StaticGR`) -/
theorem Conforms.status_unique {af : AF} {σ : Sem} {t : Task} {as : List Nat} {cert1 cert2 st1 st2 : Bool}
    {c1 c2 : Option (Option (List Nat))} (h1 : Conforms af ⟨σ, t, cert1, as⟩ (.acc st1 c1))
    (h2 : Conforms af ⟨σ, t, cert2, as⟩ (.acc st2 c2)) : st1 = st2 := by
  cases t
  · exact h1.elim
  · exact status_eq_of_iff h1.1 h2.1
  · exact status_eq_of_iff h1.1 h2.1

end Crusta
