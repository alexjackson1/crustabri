import Crusta.Proofs.GSem

/-! # The range-based and ideal semantics over a sparse universe (definitions) -/

namespace Crusta

def G.InRange (g : G) (S : ASet) (a : Nat) : Prop := S a = true ∨ g.AttackedBy S a
def G.RangeSub (g : G) (S T : ASet) : Prop := ∀ a, g.InRange S a → g.InRange T a
def G.SemiStable (g : G) (S : ASet) : Prop := g.Complete S ∧ ∀ T, g.Complete T → g.RangeSub S T → g.RangeSub T S
def G.Stage (g : G) (S : ASet) : Prop := g.CF S ∧ ∀ T, g.CF T → g.RangeSub S T → g.RangeSub T S
def G.IdealCand (g : G) (S : ASet) : Prop := g.Admissible S ∧ ∀ P, g.Preferred P → SubsetS S P
def G.Ideal (g : G) (S : ASet) : Prop := g.IdealCand S ∧ ∀ T, g.IdealCand T → SubsetS S T → SubsetS T S

end Crusta
