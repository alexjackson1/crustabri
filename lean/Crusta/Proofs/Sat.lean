import Crusta.Model.Sat
import Crusta.Proofs.ReaderWF
import Crusta.Proofs.CnfSem
import Crusta.Proofs.ListAux

/-!
# SAT wrapper theorems (C15, C16)

A history of the clause buffer is a list of operations `BOp` applied from the empty buffer
(`Buffered.apply`; `Buffered.reachable_ind` is induction over histories).  The reply parser is read
through the equations of `replyLine` (`replyLine_some`, one per branch; inversion `replyLine_ok`).
`replyFold_origin` says where the state an accepted reply leaves comes from: the assignment keeps
its length, a status is set once and by a status line, `ended` once and by a value line with a `0`;
`reply_faithful` and `result_needs` are read off it.  Last, the pipe model.
-/

namespace Crusta.Sat
open Crusta Crusta.IO

inductive BOp
  | add (c : Clause)
  | reserve (n : Nat)
  | solve (as : List Lit)
deriving Repr

def Buffered.apply (b : Buffered) : BOp → Buffered
  | .add c => b.addClause c
  | .reserve n => b.reserve n
  | .solve as => b.withAssumptions as

def Buffered.Inv (b : Buffered) : Prop := ∀ c ∈ b.clauses, ∀ l ∈ c, l.var ≤ b.nVars

theorem Buffered.inv_apply (b : Buffered) (op : BOp) (h : b.Inv) : (b.apply op).Inv := by
  cases op with
  | add c =>
    intro c' hc' l hl
    simp only [Buffered.apply, Buffered.addClause, List.mem_append, List.mem_singleton] at hc' ⊢
    rcases hc' with hc' | rfl
    · exact Nat.le_trans (h c' hc' l hl) (le_foldl_max _ _ _)
    · exact mem_le_foldl_max _ hl _
  | reserve n =>
    intro c hc l hl
    simp only [Buffered.apply, Buffered.reserve] at hc ⊢
    by_cases hn : n > b.nVars
    · simp only [hn, if_true] at hc ⊢; exact Nat.le_trans (h c hc l hl) (Nat.le_of_lt hn)
    · simp only [hn, if_false] at hc ⊢; exact h c hc l hl
  | solve as =>
    intro c hc l hl
    simp only [Buffered.apply, Buffered.withAssumptions] at hc ⊢
    exact Nat.le_trans (h c hc l hl) (le_foldl_max _ _ _)

theorem Buffered.reachable_ind {P : Buffered → Prop} {Q : BOp → Prop} (h0 : P {})
    (hs : ∀ b op, P b → Q op → P (b.apply op)) (ops : List BOp) (hq : ∀ op ∈ ops, Q op) :
    P (ops.foldl Buffered.apply {}) := by
  suffices ∀ b, P b → P (ops.foldl Buffered.apply b) from this {} h0
  induction ops with
  | nil => exact fun b h => h
  | cons o os ih =>
    exact fun b h => ih (fun x hx => hq x (List.mem_cons_of_mem _ hx)) _
      (hs b o h (hq o (List.mem_cons_self ..)))

theorem Buffered.inv_reachable (ops : List BOp) : (ops.foldl Buffered.apply {}).Inv :=
  Buffered.reachable_ind (Q := fun _ => True) (fun c hc => by cases hc)
    (fun b op h _ => b.inv_apply op h) ops (fun _ _ => trivial)

/-- **the announced variable count is large enough (C16)**: for every history of clause additions,
reservations and earlier solve calls, the variable count of the instance handed to the external
solver for a call with assumptions `as` covers every variable of every clause *and of every
assumption*.  (That the announced clause count is exact is `dimacs_header_exact`, in `SatRoundTrip`.) -/
theorem dimacs_wellformed (ops : List BOp) (as : List Lit) :
    let b := (ops.foldl Buffered.apply {}).withAssumptions as
    (∀ c ∈ b.clauses, ∀ l ∈ c, l.var ≤ b.nVars) ∧ (∀ a ∈ as, a.var ≤ b.nVars) := by
  intro b
  refine ⟨?_, ?_⟩
  · exact Buffered.inv_apply _ (.solve as) (Buffered.inv_reachable ops)
  · intro a ha
    exact mem_le_foldl_max _ ha _

/-- assumptions hold for one call only: they never enter the clause buffer -/
theorem assumptions_not_stored (b : Buffered) (as : List Lit) : (b.withAssumptions as).clauses = b.clauses := rfl

/-- clauses added between calls are part of every later instance, in order -/
theorem clauses_accumulate (b : Buffered) (c : Clause) : (b.addClause c).clauses = b.clauses ++ [c] := rfl

theorem instance_model (b : Buffered) (as : List Lit) (ν : Asg)
    (h : cnfTrue ν (b.clauses ++ as.map (fun a => [a])) = true) :
    (∀ c ∈ b.clauses, clauseTrue ν c = true) ∧ (∀ a ∈ as, litTrue ν a = true) := by
  rw [cnfTrue_append_iff, cnfTrue_iff, cnfTrue_map] at h
  refine ⟨h.1, fun a ha => ?_⟩
  have := h.2 a ha
  rwa [clauseTrue_singleton] at this

/-- a token: non-empty, no ASCII blank inside -/
def Tok (w : Str) : Prop := w ≠ [] ∧ ∀ c ∈ w, isAsciiWs c = false

theorem splitAsciiWs_go_word (x : Str) (hx : ∀ c ∈ x, isAsciiWs c = false) (rest cur : Str) (acc : List Str) :
    splitAsciiWs.go (x ++ rest) cur acc = splitAsciiWs.go rest (x.reverse ++ cur) acc := by
  induction x generalizing cur with
  | nil => simp
  | cons c cs ih =>
    have hc := hx c (List.mem_cons_self ..)
    simp only [List.cons_append, splitAsciiWs.go, hc]
    rw [ih (fun d hd => hx d (List.mem_cons_of_mem _ hd))]
    simp

theorem splitAsciiWs_go_acc (l cur : Str) (acc : List Str) :
    splitAsciiWs.go l cur acc = acc.reverse ++ splitAsciiWs.go l cur [] := by
  induction l generalizing cur acc with
  | nil => cases h : cur.isEmpty <;> simp [splitAsciiWs.go, h]
  | cons c cs ih =>
    cases hc : isAsciiWs c
    · simp only [splitAsciiWs.go, hc, Bool.false_eq_true, if_false]
      exact ih _ _
    · simp only [splitAsciiWs.go, hc, if_true]
      rw [ih [] (if cur.isEmpty then acc else cur.reverse :: acc),
        ih [] (if cur.isEmpty then [] else [cur.reverse])]
      cases h : cur.isEmpty <;> simp

theorem splitAsciiWs_nil : splitAsciiWs [] = [] := rfl

theorem splitAsciiWs_ws (c : Nat) (rest : Str) (hc : isAsciiWs c = true) :
    splitAsciiWs (c :: rest) = splitAsciiWs rest := by
  simp [splitAsciiWs, splitAsciiWs.go, hc]

theorem splitAsciiWs_word (w : Str) (hw : Tok w) : splitAsciiWs w = [w] := by
  have := splitAsciiWs_go_word w hw.2 [] [] []
  rw [List.append_nil, List.append_nil] at this
  unfold splitAsciiWs
  rw [this]
  have he : w.reverse.isEmpty = false := by simp [hw.1]
  simp [splitAsciiWs.go, he]

theorem splitAsciiWs_word_ws (w : Str) (hw : Tok w) (c : Nat) (hc : isAsciiWs c = true) (rest : Str) :
    splitAsciiWs (w ++ c :: rest) = w :: splitAsciiWs rest := by
  unfold splitAsciiWs
  rw [splitAsciiWs_go_word w hw.2]
  have he : w.reverse.isEmpty = false := by simp [hw.1]
  simp only [List.append_nil, splitAsciiWs.go, hc, if_true, he, Bool.false_eq_true, if_false,
    List.reverse_reverse]
  rw [splitAsciiWs_go_acc]
  simp

theorem isAsciiWs_32 : isAsciiWs 32 = true := by decide

theorem tok_cons (c : Nat) (w : Str) (hc : isAsciiWs c = false) (hw : ∀ d ∈ w, isAsciiWs d = false) :
    Tok (c :: w) :=
  ⟨by simp, fun d hd => by rcases List.mem_cons.1 hd with rfl | hd; exact hc; exact hw d hd⟩

theorem tok_v : Tok [118] := tok_cons 118 [] (by decide) (by simp)

/-- the tokens of a `v ` line after the leading `v` are the tokens of the rest of the line -/
theorem vline_tokens (t : Str) : (splitAsciiWs (118 :: 32 :: t)).drop 1 = splitAsciiWs t := by
  rw [show 118 :: 32 :: t = [118] ++ 32 :: t from rfl, splitAsciiWs_word_ws [118] tok_v 32 isAsciiWs_32]
  rfl

/-- a token that makes the value line fail whatever the state: not an `isize`, or a literal whose
variable is not declared -/
def BadTok (nv : Nat) (w : Str) : Prop :=
  parseIsize w = none ∨ ∃ n, parseIsize w = some n ∧ n ≠ 0 ∧ n.natAbs - 1 ≥ nv

theorem vTokens_cons_ok {nv : Nat} {st st' : PSt} {w : Str} {ws : List Str}
    (h : vTokens nv st (w :: ws) = .ok st') :
    ∃ n, parseIsize w = some n ∧
      ((n = 0 ∧ st.ended = false ∧ vTokens nv { st with ended := true } ws = .ok st') ∨
       (n ≠ 0 ∧ n.natAbs - 1 < nv ∧
        vTokens nv { st with asg := st.asg.set (n.natAbs - 1) (some (decide (n > 0))) } ws = .ok st')) := by
  simp only [vTokens] at h
  split at h
  · cases h
  · rename_i n hn
    refine ⟨n, hn, ?_⟩
    by_cases h0 : n = 0
    · rw [if_pos (by simpa using h0)] at h
      cases he : st.ended
      · rw [he] at h; exact .inl ⟨h0, rfl, h⟩
      · rw [he] at h; cases h
    · rw [if_neg (by simpa using h0)] at h
      split at h
      · cases h
      · rename_i hv; exact .inr ⟨h0, Nat.lt_of_not_le hv, h⟩

theorem vTokens_lit {nv : Nat} {st : PSt} {w : Str} {ws : List Str} {n : Int} (hn : parseIsize w = some n)
    (h0 : n ≠ 0) (hv : n.natAbs - 1 < nv) :
    vTokens nv st (w :: ws) =
      vTokens nv { st with asg := st.asg.set (n.natAbs - 1) (some (decide (n > 0))) } ws := by
  simp only [vTokens, hn, beq_iff_eq, h0, if_false, Nat.not_le.2 hv]

theorem vTokens_zero {nv : Nat} {st : PSt} {w : Str} {ws : List Str} (hn : parseIsize w = some 0)
    (he : st.ended = false) : vTokens nv st (w :: ws) = vTokens nv { st with ended := true } ws := by
  simp only [vTokens, hn, BEq.rfl, if_true, he, Bool.false_eq_true, if_false]

theorem vTokens_not_lit {nv : Nat} {st : PSt} {w : Str} {ws : List Str} (h : parseIsize w = none) :
    vTokens nv st (w :: ws) = .error "not a literal" := by
  simp only [vTokens, h]

theorem vTokens_append_ok {nv : Nat} : ∀ {a b : List Str} {st st' : PSt}, vTokens nv st (a ++ b) = .ok st' →
    ∃ s, vTokens nv st a = .ok s ∧ vTokens nv s b = .ok st' := by
  intro a
  induction a with
  | nil => intro b st st' h; exact ⟨st, rfl, h⟩
  | cons w ws ih =>
    intro b st st' h
    obtain ⟨n, hn, h⟩ := vTokens_cons_ok h
    rcases h with ⟨rfl, he, h⟩ | ⟨h0, hv, h⟩
    · obtain ⟨s, h1, h2⟩ := ih h
      exact ⟨s, (vTokens_zero hn he).trans h1, h2⟩
    · obtain ⟨s, h1, h2⟩ := ih h
      exact ⟨s, (vTokens_lit hn h0 hv).trans h1, h2⟩

theorem vTokens_ok {nv : Nat} : ∀ {ws : List Str} {st st' : PSt}, vTokens nv st ws = .ok st' →
    st'.asg.length = st.asg.length ∧ st'.status = st.status ∧ ∀ w ∈ ws, ¬ BadTok nv w := by
  intro ws
  induction ws with
  | nil =>
    intro st st' h
    obtain rfl : st = st' := by simpa [vTokens] using h
    exact ⟨rfl, rfl, nofun⟩
  | cons w ws ih =>
    intro st st' h
    obtain ⟨n, hn, h⟩ := vTokens_cons_ok h
    rcases h with ⟨h0, _, h⟩ | ⟨h0, hv, h⟩
    · obtain ⟨hl, hs, hg⟩ := ih h
      refine ⟨hl, hs, List.forall_mem_cons.2 ⟨?_, hg⟩⟩
      rintro (hb | ⟨m, hm, hm0, _⟩)
      · rw [hb] at hn; cases hn
      · rw [hm] at hn; cases hn; exact hm0 h0
    · obtain ⟨hl, hs, hg⟩ := ih h
      refine ⟨by rw [hl, List.length_set], hs, List.forall_mem_cons.2 ⟨?_, hg⟩⟩
      rintro (hb | ⟨m, hm, _, hmv⟩)
      · rw [hb] at hn; cases hn
      · rw [hm] at hn; cases hn; exact absurd hmv (Nat.not_le.2 hv)

theorem vTokens_ended {nv : Nat} : ∀ {ws : List Str} {st st' : PSt}, vTokens nv st ws = .ok st' →
    (st'.ended = true ↔ st.ended = true ∨ ∃ w ∈ ws, parseIsize w = some 0) ∧
    (st.ended = true → ∀ w ∈ ws, parseIsize w ≠ some 0) := by
  intro ws
  induction ws with
  | nil =>
    intro st st' h
    obtain rfl : st = st' := by simpa [vTokens] using h
    simp
  | cons w ws ih =>
    intro st st' h
    obtain ⟨n, hn, h⟩ := vTokens_cons_ok h
    rcases h with ⟨rfl, he, h⟩ | ⟨h0, _, h⟩
    · exact ⟨⟨fun _ => .inr ⟨w, List.mem_cons_self .., hn⟩, fun _ => (ih h).1.2 (.inl rfl)⟩,
        fun e => by rw [he] at e; cases e⟩
    · obtain ⟨h1, h2⟩ := ih h
      have hw : parseIsize w ≠ some 0 := by rw [hn]; intro e; cases e; exact h0 rfl
      simp only [h1, List.mem_cons, exists_eq_or_imp, hw, false_or, forall_eq_or_imp, ne_eq,
        not_false_eq_true, true_and]
      exact h2

def sSat : Str := [115, 32, 83, 65, 84, 73, 83, 70, 73, 65, 66, 76, 69]
def sUnsat : Str := [115, 32, 85, 78, 83, 65, 84, 73, 83, 70, 73, 65, 66, 76, 69]

theorem strOf_sSat : strOf "s SATISFIABLE" = sSat := by decide +kernel
theorem strOf_sUnsat : strOf "s UNSATISFIABLE" = sUnsat := by decide +kernel
theorem strOf_v_sp : strOf "v " = [118, 32] := by decide +kernel
theorem strOf_c_sp : strOf "c " = [99, 32] := by decide +kernel
theorem strOf_c : strOf "c" = [99] := by decide +kernel
theorem strOf_v : strOf "v" = [118] := by decide +kernel

/-- the if-chain of the parser with its tests spelt out on code points -/
theorem replyLine_some (nv : Nat) (st : PSt) (l : Str) :
    replyLine nv st (some l) =
      if l = sSat then
        (if st.status.isSome then .error "multiple status lines" else .ok { st with status := some true })
      else if l = sUnsat then
        (if st.status.isSome then .error "multiple status lines" else .ok { st with status := some false })
      else if [118, 32] <+: l then vTokens nv { st with seen := true } ((splitAsciiWs l).drop 1)
      else if [99, 32] <+: l ∨ l = [99] ∨ l = [118] ∨ l = [] then .ok st
      else .error "unexpected line" := by
  simp only [replyLine, strOf_sSat, strOf_sUnsat, strOf_v_sp, strOf_c_sp, strOf_c, strOf_v, sSat, sUnsat,
    beq_iff_eq, List.isPrefixOf_iff_prefix, Bool.or_eq_true, List.isEmpty_iff, or_assoc]
  rfl

theorem replyLine_sSat (nv : Nat) (st : PSt) :
    replyLine nv st (some sSat) =
      if st.status.isSome then .error "multiple status lines" else .ok { st with status := some true } := by
  rw [replyLine_some, if_pos rfl]

theorem replyLine_sUnsat (nv : Nat) (st : PSt) :
    replyLine nv st (some sUnsat) =
      if st.status.isSome then .error "multiple status lines" else .ok { st with status := some false } := by
  rw [replyLine_some, if_neg (by decide), if_pos rfl]

theorem replyLine_vline (nv : Nat) (st : PSt) (t : Str) :
    replyLine nv st (some (118 :: 32 :: t)) = vTokens nv { st with seen := true } (splitAsciiWs t) := by
  rw [replyLine_some, if_neg (fun e => by cases e), if_neg (fun e => by cases e), if_pos ⟨t, rfl⟩, vline_tokens]

theorem replyLine_skip (nv : Nat) (st : PSt) (l : Str)
    (h : [99, 32] <+: l ∨ l = [99] ∨ l = [118] ∨ l = []) : replyLine nv st (some l) = .ok st := by
  have h1 : l ≠ sSat := by rintro rfl; revert h; decide
  have h2 : l ≠ sUnsat := by rintro rfl; revert h; decide
  have h3 : ¬ [118, 32] <+: l := by
    rintro ⟨t, rfl⟩
    rcases h with ⟨u, e⟩ | e | e | e <;> cases e
  rw [replyLine_some, if_neg h1, if_neg h2, if_neg h3, if_pos h]

/-- **an accepted line** is a status line read while no status is known, or a value line whose tokens
are accepted, or leaves the state as it is -/
theorem replyLine_ok {nv : Nat} {st st' : PSt} {l : Option Str} (h : replyLine nv st l = .ok st') :
    (∃ b, l = some (if b then sSat else sUnsat) ∧ st.status = none ∧ st' = { st with status := some b }) ∨
    (∃ t, l = some (118 :: 32 :: t) ∧ vTokens nv { st with seen := true } (splitAsciiWs t) = .ok st') ∨
    st' = st := by
  cases l with
  | none => cases h
  | some l =>
    by_cases h1 : l = sSat
    · subst h1
      rw [replyLine_sSat] at h
      split at h
      · cases h
      · rename_i hs; cases h; exact .inl ⟨true, rfl, by simpa using hs, rfl⟩
    by_cases h2 : l = sUnsat
    · subst h2
      rw [replyLine_sUnsat] at h
      split at h
      · cases h
      · rename_i hs; cases h; exact .inl ⟨false, rfl, by simpa using hs, rfl⟩
    by_cases h3 : [118, 32] <+: l
    · obtain ⟨t, rfl⟩ := h3
      rw [show [118, 32] ++ t = 118 :: 32 :: t from rfl, replyLine_vline] at h
      exact .inr (.inl ⟨t, rfl, h⟩)
    rw [replyLine_some, if_neg h1, if_neg h2, if_neg h3] at h
    split at h
    · cases h; exact .inr (.inr rfl)
    · cases h

/-- a value line carrying a `0` token -/
def ZeroLine (l : Option Str) : Prop := ∃ t, l = some (118 :: 32 :: t) ∧ ∃ w ∈ splitAsciiWs t, parseIsize w = some 0

theorem replyLine_origin {nv : Nat} {st st' : PSt} {l : Option Str} (h : replyLine nv st l = .ok st') :
    st'.asg.length = st.asg.length ∧
    (st'.status = st.status ∨ st.status = none ∧ ∃ b, st'.status = some b ∧ l = some (if b then sSat else sUnsat)) ∧
    (st'.ended = st.ended ∨ st.ended = false ∧ st'.ended = true ∧ ZeroLine l) := by
  rcases replyLine_ok h with ⟨b, hl, hs, rfl⟩ | ⟨t, hl, h⟩ | rfl
  · exact ⟨rfl, .inr ⟨hs, b, rfl, hl⟩, .inl rfl⟩
  · refine ⟨(vTokens_ok h).1, .inl (vTokens_ok h).2.1, ?_⟩
    have he := (vTokens_ended h).1
    cases h1 : st.ended
    · cases h2 : st'.ended
      · exact .inl rfl
      · rw [h1, h2] at he
        simp only [Bool.false_eq_true, false_or, true_iff] at he
        exact .inr ⟨rfl, rfl, t, hl, he⟩
    · exact .inl (he.2 (.inl h1))
  · exact ⟨rfl, .inl rfl, .inl rfl⟩

/-- **where the state left by an accepted reply comes from**: the status is the one before, or there
was none and a status line set it; `ended` is as before, or was unset and a value line with a `0`
set it.  (Both are therefore sticky.) -/
theorem replyFold_origin {nv : Nat} : ∀ {ls : List (Option Str)} {st st' : PSt},
    foldLines (replyLine nv) st ls = .ok st' →
    st'.asg.length = st.asg.length ∧
    (st'.status = st.status ∨ st.status = none ∧ ∃ b, st'.status = some b ∧ some (if b then sSat else sUnsat) ∈ ls) ∧
    (st'.ended = st.ended ∨ st.ended = false ∧ st'.ended = true ∧ ∃ l ∈ ls, ZeroLine l) := by
  intro ls
  induction ls with
  | nil => intro st st' h; cases h; exact ⟨rfl, .inl rfl, .inl rfl⟩
  | cons l ls ih =>
    intro st st' h
    obtain ⟨s1, h1, h2⟩ := foldLines_cons_ok h
    obtain ⟨a1, b1, c1⟩ := replyLine_origin h1
    obtain ⟨a2, b2, c2⟩ := ih h2
    refine ⟨a2.trans a1, ?_, ?_⟩
    · rcases b2 with e2 | ⟨n2, b, e2, m2⟩
      · rcases b1 with e1 | ⟨n1, b, e1, rfl⟩
        · exact .inl (e2.trans e1)
        · exact .inr ⟨n1, b, e2.trans e1, List.mem_cons_self ..⟩
      · rcases b1 with e1 | ⟨_, _, e1, _⟩
        · exact .inr ⟨e1 ▸ n2, b, e2, List.mem_cons_of_mem _ m2⟩
        · rw [e1] at n2; cases n2
    · rcases c2 with e2 | ⟨n2, e2, z, hz, hzl⟩
      · rcases c1 with e1 | ⟨n1, e1, hz⟩
        · exact .inl (e2.trans e1)
        · exact .inr ⟨n1, e2.trans e1, l, List.mem_cons_self .., hz⟩
      · rcases c1 with e1 | ⟨_, e1, _⟩
        · exact .inr ⟨e1 ▸ n2, e2, z, List.mem_cons_of_mem _ hz, hzl⟩
        · rw [e1] at n2; cases n2

theorem parseReply_of_ok {nv : Nat} {out : List UInt8} {st : PSt}
    (h : foldLines (replyLine nv) { asg := List.replicate nv none } (lines out) = .ok st) :
    parseReply nv out =
      match st.status with
      | some true => if st.seen && st.ended then .sat st.asg else .unknown
      | some false => .unsat
      | none => .unknown := by
  unfold parseReply
  rw [h]
  rfl

theorem parseReply_of_error {nv : Nat} {out : List UInt8} {e : String}
    (h : foldLines (replyLine nv) { asg := List.replicate nv none } (lines out) = .error e) :
    parseReply nv out = .abort e := by
  unfold parseReply
  rw [h]

/-- a reported model can be queried for every declared variable: it has exactly `n_vars` entries -/
theorem model_length (nv : Nat) (out : List UInt8) (m : List (Option Bool))
    (h : parseReply nv out = .sat m) : m.length = nv := by
  unfold parseReply at h
  split at h
  · cases h
  · rename_i st hst
    split at h
    · split at h
      · injection h with h; subst h
        simpa using (replyFold_origin hst).1
      · cases h
    · cases h
    · cases h

/-- a solver that exits without printing anything is reported as undecided -/
theorem empty_output_unknown (nv : Nat) : parseReply nv [] = .unknown := rfl

theorem status_from_line {nv : Nat} {ls : List (Option Str)} {asg : List (Option Bool)} {st : PSt} {b : Bool}
    (h : foldLines (replyLine nv) { asg := asg } ls = .ok st) (hs : st.status = some b) :
    some (if b then sSat else sUnsat) ∈ ls := by
  rcases (replyFold_origin h).2.1 with e | ⟨_, b', e, hm⟩
  · rw [hs] at e; cases e
  · rw [hs] at e; cases e; exact hm

/-- **faithful interpretation (C16)**: a model is reported only if the reply contains the line
`s SATISFIABLE`, "unsatisfiable" only if it contains `s UNSATISFIABLE` -/
theorem reply_faithful (nv : Nat) (out : List UInt8) :
    (∀ m, parseReply nv out = .sat m → some (strOf "s SATISFIABLE") ∈ lines out) ∧
    (parseReply nv out = .unsat → some (strOf "s UNSATISFIABLE") ∈ lines out) := by
  rw [strOf_sSat, strOf_sUnsat]
  unfold parseReply
  constructor
  · intro m h
    split at h
    · cases h
    · rename_i st hst
      split at h
      · rename_i hs
        exact status_from_line hst hs
      · cases h
      · cases h
  · intro h
    split at h
    · cases h
    · rename_i st hst
      split at h
      · split at h <;> cases h
      · rename_i hs
        exact status_from_line hst hs
      · cases h

/-- a model needs a value line with a `0`, "unsatisfiable" its status line: an output with neither is
no result -/
theorem result_needs (nv : Nat) (out : List UInt8)
    (hz : ∀ l ∈ lines out, ¬ ZeroLine l) (hu : some sUnsat ∉ lines out) :
    parseReply nv out = .unknown ∨ ∃ e, parseReply nv out = .abort e := by
  unfold parseReply
  cases hf : foldLines (replyLine nv) { asg := List.replicate nv none } (lines out) with
  | error e => exact .inr ⟨e, rfl⟩
  | ok st =>
    left
    obtain ⟨_, hs, he⟩ := replyFold_origin hf
    have he : st.ended = false := by
      rcases he with e | ⟨_, _, l, hl, hzl⟩
      · exact e
      · exact absurd hzl (hz l hl)
    cases hst : st.status with
    | none => simp [hst]
    | some b =>
      cases b
      · rcases hs with e | ⟨_, b, e, hm⟩
        · rw [hst] at e; cases e
        · rw [hst] at e; cases e; exact absurd hm hu
      · simp [hst, he]

namespace Pipe

theorem run_ret (pol : Policy) (cap f : Nat) (s : St) (hr : s.reaped = true) :
    run pol cap (f + 1) s = .returned := by
  simp [run, hr]

theorem run_step (pol : Policy) (cap f : Nat) (s : St) (hr : s.reaped = false)
    (hne : step pol cap s ≠ s) : run pol cap (f + 1) s = run pol cap f (step pol cap s) := by
  simp [run, hr, hne]

theorem run_dead (pol : Policy) (cap f : Nat) (s : St) (hr : s.reaped = false)
    (he : step pol cap s = s) : run pol cap (f + 1) s = .deadlock := by
  simp [run, hr, he]

theorem step_drain (cap out : Nat) (hcap : 0 < cap) (h : out ≠ 0) :
    ∃ d, 0 < d ∧ step .drainThenWait cap ⟨out, 0, false, false⟩ = ⟨out - d, 0, false, false⟩ :=
  ⟨min out cap, Nat.lt_min.2 ⟨Nat.pos_of_ne_zero h, hcap⟩, by simp [step, h]⟩

/-- one round per byte at worst, one to see the child exit, one to reap it -/
theorem drain_returns (cap : Nat) (hcap : 0 < cap) :
    ∀ out fuel, out + 3 ≤ fuel → run .drainThenWait cap fuel ⟨out, 0, false, false⟩ = .returned := by
  intro out
  induction out using Nat.strongRecOn with
  | _ out ih =>
    intro fuel hf
    match fuel, hf with
    | f + 1, hf =>
      by_cases h0 : out = 0
      · subst h0
        match f, hf with
        | g + 1, _ =>
          have hs : step .drainThenWait cap ⟨0, 0, false, false⟩ = ⟨0, 0, true, true⟩ := rfl
          rw [run_step _ _ _ _ rfl (by rw [hs]; simp), hs]
          exact run_ret _ _ _ _ rfl
      · obtain ⟨d, hd, hs⟩ := step_drain cap out hcap h0
        rw [run_step _ _ _ _ rfl (by
          rw [hs]; exact fun e => Nat.ne_of_lt (Nat.sub_lt (Nat.pos_of_ne_zero h0) hd) (congrArg St.todo e)), hs]
        exact ih (out - d) (Nat.sub_lt (Nat.pos_of_ne_zero h0) hd) f (by omega)

/-- **drain-then-wait never deadlocks**: for every output size and every positive pipe capacity
the call returns -/
theorem drain_then_wait_returns (cap : Nat) (hcap : 0 < cap) :
    ∀ out, run .drainThenWait cap (out + 3) (start out) = .returned :=
  fun out => drain_returns cap hcap out _ (Nat.le_refl _)

theorem step_wait (cap out buf : Nat) (h : out ≠ 0) :
    step .waitThenDrain cap ⟨out, buf, false, false⟩ =
      ⟨out - min out (cap - buf), buf + min out (cap - buf), false, false⟩ := by
  simp [step, h]

theorem wait_stuck (cap out : Nat) (h : out ≠ 0) (fuel : Nat) :
    run .waitThenDrain cap fuel ⟨out, cap, false, false⟩ ≠ .returned := by
  have hs : step .waitThenDrain cap ⟨out, cap, false, false⟩ = ⟨out, cap, false, false⟩ := by
    rw [step_wait _ _ _ h]; simp
  cases fuel with
  | zero => simp [run]
  | succ f => rw [run_dead _ _ _ _ rfl hs]; nofun

/-- **wait-then-drain never returns** once the output exceeds the pipe capacity: the child blocks on
the full pipe while the parent waits for it to exit (`run` then answers `.deadlock`, or `.running`
if the fuel ends first) -/
theorem wait_then_drain_deadlocks (cap out : Nat) (h : cap < out) :
    ∀ fuel, run .waitThenDrain cap fuel (start out) ≠ .returned := by
  intro fuel
  have hs : step .waitThenDrain cap ⟨out, 0, false, false⟩ = ⟨out - cap, cap, false, false⟩ := by
    rw [step_wait _ _ _ (Nat.ne_zero_of_lt h)]; simp [Nat.min_eq_right (Nat.le_of_lt h)]
  cases fuel with
  | zero => simp [run]
  | succ f =>
    by_cases hne : step .waitThenDrain cap ⟨out, 0, false, false⟩ = ⟨out, 0, false, false⟩
    · rw [start, run_dead _ _ _ _ rfl hne]; nofun
    · rw [start, run_step _ _ _ _ rfl hne, hs]; exact wait_stuck cap _ (Nat.sub_ne_zero_of_lt h) f

end Pipe
end Crusta.Sat
