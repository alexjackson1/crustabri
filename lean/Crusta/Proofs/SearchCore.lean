import Crusta.Model.Solvers
import Crusta.Proofs.SolveCount

/-!
# The ghost state of a search with blocking clauses, over keys

A *key* is a Boolean vector below `n`: the current set of a preferred, ideal or dynamic search, the
asserted range of a range-based one.  `blocked` is the list of the keys that have been blocked.  A member `T` of the family has a key `K T`; the solver is
asked for a member whose key is above the current key and inside no blocked key.  So the current key
of a running search is inside no blocked key (`FreshK`), and that alone makes an UNSAT answer to "a
member above the current key" say that the current key is maximal (`FreshK.max_of_unsat`).  `Cnt` counts,
in a second ghost list, candidates that were blocked while their key was exact; `TopHit` is what the
skeptical searches take for `Top`.  No program, no world.
-/

namespace Crusta.Search

def SubK (n : Nat) (A B : Nat → Bool) : Prop := ∀ a, a < n → A a = true → B a = true

theorem SubK.refl (n : Nat) (A : Nat → Bool) : SubK n A A := fun _ _ h => h
theorem SubK.trans {n : Nat} {A B D : Nat → Bool} (h1 : SubK n A B) (h2 : SubK n B D) : SubK n A D :=
  fun a ha h => h2 a ha (h1 a ha h)

def FreshK (n : Nat) (key : Nat → Bool) (blocked : List (Nat → Bool)) : Prop :=
  ∀ B ∈ blocked, ∃ a, a < n ∧ B a = false ∧ key a = true

theorem FreshK.not_sub {n : Nat} {key : Nat → Bool} {blocked : List (Nat → Bool)} (h : FreshK n key blocked) :
    ∀ B ∈ blocked, ¬ SubK n key B := by
  intro B hB hs
  obtain ⟨a, ha, hBa, hka⟩ := h B hB
  rw [hs a ha hka] at hBa
  cases hBa

def In (n : Nat) (K : ASet → Nat → Prop) (T : ASet) (B : Nat → Bool) : Prop := ∀ a, a < n → K T a → B a = true
def Above (n : Nat) (K : ASet → Nat → Prop) (R : Nat → Bool) (T : ASet) : Prop := ∀ a, a < n → R a = true → K T a

/-- the key of a member of a preferred or ideal search: the member itself -/
abbrev SetKey : ASet → Nat → Prop := fun T a => T a = true

theorem Above.subK {n : Nat} {K : ASet → Nat → Prop} {R E : Nat → Bool} {T : ASet} (h : Above n K R T) (h' : In n K T E) :
    SubK n R E := fun a ha hR => h' a ha (h a ha hR)

def KeyMax (n : Nat) (F : ASet → Prop) (K : ASet → Nat → Prop) (key : Nat → Bool) : Prop :=
  ∀ T, F T → Above n K key T → In n K T key

theorem KeyMax.max {n : Nat} {F : ASet → Prop} {K : ASet → Nat → Prop} {key : Nat → Bool} {cur : List Nat}
    (h : KeyMax n F K key) (hks : Above n K key (ofList cur)) {U : ASet} (hU : F U)
    (hsub : ∀ a, a < n → K (ofList cur) a → K U a) : ∀ a, a < n → K U a → K (ofList cur) a :=
  fun a ha hUa => hks a ha (h U hU (fun a ha hk => hsub a ha (hks a ha hk)) a ha hUa)

/-- `fresh`: the current key of an intermediate state is a SAT reply obtained with every blocking clause
active.  `top`: a blocked key lies below the current key (the chain of the running search) or the
client has dealt with it (`Top`: `TopHit` below, `TopIn` in `SearchSys`) -/
structure Inv (n : Nat) (Top : (Nat → Bool) → Prop) (st : MState) (key : Nat → Bool) (blocked : List (Nat → Bool)) :
    Prop where
  fresh : st = .intermediate → FreshK n key blocked
  top : ∀ B ∈ blocked, Top B ∨ (st = .intermediate ∧ SubK n B key)

variable {n : Nat} {Top : (Nat → Bool) → Prop} {st : MState} {key : Nat → Bool} {blocked : List (Nat → Bool)}

theorem Inv.nil : Inv n Top st key [] := ⟨fun _ _ h => (nomatch h), fun _ h => (nomatch h)⟩

theorem Inv.block_cur {Top' : (Nat → Bool) → Prop} (h : Inv n Top .intermediate key blocked) {st' : MState}
    (hst : st' ≠ .intermediate) (hmono : ∀ B, Top B → Top' B) (hcur : ∀ B, SubK n B key → Top' B) :
    Inv n Top' st' key (key :: blocked) :=
  ⟨fun e => absurd e hst, List.forall_mem_cons.2 ⟨Or.inl (hcur _ (SubK.refl _ _)),
    fun B hB => Or.inl ((h.top B hB).elim (hmono B) fun hb => hcur B hb.2)⟩⟩

theorem Inv.grow_sat (h : Inv n Top .intermediate key blocked) {key' : Nat → Bool} (hsub : SubK n key key')
    (hfr : FreshK n key' (key :: blocked)) : Inv n Top .intermediate key' (key :: blocked) :=
  ⟨fun _ => hfr, List.forall_mem_cons.2 ⟨Or.inr ⟨rfl, hsub⟩,
    fun B hB => (h.top B hB).imp_right fun hb => ⟨rfl, hb.2.trans hsub⟩⟩⟩

theorem Inv.new_sat (h : Inv n Top st key blocked) (hst : st ≠ .intermediate) {key' : Nat → Bool}
    (hfr : FreshK n key' blocked) : Inv n Top .intermediate key' blocked :=
  ⟨fun _ => hfr, fun B hB => Or.inl ((h.top B hB).elim id fun hb => absurd hb.1 hst)⟩

theorem Inv.cons_top (h : Inv n Top st key blocked) (hst : st ≠ .intermediate) {B : Nat → Bool} (hB : Top B) :
    Inv n Top st key (B :: blocked) :=
  ⟨fun e => absurd e hst, List.forall_mem_cons.2 ⟨Or.inl hB, h.top⟩⟩

/-- UNSAT of the increase step: a member above the current key has its key inside a blocked key, which
is the current key itself since that is fresh -/
theorem FreshK.max_of_unsat {F : ASet → Prop} {K : ASet → Nat → Prop} (h : FreshK n key blocked)
    (hun : ∀ T, F T → Above n K key T → ∃ E ∈ key :: blocked, In n K T E) :
    KeyMax n F K key := by
  intro T hT hab
  obtain ⟨E, hE, hTE⟩ := hun T hT hab
  rcases List.mem_cons.1 hE with rfl | hE
  · exact hTE
  · exact absurd (hab.subK hTE) (h.not_sub E hE)

theorem Inv.top_of_unsat {F : ASet → Prop} {K : ASet → Nat → Prop} (h : Inv n Top st key blocked)
    (hst : st ≠ .intermediate) (hun : ∀ T, F T → ∃ E ∈ blocked, In n K T E) :
    ∀ T, F T → ∃ B, Top B ∧ In n K T B := by
  intro T hT
  obtain ⟨E, hE, hTE⟩ := hun T hT
  exact ⟨E, (h.top E hE).elim id fun hb => absurd hb.1 hst, hTE⟩

/-- `met`: candidates that were blocked while their key was exact; pairwise different members of `F`,
the key of each inside a blocked key -/
structure Cnt (n : Nat) (F : ASet → Prop) (K : ASet → Nat → Prop) (blocked : List (Nat → Bool))
    (met : List (List Nat)) : Prop where
  mem : ∀ e ∈ met, F (ofList e)
  nd : DistinctS met
  blk : ∀ e ∈ met, ∃ B ∈ blocked, In n K (ofList e) B

variable {F : ASet → Prop} {K : ASet → Nat → Prop} {cur : List Nat} {met : List (List Nat)}

theorem Cnt.nil : Cnt n F K blocked [] := ⟨fun _ h => (nomatch h), List.Pairwise.nil, fun _ h => (nomatch h)⟩

theorem Cnt.mono {blocked' : List (Nat → Bool)} (h : Cnt n F K blocked met)
    (hsub : ∀ B ∈ blocked, B ∈ blocked') : Cnt n F K blocked' met :=
  ⟨h.mem, h.nd, fun e he => let ⟨B, hB, hb⟩ := h.blk e he; ⟨B, hsub B hB, hb⟩⟩

theorem Cnt.cur_ne (h : Cnt n F K blocked met) (hfr : FreshK n key blocked)
    (hks : Above n K key (ofList cur)) : ∀ e ∈ met, ofList cur ≠ ofList e := by
  intro e he heq
  obtain ⟨B, hB, hb⟩ := h.blk e he
  exact hfr.not_sub B hB fun a ha hk => hb a ha (heq ▸ hks a ha hk)

theorem Cnt.push (h : Cnt n F K blocked met) (hfr : FreshK n key blocked)
    (hks : Above n K key (ofList cur)) (hF : F (ofList cur)) (hex : In n K (ofList cur) key) :
    Cnt n F K (key :: blocked) (cur :: met) :=
  ⟨List.forall_mem_cons.2 ⟨hF, h.mem⟩, List.pairwise_cons.2 ⟨h.cur_ne hfr hks, h.nd⟩,
   List.forall_mem_cons.2 ⟨⟨key, List.mem_cons_self, hex⟩,
     fun e he => let ⟨B, hB, hb⟩ := h.blk e he; ⟨B, List.mem_cons_of_mem _ hB, hb⟩⟩⟩

theorem Cnt.len_le (h : Cnt n F K blocked met) {N : Nat} (hN : Bound F N) : met.length ≤ N := hN met h.nd h.mem

theorem Cnt.len_lt (h : Cnt n F K blocked met) {N : Nat} (hN : Bound F N)
    (hfr : FreshK n key blocked) (hks : Above n K key (ofList cur)) (hF : F (ofList cur)) : met.length + 1 ≤ N :=
  hN (cur :: met) (List.pairwise_cons.2 ⟨h.cur_ne hfr hks, h.nd⟩) (List.forall_mem_cons.2 ⟨hF, h.mem⟩)

/-- the current candidate of an intermediate state is met but not yet in `met` -/
def metSize (st : MState) (met : List (List Nat)) : Nat := met.length + if st = .intermediate then 1 else 0

theorem metSize_int (met : List (List Nat)) : metSize .intermediate met = met.length + 1 := rfl
theorem metSize_max (met : List (List Nat)) : metSize .maximal met = met.length := rfl

theorem Cnt.metSize_le (h : Cnt n F K blocked met) (hfr : st = .intermediate → FreshK n key blocked)
    (hMem : st = .intermediate → F (ofList cur) ∧ Above n K key (ofList cur)) {N : Nat} (hN : Bound F N) :
    metSize st met ≤ N := by
  unfold metSize
  by_cases hst : st = .intermediate
  · rw [if_pos hst]
    exact h.len_lt hN (hfr hst) (hMem hst).2 (hMem hst).1
  · rw [if_neg hst]
    exact h.len_le hN

def TopHit (n : Nat) (F : ASet → Prop) (K : ASet → Nat → Prop) (hit : ASet → Prop) (B : Nat → Bool) : Prop :=
  ∃ D, F D ∧ Above n K B D ∧ hit D

/-- when every member lies below one that hits the query, every maximal member `P` hits it (`hmax`: a
member above `P` is `P` as far as `hit` goes) -/
theorem all_hit {n : Nat} {F : ASet → Prop} {K : ASet → Nat → Prop} {hit : ASet → Prop}
    (h : ∀ T, F T → ∃ B, TopHit n F K hit B ∧ In n K T B) {P : ASet} (hP : F P)
    (hmax : ∀ D, F D → (∀ a, a < n → K P a → K D a) → hit D → hit P) : hit P := by
  obtain ⟨B, ⟨D, hD, hBD, hh⟩, hPB⟩ := h P hP
  exact hmax D hD (fun a ha hk => hBD a ha (hPB a ha hk)) hh

end Crusta.Search
