import Crusta.Proofs.StoreOps

/-!
# Store proofs: the index rows hold no duplicate

`Store.Inv` does not say that a row lists an attack index at most once, yet the grounded worklist
algorithm depends on it (row multiplicities drive its counters).  `RowsNodup` is that extra
invariant; it holds in every reachable store and in the stores built the ICCMA way.
-/

namespace Crusta
namespace Store

structure RowsNodup (s : Store) : Prop where
  from_nodup : ∀ a, (row s.from_ a).Nodup
  to_nodup : ∀ a, (row s.to_ a).Nodup

/-- part of `Store.Inv`, and all that `rows_pushAtt` needs of it -/
def RowsLt (s : Store) : Prop :=
  ∀ a i, (i ∈ row s.from_ a ∨ i ∈ row s.to_ a) → i < s.attacks.length

theorem Core.rowsLt {s : Store} (hc : s.Core) : s.RowsLt :=
  fun a i h => h.elim (hc.idx_from.lt a i) (hc.idx_to.lt a i)

theorem Inv.rowsLt {s : Store} (hinv : s.Inv) : s.RowsLt :=
  hinv.core.rowsLt

theorem nodup_swapRemove {l : List Nat} (hn : l.Nodup) {pos : Nat} (hpos : pos < l.length) :
    (swapRemove l pos).Nodup :=
  (swapRemove_perm hpos).nodup_iff.2 (hn.sublist (List.eraseIdx_sublist l pos))

theorem nodup_rows_set {r : List (List Nat)} (h : ∀ c, (row r c).Nodup) (a : Nat) {x : List Nat}
    (hx : x.Nodup) : ∀ c, (row (r.set a x) c).Nodup := by
  intro c
  rcases row_set_cases r a c x with e | e <;> rw [e]
  · exact hx
  · exact h c

theorem rows_push {r : List (List Nat)} {n : Nat} (hlt : ∀ c, ∀ i ∈ row r c, i < n)
    (hnd : ∀ c, (row r c).Nodup) (a c : Nat) :
    (row (r.set a (row r a ++ [n])) c).Nodup ∧ ∀ i ∈ row (r.set a (row r a ++ [n])) c, i < n + 1 := by
  rcases row_set_cases r a c (row r a ++ [n]) with e | e <;> rw [e]
  · refine ⟨nodup_concat (hnd a) fun h => Nat.lt_irrefl n (hlt a n h), fun i hi => ?_⟩
    rcases List.mem_append.1 hi with hi | hi
    · exact Nat.lt_succ_of_lt (hlt a i hi)
    · rw [List.mem_singleton.1 hi]; exact Nat.lt_succ_self n
  · exact ⟨hnd c, fun i hi => Nat.lt_succ_of_lt (hlt c i hi)⟩

theorem rows_pushAtt {s : Store} (hl : s.RowsLt) (hr : s.RowsNodup) (a b : Nat) :
    (s.pushAtt a b).RowsLt ∧ (s.pushAtt a b).RowsNodup := by
  have hF := rows_push (fun c i hi => hl c i (Or.inl hi)) hr.from_nodup a
  have hT := rows_push (fun c i hi => hl c i (Or.inr hi)) hr.to_nodup b
  refine ⟨fun c i h => ?_, fun c => (hF c).1, fun c => (hT c).1⟩
  rw [show (s.pushAtt a b).attacks.length = s.attacks.length + 1 from List.length_append]
  exact h.elim ((hF c).2 i) ((hT c).2 i)

theorem rows_empty : Store.empty.RowsNodup :=
  ⟨fun _ => List.nodup_nil, fun _ => List.nodup_nil⟩

theorem Upd.rows {s s' : Store} (hinv : s.Inv) (hr : s.RowsNodup) (h : Upd s s') : s'.RowsNodup := by
  obtain ⟨_, h⟩ := h
  cases h with
  | pushArg _ =>
    exact ⟨fun a => (row_pushArg s.from_ a).symm ▸ hr.from_nodup a,
      fun a => (row_pushArg s.to_ a).symm ▸ hr.to_nodup a⟩
  | pushAtt _ _ _ => exact (rows_pushAtt hinv.rowsLt hr _ _).2
  | dropAtt _ _ _ hpf _ hpt _ =>
    exact ⟨nodup_rows_set hr.from_nodup _ (nodup_swapRemove (hr.from_nodup _) hpf),
      nodup_rows_set hr.to_nodup _ (nodup_swapRemove (hr.to_nodup _) hpt)⟩
  | dropArg _ =>
    exact ⟨nodup_rows_set hr.from_nodup _ List.nodup_nil, nodup_rows_set hr.to_nodup _ List.nodup_nil⟩

theorem step_rows {s : Store} (hinv : s.Inv) (hr : s.RowsNodup) (op : StoreOp) :
    ∀ s', s.step op = .ok s' → s'.RowsNodup := by
  intro s' hs
  rcases step_upd hinv op with he | he | ⟨s'', he, hu⟩ <;> rw [he] at hs <;> cases hs
  · exact hr
  · exact hu.rows hinv hr

theorem rows_reachable (ops : List StoreOp) :
    ∃ s, runOps Store.empty ops = some s ∧ s.Inv ∧ s.RowsNodup :=
  reachable_ind rows_empty (fun _ _ h hr hu => hu.rows h hr) ops

/-! ## the ICCMA-style construction: rows sized by the label count, then `new_attack_by_ids` -/

theorem row_replicate (n a : Nat) : row (List.replicate n []) a = [] :=
  getD_replicate_self n a []

theorem rows_withRowsByLen (s : Store) : s.withRowsByLen.RowsNodup :=
  ⟨fun a => (row_replicate _ a).symm ▸ List.nodup_nil, fun a => (row_replicate _ a).symm ▸ List.nodup_nil⟩

theorem rowsLt_withRowsByLen (s : Store) : s.withRowsByLen.RowsLt := by
  intro a i h
  have h' : i ∈ row (List.replicate s.labels.length []) a ∨ i ∈ row (List.replicate s.labels.length []) a := h
  rw [row_replicate] at h'
  rcases h' with h' | h' <;> cases h'

/-- only the bound on the row entries is needed, not the whole `Store.Inv`, which `new_attack_by_ids`
does not preserve: it inserts duplicates of an existing attack -/
theorem rows_newAttackByIds {s : Store} (hl : s.RowsLt) (hr : s.RowsNodup) (a b : Nat) :
    ∀ s', s.newAttackByIds a b = .ok s' → s'.RowsLt ∧ s'.RowsNodup := by
  intro s' hs
  rw [newAttackByIds_ok hs]
  exact rows_pushAtt hl hr a b

end Store
end Crusta
