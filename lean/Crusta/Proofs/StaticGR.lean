import Crusta.Proofs.StaticSpec
import Crusta.Proofs.GroundedAlg
import Crusta.Proofs.SolveBase
import Crusta.Proofs.Decomp

/-!
# Facts about the answer specifications; the grounded solver

Lemmas about `HitsL`, `SEOK`, `DCOK`, `DSOK` (`StaticSpec`).  `WitL` stands here because both the
range searches (`SolveRG`) and the lifting from the merged component (`AccOK`, `StaticPR`) speak of
it.  `status_determined_of_iff`: conforming answers to two questions with the same truth have the
same status.  `cert_slot`: when the certificate slot is filled (read by `CliOut` and `StaticNodup`).
The rule that a program whose result meets `SEOK` / `DCOK` / `DSOK`, wrapped the way `entryProg`
wraps it, meets `EntryOK` under any crash condition (`wp_entry_*`); the three entry points of the
grounded solver.

Names in the `Static*` files: a theorem about an entry point of a solver that is generic in the crash
condition or has the crash condition "the fuel is short" is what the later files build on
(`*_entry_spec`, and the per-procedure theorems `gr_dc_ok`, `st_se_ok`, `pr_se_okF`, `co_dc_spec` …,
whose names do not tell which of the two); `*_entry_ok`, `pr_se_ok`, `pr_ds_ok`, `co_dc_ok`,
`se_by_components` are their readings with crash condition `True`, which nothing further uses.
-/

namespace Crusta

theorem hitsL_any (args l : List Nat) : args.any l.contains = true ↔ HitsL args (ofList l) :=
  List.any_eq_true

theorem hitsL_ofList (args e : List Nat) : HitsL args (ofList e) ↔ ∃ a ∈ args, a ∈ e := by
  unfold HitsL
  simp only [ofList_true]

theorem hitsL_nil (S : ASet) : ¬ HitsL [] S := fun ⟨_, h, _⟩ => nomatch h

theorem hitsL_append (args l r : List Nat) :
    HitsL args (ofList (l ++ r)) ↔ HitsL args (ofList l) ∨ HitsL args (ofList r) := by
  simp only [hitsL_ofList, List.mem_append]
  exact ⟨fun ⟨a, ha, h⟩ => h.imp (fun h => ⟨a, ha, h⟩) (fun h => ⟨a, ha, h⟩),
    fun h => h.elim (fun ⟨a, ha, h⟩ => ⟨a, ha, Or.inl h⟩) (fun ⟨a, ha, h⟩ => ⟨a, ha, Or.inr h⟩)⟩

theorem hitsL_single (a : Nat) (S : ASet) : HitsL [a] S ↔ S a = true := by
  simp [HitsL]

theorem HitsL.congr_on {args : List Nat} {S T : ASet} (h : ∀ a ∈ args, S a = T a) : HitsL args S ↔ HitsL args T :=
  ⟨fun ⟨a, ha, hs⟩ => ⟨a, ha, h a ha ▸ hs⟩, fun ⟨a, ha, hs⟩ => ⟨a, ha, (h a ha).symm ▸ hs⟩⟩

theorem HitsL.congr {args : List Nat} {S T : ASet} (h : ∀ a, S a = T a) : HitsL args S ↔ HitsL args T :=
  HitsL.congr_on fun a _ => h a

theorem hitsL_mono {args : List Nat} {S T : ASet} (h : ∀ a, S a = true → T a = true) (hh : HitsL args S) : HitsL args T := by
  obtain ⟨a, ha, hs⟩ := hh
  exact ⟨a, ha, h a hs⟩

theorem HitsL.inter {args : List Nat} {U : Nat → Bool} (hargs : ∀ a ∈ args, U a = true) (S : ASet) :
    HitsL args (inter S U) ↔ HitsL args S :=
  HitsL.congr_on fun a ha => show (S a && U a) = S a by rw [hargs a ha, Bool.and_true]

/-- a set is a witness of the query: it meets the queried arguments (credulous) / avoids them (skeptical) -/
def WitL (cred : Bool) (args : List Nat) (S : ASet) : Prop := if cred then HitsL args S else ¬ HitsL args S

theorem wit_true {args : List Nat} {S : ASet} : WitL true args S ↔ HitsL args S := by simp [WitL]
theorem wit_false {args : List Nat} {S : ASet} : WitL false args S ↔ ¬ HitsL args S := by simp [WitL]

theorem SEOK.of_some {σ : Sem} {g : G} {e : List Nat} (h : σ.GExt g (ofList e)) : SEOK σ g (some e) :=
  ⟨fun _ he => Option.some.inj he ▸ h, fun h => by cases h⟩

section
variable {σ : Sem} {g : G} {args : List Nat} {c : Bool} {a : AccAns}

theorem DCOK.status_iff (h : DCOK σ g args c a) :
    a.status = true ↔ ∃ S, σ.GExt g S ∧ HitsL args S := by
  refine ⟨fun hst => (h.1 hst).1, fun hex => ?_⟩
  cases hst : a.status
  · exact absurd hex (h.2 hst).1
  · rfl

theorem DSOK.status_iff (h : DSOK σ g args c a) :
    a.status = true ↔ ∀ S, σ.GExt g S → HitsL args S := by
  refine ⟨fun hst => (h.1 hst).1, fun hall => ?_⟩
  cases hst : a.status
  · obtain ⟨S, hS, hn⟩ := (h.2 hst).1
    exact absurd (hall S hS) hn
  · rfl

end

theorem status_determined_of_iff (σ : Sem) {g1 g2 : G} {args1 args2 : List Nat}
    (hc : (∃ S, σ.GExt g1 S ∧ HitsL args1 S) ↔ (∃ S, σ.GExt g2 S ∧ HitsL args2 S))
    (hs : (∀ S, σ.GExt g1 S → HitsL args1 S) ↔ (∀ S, σ.GExt g2 S → HitsL args2 S))
    (c1 c2 : Bool) (a1 a2 : AccAns) :
    (DCOK σ g1 args1 c1 a1 → DCOK σ g2 args2 c2 a2 → a1.status = a2.status) ∧
    (DSOK σ g1 args1 c1 a1 → DSOK σ g2 args2 c2 a2 → a1.status = a2.status) :=
  ⟨fun h1 h2 => Bool.eq_iff_iff.2 (h1.status_iff.trans (hc.trans h2.status_iff.symm)),
    fun h1 h2 => Bool.eq_iff_iff.2 (h1.status_iff.trans (hs.trans h2.status_iff.symm))⟩

theorem DCOK.strip {σ : Sem} {g : G} {args : List Nat} {cert : Bool} {a : AccAns} (h : DCOK σ g args cert a) :
    DCOK σ g args false ⟨a.status, none⟩ :=
  ⟨fun hs => ⟨(h.1 hs).1, fun hc => by cases hc⟩, fun hs => ⟨(h.2 hs).1, fun hc => by cases hc⟩⟩

theorem DSOK.strip {σ : Sem} {g : G} {args : List Nat} {cert : Bool} {a : AccAns} (h : DSOK σ g args cert a) :
    DSOK σ g args false ⟨a.status, none⟩ :=
  ⟨fun hs => ⟨(h.1 hs).1, fun hc => by cases hc⟩, fun hs => ⟨(h.2 hs).1, fun hc => by cases hc⟩⟩

theorem DCOK_false_strip {σ : Sem} {g : G} {args : List Nat} {a : AccAns} (h : DCOK σ g args false a) :
    DCOK σ g args false ⟨a.status, none⟩ := h.strip

theorem DSOK_false_strip {σ : Sem} {g : G} {args : List Nat} {a : AccAns} (h : DSOK σ g args false a) :
    DSOK σ g args false ⟨a.status, none⟩ := h.strip

theorem DCOK.of_cert {σ : Sem} {g : G} {args : List Nat} {cert : Bool} {a : AccAns} (h : DCOK σ g args true a) :
    DCOK σ g args cert a :=
  ⟨fun hs => ⟨(h.1 hs).1, fun _ => (h.1 hs).2 rfl⟩, fun hs => ⟨(h.2 hs).1, fun _ => (h.2 hs).2 rfl⟩⟩

theorem DSOK.of_cert {σ : Sem} {g : G} {args : List Nat} {cert : Bool} {a : AccAns} (h : DSOK σ g args true a) :
    DSOK σ g args cert a :=
  ⟨fun hs => ⟨(h.1 hs).1, fun _ => (h.1 hs).2 rfl⟩, fun hs => ⟨(h.2 hs).1, fun _ => (h.2 hs).2 rfl⟩⟩

/-- the certificate slot of an acceptance answer, `y` being the status that has witnesses: it is
filled exactly when a certificate was requested and the status is `y`, and then with a witness -/
theorem cert_slot {cert y st : Bool} {c : Option (List Nat)} {W : List Nat → Prop}
    (hyes : st = y → cert = true → ∃ e, c = some e ∧ W e) (hno : st = (!y) → cert = true → c = none)
    (hc : cert = false → c = none) : (c ≠ none ↔ cert = true ∧ st = y) ∧ ∀ e, c = some e → W e := by
  cases cert with
  | false =>
    cases hc rfl
    exact ⟨⟨fun h => absurd rfl h, fun h => by cases h.1⟩, fun e he => by cases he⟩
  | true =>
    by_cases hs : st = y
    · obtain ⟨e, rfl, hW⟩ := hyes hs rfl
      exact ⟨⟨fun _ => ⟨rfl, hs⟩, fun _ h => by cases h⟩, fun e' he' => by cases he'; exact hW⟩
    · cases hno (Bool.eq_not_of_ne hs) rfl
      exact ⟨⟨fun h => absurd rfl h, fun h => absurd h.2 hs⟩, fun e he => by cases he⟩

section
variable {C : Prop} {σ : Sem} {g : G} {w : World}

theorem wp_entry_se {p : Prog (Option (List Nat))} (h : wp C p w (fun r _ => SEOK σ g r)) :
    wp C (p >>= fun r => (pure (.ext r) : Prog Ans)) w (fun ans _ => EntryOK σ g .se ans) :=
  (wp_bind' p _ w _).2 h

theorem wp_entry_dc {args : List Nat} {cert : Bool} {p : Prog AccAns}
    (h : wp C p w (fun a _ => DCOK σ g args cert a)) :
    wp C (certOnly cert p) w (fun ans _ => EntryOK σ g (.dc cert args) ans) := by
  refine (wp_bind' p _ w _).2 (wp_mono _ _ _ _ (fun a _ ha => ?_) h)
  cases cert with
  | true => exact ⟨rfl, ha, fun hc => by cases hc⟩
  | false => exact ⟨rfl, ha.strip, fun _ => rfl⟩

theorem wp_entry_ds {args : List Nat} {cert : Bool} {p : Prog AccAns}
    (h : wp C p w (fun a _ => DSOK σ g args cert a)) :
    wp C (certOnly cert p) w (fun ans _ => EntryOK σ g (.ds cert args) ans) := by
  refine (wp_bind' p _ w _).2 (wp_mono _ _ _ _ (fun a _ ha => ?_) h)
  cases cert with
  | true => exact ⟨rfl, ha, fun hc => by cases hc⟩
  | false => exact ⟨rfl, ha.strip, fun _ => rfl⟩

theorem wp_entry_dc_ite {args : List Nat} {cert : Bool} {p q : Prog AccAns}
    (hp : wp C p w (fun a _ => DCOK σ g args true a)) (hq : wp C q w (fun a _ => DCOK σ g args false a)) :
    wp C (certOnly cert (if cert then p else q)) w (fun ans _ => EntryOK σ g (.dc cert args) ans) := by
  cases cert with
  | true => exact wp_entry_dc hp
  | false => exact wp_entry_dc hq

theorem wp_entry_ds_ite {args : List Nat} {cert : Bool} {p q : Prog AccAns}
    (hp : wp C p w (fun a _ => DSOK σ g args true a)) (hq : wp C q w (fun a _ => DSOK σ g args false a)) :
    wp C (certOnly cert (if cert then p else q)) w (fun ans _ => EntryOK σ g (.ds cert args) ans) := by
  cases cert with
  | true => exact wp_entry_ds hp
  | false => exact wp_entry_ds hq

end

theorem gr_dc_ok {C : Prop} (v : FwView) (g : G) (hv : v.Ok g) (args : List Nat) (cert : Bool) (w : World) :
    wp C (grDC v args cert) w (fun a _ => DCOK .GR g args cert a) := by
  obtain ⟨hgr, _, _⟩ := groundedV_spec v g hv
  unfold grDC
  dsimp only
  split
  · rename_i hhit
    have hh := (hitsL_any _ _).1 hhit
    exact ⟨fun _ => ⟨⟨_, hgr, hh⟩, fun _ => ⟨_, rfl, hgr, hh⟩⟩, fun hf => by cases hf⟩
  · rename_i hhit
    refine ⟨fun hf => (by cases hf), fun _ => ⟨?_, fun _ => rfl⟩⟩
    rintro ⟨S, hS, hSh⟩
    exact hhit ((hitsL_any _ _).2 ((HitsL.congr (G.grounded_unique hS hgr)).1 hSh))

theorem gr_ds_ok {C : Prop} (v : FwView) (g : G) (hv : v.Ok g) (args : List Nat) (cert : Bool) (w : World) :
    wp C (grDS v args cert) w (fun a _ => DSOK .GR g args cert a) := by
  obtain ⟨hgr, _, _⟩ := groundedV_spec v g hv
  unfold grDS
  dsimp only
  split
  · rename_i hhit
    refine ⟨fun _ => ⟨fun S hS => ?_, fun _ => rfl⟩, fun hf => by cases hf⟩
    exact (HitsL.congr (G.grounded_unique hS hgr)).2 ((hitsL_any _ _).1 hhit)
  · rename_i hhit
    have hnh : ¬ HitsL args (ofList (groundedV v)) := fun hh => hhit ((hitsL_any _ _).2 hh)
    exact ⟨fun hf => (by cases hf), fun _ => ⟨⟨_, hgr, hnh⟩, fun _ => ⟨_, rfl, hgr, hnh⟩⟩⟩

theorem gr_entry_spec {C : Prop} (cfg : Cfg) (v : FwView) (g : G) (hv : v.Ok g) (e : Entry) (p : Prog Ans)
    (hp : entryProg .GR cfg v e = some p) (w : World) :
    wp C p w (fun ans _ => EntryOK .GR g e ans) := by
  cases e <;> obtain rfl := Option.some.inj hp
  · exact wp_entry_se (SEOK.of_some (groundedV_spec v g hv).1)
  · exact wp_entry_dc (gr_dc_ok v g hv _ _ w)
  · exact wp_entry_ds (gr_ds_ok v g hv _ _ w)

theorem gr_entry_ok (cfg : Cfg) (v : FwView) (g : G) (hv : v.Ok g) (e : Entry) (p : Prog Ans)
    (hp : entryProg .GR cfg v e = some p) (w : World) :
    wp True p w (fun ans _ => EntryOK .GR g e ans) :=
  gr_entry_spec cfg v g hv e p hp w

end Crusta
