import Crusta.Model.Prog

/-!
# Generic theorems about solver programs (all `Prog` values, hence all modelled solve sites)

C17 for every program: a run that produces an answer consumed no `unknown` reply, and a run aborts at the call
whose reply is `unknown`.  `interp_bind`: a run of `p >>= f` is a run of `p` followed by a run of `f` on the
replies left.
-/

namespace Crusta

theorem Prog.bind_eq {α β : Type} (p : Prog α) (f : α → Prog β) : (p >>= f) = p.bind f := rfl
theorem Prog.pure_eq {α : Type} (a : α) : (pure a : Prog α) = Prog.pure a := rfl

theorem interp_calls_mono {α : Type} (p : Prog α) : ∀ (rs : List Reply) (w : World),
    (interp p rs w).2.calls ≥ w.calls := by
  induction p with
  | pure a => intro rs w; exact Nat.le_refl _
  | crash m => intro rs w; exact Nat.le_refl _
  | newSolver k ih => intro rs w; exact ih _ rs _
  | reserve s n k ih => intro rs w; exact ih rs _
  | clause s c k ih => intro rs w; exact ih rs _
  | nVars s k ih => intro rs w; exact ih _ rs _
  | solve s a k ih =>
    intro rs w
    cases rs with
    | nil => exact Nat.le_succ _
    | cons r rs' =>
      cases r with
      | unknown => exact Nat.le_succ _
      | unsat | sat m => exact Nat.le_trans (Nat.le_succ _) (ih _ rs' ((w.onSolve s a).onReply s _))

theorem done_consumed {α : Type} (p : Prog α) : ∀ (rs : List Reply) (w w' : World) (a : α),
    interp p rs w = (.done a, w') →
      ∃ n, w'.calls = w.calls + n ∧ n ≤ rs.length ∧ Reply.unknown ∉ rs.take n := by
  induction p with
  | pure a0 => intro rs w w' a h; cases h; exact ⟨0, rfl, Nat.zero_le _, List.not_mem_nil⟩
  | crash m => intro rs w w' a h; cases h
  | newSolver k ih => intro rs w w' a h; exact ih _ rs w.onNew w' a h
  | reserve s n k ih => intro rs w w' a h; exact ih rs (w.onReserve s n) w' a h
  | clause s c k ih => intro rs w w' a h; exact ih rs (w.onClause s c) w' a h
  | nVars s k ih => intro rs w w' a h; exact ih _ rs (w.onNVars s) w' a h
  | solve s as k ih =>
    intro rs w w' a h
    cases rs with
    | nil => cases h
    | cons r rs' =>
      cases r with
      | unknown => cases h
      | unsat | sat m =>
        obtain ⟨n, hc, hl, hu⟩ := ih _ rs' _ w' a h
        refine ⟨n + 1, hc.trans (Nat.add_right_comm _ 1 n), Nat.succ_le_succ hl, ?_⟩
        rw [List.take_succ_cons, List.mem_cons, not_or]
        exact ⟨Reply.noConfusion, hu⟩

/-- C17, model level: a run that ends with an answer made no more calls than there were replies, and
none of the replies it consumed (one per call, from the front) was `unknown`. -/
theorem done_consumed_no_unknown {α : Type} (p : Prog α) : ∀ (rs : List Reply) (w w' : World) (a : α),
    interp p rs w = (.done a, w') →
      w'.calls - w.calls ≤ rs.length ∧ Reply.unknown ∉ rs.take (w'.calls - w.calls) := by
  intro rs w w' a h
  obtain ⟨n, hc, hl, hu⟩ := done_consumed p rs w w' a h
  rw [hc, Nat.add_sub_cancel_left]
  exact ⟨hl, hu⟩

/-- C17, positional form: if the run on `pre` is starved (it asks for one more reply) and the
next reply is `unknown`, the run aborts — whatever the program and whatever follows. -/
theorem unknown_aborts {α : Type} (p : Prog α) : ∀ (pre post : List Reply) (w : World),
    (∃ w1, interp p pre w = (.starved, w1)) →
    ∃ w2, interp p (pre ++ Reply.unknown :: post) w = (.abort, w2) := by
  induction p with
  | pure a0 => intro pre post w ⟨w1, h⟩; cases h
  | crash m => intro pre post w ⟨w1, h⟩; cases h
  | newSolver k ih => intro pre post w h; exact ih _ pre post w.onNew h
  | reserve s n k ih => intro pre post w h; exact ih pre post (w.onReserve s n) h
  | clause s c k ih => intro pre post w h; exact ih pre post (w.onClause s c) h
  | nVars s k ih => intro pre post w h; exact ih _ pre post (w.onNVars s) h
  | solve s as k ih =>
    intro pre post w h
    cases pre with
    | nil => exact ⟨_, rfl⟩
    | cons r pre' =>
      cases r with
      | unknown => obtain ⟨w1, h⟩ := h; cases h
      | unsat | sat m => exact ih _ pre' post ((w.onSolve s as).onReply s _) h

theorem interp_bind {α β : Type} (p : Prog α) (f : α → Prog β) : ∀ (rs : List Reply) (w : World),
    interp (p.bind f) rs w =
      match interp p rs w with
      | (.done a, w') => interp (f a) (rs.drop (w'.calls - w.calls)) w'
      | (.abort, w') => (.abort, w')
      | (.crashed m, w') => (.crashed m, w')
      | (.starved, w') => (.starved, w') := by
  induction p with
  | pure a0 =>
    intro rs w
    show interp (f a0) rs w = interp (f a0) (rs.drop (w.calls - w.calls)) w
    rw [Nat.sub_self]; rfl
  | crash m => intro rs w; rfl
  | newSolver k ih => intro rs w; exact ih _ rs w.onNew
  | reserve s n k ih => intro rs w; exact ih rs (w.onReserve s n)
  | clause s c k ih => intro rs w; exact ih rs (w.onClause s c)
  | nVars s k ih => intro rs w; exact ih _ rs (w.onNVars s)
  | solve s as k ih =>
    intro rs w
    -- the continuation starts one call later, on the replies behind the head
    have key : ∀ (o : Option Model) (r : Reply) (rs' : List Reply),
        interp ((k o).bind f) rs' ((w.onSolve s as).onReply s r) =
          match interp (k o) rs' ((w.onSolve s as).onReply s r) with
          | (.done a, w') => interp (f a) ((r :: rs').drop (w'.calls - w.calls)) w'
          | (.abort, w') => (.abort, w')
          | (.crashed m, w') => (.crashed m, w')
          | (.starved, w') => (.starved, w') := by
      intro o r rs'
      rw [ih]
      have hm := interp_calls_mono (k o) rs' ((w.onSolve s as).onReply s r)
      generalize interp (k o) rs' _ = res at hm ⊢
      obtain ⟨oc, w'⟩ := res
      cases oc with
      | done a =>
        obtain ⟨n, hn⟩ := Nat.exists_eq_add_of_le (show w.calls + 1 ≤ w'.calls from hm)
        show interp (f a) (List.drop (w'.calls - (w.calls + 1)) rs') w' =
          interp (f a) (List.drop (w'.calls - w.calls) (r :: rs')) w'
        rw [hn, Nat.add_sub_cancel_left, Nat.add_assoc, Nat.add_sub_cancel_left, Nat.add_comm 1 n]
        rfl
      | _ => rfl
    cases rs with
    | nil => rfl
    | cons r rs' =>
      cases r with
      | unknown => rfl
      | unsat => exact key none .unsat rs'
      | sat m => exact key (some m) (.sat m) rs'

end Crusta
