import Crusta.Proofs.Renum

/-!
# Invariance under renaming / reordering of arguments

A renaming is a bijection of `Nat` that preserves the universe `{0..n-1}` (a `Bij` of `GRename.lean`
that keeps `< n`, given here for compact frameworks: inverse `g`, image `imageSet S g`).  It is an
instance of `Renum.Iso` between `af.g` and `(af.rename ρ.f).g` (`rename_iso`), so all seven semantics
commute with it by `Renum.Iso.transfer_ext` (`rename_transfer`; for extensions and statuses in
`Props/C11`).
-/

namespace Crusta

structure Renaming (n : Nat) where
  f : Nat → Nat
  g : Nat → Nat
  gf : ∀ a, g (f a) = a
  fg : ∀ a, f (g a) = a
  lt : ∀ a, a < n ↔ f a < n

def AF.rename (af : AF) (f : Nat → Nat) : AF := ⟨af.n, af.atts.map (fun p => (f p.1, f p.2))⟩

def imageSet (S : ASet) (g : Nat → Nat) : ASet := fun a => S (g a)

variable {af : AF} (ρ : Renaming af.n)

theorem mem_rename_atts (b a : Nat) :
    (b, a) ∈ (af.rename ρ.f).atts ↔ (ρ.g b, ρ.g a) ∈ af.atts := by
  unfold AF.rename
  simp only [List.mem_map, Prod.mk.injEq]
  constructor
  · rintro ⟨⟨x, y⟩, hm, h1, h2⟩
    simp only at h1 h2
    subst h1; subst h2
    rw [ρ.gf, ρ.gf]; exact hm
  · intro hm
    exact ⟨(ρ.g b, ρ.g a), hm, ρ.fg b, ρ.fg a⟩

def Renaming.renum : Renum := ⟨fun _ => true, fun _ => true, ρ.f, ρ.g⟩

theorem rename_iso : ρ.renum.Iso af.g (af.rename ρ.f).g where
  map _ _ := rfl
  map' _ _ := rfl
  l a _ := ρ.gf a
  r a _ := ρ.fg a
  live a _ := decide_eq_decide.2 (ρ.lt a).symm
  att a b _ _ := (mem_rename_atts ρ (ρ.f a) (ρ.f b)).trans (by rw [ρ.gf, ρ.gf]; rfl)
  live_dom _ _ := rfl
  live_dom' _ _ := rfl
  att_dom _ _ _ := ⟨rfl, rfl⟩
  att_dom' _ _ _ := ⟨rfl, rfl⟩

theorem rename_transfer (σ : Sem) : ρ.renum.Transfer (σ.Ext af) (σ.Ext (af.rename ρ.f)) :=
  af.g_ext_eq σ ▸ (af.rename ρ.f).g_ext_eq σ ▸ (rename_iso ρ).transfer_ext σ

end Crusta
