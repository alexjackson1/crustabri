import Crusta.Proofs.EncExp

/-!
# hybrid complete encoder, for every switching threshold

`Hyb.co τ af` has exactly the complete sets as models, the lazily allocated disjunction variables
being forced to "the argument is attacked by the set".  Per argument the encoder emits either the
exp clauses (`Exp.coArg_iff`) or the aux_var clauses over freshly allocated variables
(`auxClauses_iff`); the allocation map is threaded through a fold.

The range variant `Hyb.coRange` adds the range clauses per argument (`rangeStep_spec`).  Its models
are complete sets with sound range variables (`coRange_sound`, one direction only), and every
complete set has a model whose range variables are exact (`coRange_exact`): the canonical assignment
`Hyb.asgOf`, taken relative to the allocation reached at the end of the fold.
-/

namespace Crusta
namespace Hyb

theorem disjWith_iff (af : AF) (ν : Asg) (b v : Nat) :
    cnfTrue ν (disjWith af b v) = true ↔ DisjDef af Exp.x ν b v :=
  disjGadget_iff ν (Exp.x b) v (af.attackers b) Exp.x

/-- the clauses that define the allocated disjunction variables hold -/
def DvC (af : AF) (ν : Asg) (st : St) : Prop :=
  ∀ b v, dvOf st b = some v → cnfTrue ν (disjWith af b v) = true

/-- allocation invariant: every allocated variable lies in `[lo, next)` and is used once -/
def AInv (lo : Nat) (st : St) : Prop :=
  lo ≤ st.next ∧ (∀ b v, dvOf st b = some v → lo ≤ v ∧ v < st.next) ∧
  (∀ b b' v, dvOf st b = some v → dvOf st b' = some v → b = b')

theorem dvOf_lt {st : St} {b v : Nat} (h : dvOf st b = some v) : b < st.dv.length := by
  apply Classical.byContradiction
  intro hn
  rw [dvOf, List.getD_eq_getElem?_getD, List.getElem?_eq_none (Nat.le_of_not_lt hn)] at h
  cases h

def alloc1 (af : AF) (st : St) (b : Nat) : St :=
  { dv := st.dv.set b (some st.next), next := st.next + 1, out := st.out ++ disjWith af b st.next }

theorem dvOf_alloc1 (af : AF) {st : St} {b : Nat} (hb : b < st.dv.length) (c : Nat) :
    dvOf (alloc1 af st b) c = if b = c then some st.next else dvOf st c := by
  simp only [dvOf, alloc1, List.getD_eq_getElem?_getD, List.getElem?_set]
  split
  · next h => subst h; simp
  · rfl

theorem alloc1_length (af : AF) (st : St) (b : Nat) : (alloc1 af st b).dv.length = st.dv.length :=
  List.length_set ..

theorem allocFor_cons_some (af : AF) {st : St} {b v : Nat} (h : dvOf st b = some v) (bs : List Nat) :
    allocFor af st (b :: bs) = allocFor af st bs := by
  rw [allocFor, h]

theorem allocFor_cons_none (af : AF) {st : St} {b : Nat} (h : dvOf st b = none) (bs : List Nat) :
    allocFor af st (b :: bs) = allocFor af (alloc1 af st b) bs := by
  rw [allocFor, h]; rfl

theorem allocFor_inv {af : AF} (I : St → Prop)
    (hstep : ∀ st b, b < st.dv.length → dvOf st b = none → I st → I (alloc1 af st b))
    (bs : List Nat) : ∀ st : St, (∀ b ∈ bs, b < st.dv.length) → I st →
      I (allocFor af st bs) ∧ (allocFor af st bs).dv.length = st.dv.length ∧
      (∀ c v, dvOf st c = some v → dvOf (allocFor af st bs) c = some v) ∧
      ∀ b ∈ bs, ∃ v, dvOf (allocFor af st bs) b = some v := by
  induction bs with
  | nil => exact fun _ _ h => ⟨h, rfl, fun _ _ h => h, fun _ h => nomatch h⟩
  | cons b bs ih =>
    intro st hlt h
    have hb := hlt b (List.mem_cons_self ..)
    have hbs := fun c hc => hlt c (List.mem_cons_of_mem _ hc)
    cases hd : dvOf st b with
    | some w =>
      rw [allocFor_cons_some af hd]
      obtain ⟨i1, i2, i3, i4⟩ := ih st hbs h
      exact ⟨i1, i2, i3, List.forall_mem_cons.2 ⟨⟨w, i3 b w hd⟩, i4⟩⟩
    | none =>
      rw [allocFor_cons_none af hd]
      obtain ⟨i1, i2, i3, i4⟩ := ih (alloc1 af st b)
        (fun c hc => (alloc1_length af st b).symm ▸ hbs c hc) (hstep st b hb hd h)
      have hmono : ∀ c v, dvOf st c = some v → dvOf (alloc1 af st b) c = some v := fun c v hc => by
        rw [dvOf_alloc1 af hb, if_neg (fun e => by rw [e, hc] at hd; cases hd)]; exact hc
      exact ⟨i1, i2.trans (alloc1_length af st b), fun c v hc => i3 c v (hmono c v hc),
        List.forall_mem_cons.2 ⟨⟨_, i3 b _ (by rw [dvOf_alloc1 af hb, if_pos rfl])⟩, i4⟩⟩

theorem alloc1_ainv (af : AF) (lo : Nat) {st : St} {b : Nat} (hb : b < st.dv.length)
    (h : AInv lo st) : AInv lo (alloc1 af st b) := by
  obtain ⟨h1, h2, h3⟩ := h
  refine ⟨Nat.le_succ_of_le h1, fun c v hc => ?_, fun c c' v hc hc' => ?_⟩
  · rw [dvOf_alloc1 af hb] at hc
    split at hc
    · cases hc; exact ⟨h1, Nat.lt_succ_self _⟩
    · exact ⟨(h2 c v hc).1, Nat.lt_succ_of_lt (h2 c v hc).2⟩
  · rw [dvOf_alloc1 af hb] at hc hc'
    -- a variable allocated earlier is below `st.next`, so it is not the new one
    split at hc <;> split at hc'
    · next e e' => exact e.symm.trans e'
    · cases hc; exact absurd (h2 c' _ hc').2 (Nat.lt_irrefl _)
    · cases hc'; exact absurd (h2 c _ hc).2 (Nat.lt_irrefl _)
    · exact h3 c c' v hc hc'

theorem alloc1_dvc (af : AF) (ν : Asg) {st : St} {b : Nat} (hb : b < st.dv.length)
    (hnone : dvOf st b = none) :
    DvC af ν (alloc1 af st b) ↔ (DvC af ν st ∧ cnfTrue ν (disjWith af b st.next) = true) := by
  simp only [DvC, dvOf_alloc1 af hb]
  constructor
  · refine fun h => ⟨fun c v hc => h c v ?_, h b _ (if_pos rfl)⟩
    rw [if_neg (fun e => by rw [e, hc] at hnone; cases hnone)]; exact hc
  · rintro ⟨h1, h2⟩ c v hc
    split at hc
    · next e => cases hc; exact e ▸ h2
    · exact h1 c v hc

theorem alloc1_out (af : AF) (ν : Asg) {st0 st : St} {b : Nat} (hb : b < st.dv.length)
    (hnone : dvOf st b = none)
    (h : cnfTrue ν st.out = true ↔ (cnfTrue ν st0.out = true ∧ DvC af ν st)) :
    cnfTrue ν (alloc1 af st b).out = true ↔ (cnfTrue ν st0.out = true ∧ DvC af ν (alloc1 af st b)) := by
  rw [alloc1_dvc af ν hb hnone, ← and_assoc, ← h, alloc1, cnfTrue_append_iff]

theorem argStep_eq (thr : Nat) (af : AF) (st : St) (a : Nat) :
    argStep thr af st a = { st with out := st.out ++ Exp.coArg af a } ∨
    argStep thr af st a = { allocFor af st (af.attackers a) with
      out := (allocFor af st (af.attackers a)).out ++
        auxCl af a (fun b => (dvOf (allocFor af st (af.attackers a)) b).getD 0) } := by
  unfold argStep Exp.coArg
  by_cases h1 : (Exp.defenders af a).isEmpty
  · exact Or.inl (by rw [if_pos h1, if_pos h1])
  · by_cases h2 : (Exp.defenders af a).any (fun d => d.isEmpty)
    · exact Or.inl (by rw [if_neg h1, if_neg h1, if_pos h2, if_pos h2])
    · by_cases h3 : prodCapped thr ((Exp.defenders af a).map List.length) 1 < thr
      · exact Or.inl (by rw [if_neg h1, if_neg h1, if_neg h2, if_neg h2, if_pos h3])
      · exact Or.inr (by rw [if_neg h1, if_neg h2, if_neg h3])

section
variable {af : AF} (hwf : af.WF) (thr : Nat) {st : St} (k : Nat) (hlen : st.dv.length = af.n)
include hwf hlen

theorem attackers_lt_dv : ∀ b ∈ af.attackers k, b < st.dv.length :=
  fun _ hb => hlen ▸ AF.attackers_lt hwf hb

theorem argStep_dv : (argStep thr af st k).dv.length = af.n ∧
    ∀ b v, dvOf st b = some v → dvOf (argStep thr af st k) b = some v := by
  rcases argStep_eq thr af st k with e | e <;> rw [e]
  · exact ⟨hlen, fun _ _ h => h⟩
  · have h := (allocFor_inv (af := af) (fun _ => True) (fun _ _ _ _ h => h) _ st
      (attackers_lt_dv hwf k hlen) trivial).2
    exact ⟨h.1.trans hlen, h.2.1⟩

theorem argStep_dvc {ν : Asg} (h : DvC af ν (argStep thr af st k)) : DvC af ν st :=
  fun b v hb => h b v ((argStep_dv hwf thr k hlen).2 b v hb)

theorem argStep_ainv {lo : Nat} (h : AInv lo st) : AInv lo (argStep thr af st k) := by
  rcases argStep_eq thr af st k with e | e <;> rw [e]
  · exact h
  · exact (allocFor_inv (AInv lo) (fun _ _ hb _ => alloc1_ainv af lo hb) _ st
      (attackers_lt_dv hwf k hlen) h).1

theorem argStep_out (ν : Asg) (hD : cnfTrue ν st.out = true → DvC af ν st) :
    cnfTrue ν (argStep thr af st k).out = true ↔
      (cnfTrue ν st.out = true ∧ Local3 af Exp.x ν k ∧ DvC af ν (argStep thr af st k)) := by
  have hlt := attackers_lt_dv hwf k hlen
  rcases argStep_eq thr af st k with e | e <;> rw [e]
  · show cnfTrue ν (st.out ++ Exp.coArg af k) = true ↔ _
    rw [cnfTrue_append_iff, Exp.coArg_iff]
    exact ⟨fun h => ⟨h.1, h.2, hD h.1⟩, fun h => ⟨h.1, h.2.1⟩⟩
  · -- the clauses emitted by the allocation are those that define the new variables
    obtain ⟨hout, _, _, hcov⟩ := allocFor_inv
      (fun st' => cnfTrue ν st'.out = true ↔ (cnfTrue ν st.out = true ∧ DvC af ν st'))
      (fun _ _ hb hnone h => alloc1_out af ν hb hnone h) _ st hlt ⟨fun h => ⟨h, hD h⟩, fun h => h.1⟩
    generalize allocFor af st (af.attackers k) = st' at hout hcov ⊢
    show cnfTrue ν (st'.out ++ auxCl af k _) = true ↔ (_ ∧ _ ∧ DvC af ν st')
    rw [cnfTrue_append_iff, hout, and_assoc]
    refine and_congr_right fun _ => ?_
    rw [and_comm]
    refine and_congr_left fun hD' => auxClauses_iff fun b hb => ?_
    obtain ⟨v, hv⟩ := hcov b hb
    rw [hv]
    exact (disjWith_iff af ν b v).1 (hD' b v hv)
end

/-- `rangeStep` leaves the allocation alone and appends clauses `X` that say, given `DvC`, at least
that the range variable of `a` is sound and at most that it is exact -/
theorem rangeStep_spec (af : AF) (ν : Asg) (st : St) (a : Nat) :
    (rangeStep af st a).dv.length = st.dv.length ∧ (DvC af ν (rangeStep af st a) ↔ DvC af ν st) ∧
    ∃ X, (cnfTrue ν (rangeStep af st a).out = true ↔ (cnfTrue ν st.out = true ∧ cnfTrue ν X = true)) ∧
      (DvC af ν st →
        (cnfTrue ν X = true → Exp.RS af ν a) ∧ (Exp.RExact af ν a → cnfTrue ν X = true)) := by
  unfold rangeStep
  cases hdv : dvOf st a with
  | none =>
    exact ⟨rfl, Iff.rfl, _, cnfTrue_append_iff ν st.out _,
      fun _ => ⟨(Exp.range_iff af ν a).1, fun h => (Exp.range_iff af ν a).2 h.rs⟩⟩
  | some v =>
    -- `r ⇔ x ∨ v` with `v ⇔ attacked`: the range variable is exact
    refine ⟨rfl, Iff.rfl, _, cnfTrue_append_iff ν st.out _, fun hD => ?_⟩
    rw [rangeGadget_iff, ((disjWith_iff af ν a v).1 (hD a v hdv)).2]
    exact ⟨Exp.RExact.rs, id⟩

theorem foldl_range_induct {σ : Type} (f : σ → Nat → σ) (I : σ → Nat → Prop) (s : σ) (n : Nat)
    (h0 : I s 0) (hstep : ∀ s k, k < n → I s k → I (f s k) (k + 1)) :
    I ((List.range n).foldl f s) n := by
  suffices ∀ k, k ≤ n → I ((List.range k).foldl f s) k from this n (Nat.le_refl n)
  intro k
  induction k with
  | zero => exact fun _ => h0
  | succ k ih =>
    intro hk
    rw [List.range_succ, List.foldl_append]
    exact hstep _ k hk (ih (Nat.le_of_succ_le hk))

theorem not_dvOf_init {af : AF} {r : Bool} {b v : Nat} : dvOf (init af r) b ≠ some v := by
  simp only [dvOf, init, List.getD_eq_getElem?_getD, List.getElem?_replicate]
  split <;> simp

def DvOK (af : AF) (lo : Nat) (st : St) : Prop := st.dv.length = af.n ∧ AInv lo st

theorem dvC_init (af : AF) (ν : Asg) (r : Bool) : DvC af ν (init af r) :=
  fun _ _ h => (not_dvOf_init h).elim

theorem init_dvOK (af : AF) (r : Bool) : DvOK af (init af r).next (init af r) :=
  ⟨List.length_replicate, Nat.le_refl _, fun _ _ h => (not_dvOf_init h).elim,
    fun _ _ _ h => (not_dvOf_init h).elim⟩

theorem argStep_dvOK {af : AF} (hwf : af.WF) (thr : Nat) {lo : Nat} {st : St} (k : Nat)
    (h : DvOK af lo st) : DvOK af lo (argStep thr af st k) :=
  ⟨(argStep_dv hwf thr k h.1).1, argStep_ainv hwf thr k h.1 h.2⟩

theorem run_dvOK {af : AF} (hwf : af.WF) (thr : Nat) : DvOK af (init af false).next (run thr af) :=
  foldl_range_induct _ (fun st _ => DvOK af (init af false).next st) (init af false) af.n
    (init_dvOK af false) fun _ k _ h => argStep_dvOK hwf thr k h

theorem rangeStep_dvOK {af : AF} {lo : Nat} {st : St} (a : Nat) (h : DvOK af lo st) :
    DvOK af lo (rangeStep af st a) := by
  unfold rangeStep
  split <;> exact h

theorem runRange_dvOK {af : AF} (hwf : af.WF) (thr : Nat) :
    DvOK af (init af true).next (runRange thr af) :=
  foldl_range_induct _ (fun st _ => DvOK af (init af true).next st) (init af true) af.n
    (init_dvOK af true) fun _ k _ h => rangeStep_dvOK k (argStep_dvOK hwf thr k h)

/-- for any threshold the models are exactly the complete sets, with every
allocated disjunction variable forced to "attacked by the set" -/
theorem co_iff (thr : Nat) (af : AF) (hwf : af.WF) (ν : Asg) :
    cnfTrue ν (co thr af) = true ↔ (Complete af (Exp.S af ν) ∧ DvC af ν (run thr af)) := by
  rw [Exp.S, co_iff_local hwf]
  -- invariant of the fold: what the clauses emitted for the first `k` arguments say
  let I : St → Nat → Prop := fun st k => st.dv.length = af.n ∧
    (cnfTrue ν st.out = true ↔ ((∀ a, a < k → Local3 af Exp.x ν a) ∧ DvC af ν st))
  have h0 : I (init af false) 0 := ⟨List.length_replicate, iff_of_true rfl
    ⟨fun a ha => absurd ha (Nat.not_lt_zero a), dvC_init af ν false⟩⟩
  have hstep : ∀ st k, k < af.n → I st k → I (argStep thr af st k) (k + 1) := by
    intro st k _ ⟨hlen, h⟩
    refine ⟨(argStep_dv hwf thr k hlen).1, ?_⟩
    rw [argStep_out hwf thr k hlen ν fun ho => (h.1 ho).2, h, Nat.forall_lt_succ_right]
    exact ⟨fun ⟨⟨h1, _⟩, h2, h3⟩ => ⟨⟨h1, h2⟩, h3⟩,
      fun ⟨⟨h1, h2⟩, h3⟩ => ⟨⟨h1, argStep_dvc hwf thr k hlen h3⟩, h2, h3⟩⟩
  exact (foldl_range_induct (argStep thr af) I (init af false) af.n h0 hstep).2

/-- the range variant: a model denotes a locally complete set with sound range variables and defined
disjunction variables; conversely such an assignment with exact range variables is a model -/
theorem coRange_spec (thr : Nat) (af : AF) (hwf : af.WF) (ν : Asg) :
    (cnfTrue ν (coRange thr af) = true →
      (∀ a, a < af.n → Local3 af Exp.x ν a ∧ Exp.RS af ν a) ∧ DvC af ν (runRange thr af)) ∧
    ((∀ a, a < af.n → Local3 af Exp.x ν a ∧ Exp.RExact af ν a) → DvC af ν (runRange thr af) →
      cnfTrue ν (coRange thr af) = true) := by
  -- invariant of the fold, the two directions separately: the appended range clauses are only
  -- bounded from both sides (`rangeStep_spec`)
  let I : St → Nat → Prop := fun st k => st.dv.length = af.n ∧
    (cnfTrue ν st.out = true → (∀ a, a < k → Local3 af Exp.x ν a ∧ Exp.RS af ν a) ∧ DvC af ν st) ∧
    ((∀ a, a < k → Local3 af Exp.x ν a ∧ Exp.RExact af ν a) → DvC af ν st → cnfTrue ν st.out = true)
  have h0 : I (init af true) 0 := ⟨List.length_replicate,
    fun _ => ⟨fun a ha => absurd ha (Nat.not_lt_zero a), dvC_init af ν true⟩, fun _ _ => rfl⟩
  have hstep : ∀ st k, k < af.n → I st k → I (rangeStep af (argStep thr af st k) k) (k + 1) := by
    intro st k _ ⟨hlen, h1, h2⟩
    obtain ⟨hl, hDv, X, hXo, hXs⟩ := rangeStep_spec af ν (argStep thr af st k) k
    have hout := argStep_out hwf thr k hlen ν fun ho => (h1 ho).2
    refine ⟨hl.trans ((argStep_dv hwf thr k hlen).1), ?_, ?_⟩
    · rw [hXo, hout, hDv, Nat.forall_lt_succ_right]
      rintro ⟨⟨ho, hk3, hD⟩, hx⟩
      exact ⟨⟨(h1 ho).1, hk3, (hXs hD).1 hx⟩, hD⟩
    · rw [hXo, hout, hDv, Nat.forall_lt_succ_right]
      rintro ⟨hlt, hk3, hkx⟩ hD
      exact ⟨⟨h2 hlt (argStep_dvc hwf thr k hlen hD), hk3, hD⟩, (hXs hD).2 hkx⟩
  exact (foldl_range_induct _ I (init af true) af.n h0 hstep).2

open Classical in
noncomputable def asgOf (af : AF) (T : ASet) (stF : St) : Asg := fun v =>
  if ∃ b, dvOf stF b = some v then decide (∃ b, dvOf stF b = some v ∧ AttackedBy af T b)
  else Exp.asgOf af T v

section
variable {af : AF} (hwf : af.WF) {T : ASet} {stF : St} {lo : Nat} (hA : DvOK af lo stF)
include hA

theorem asgOf_low {v : Nat} (hv : v < lo) : asgOf af T stF v = Exp.asgOf af T v :=
  if_neg fun ⟨b, hb⟩ => Nat.not_le.2 hv (hA.2.2.1 b v hb).1

theorem S_asgOf (hlo : af.n < lo) (hT : Sub af T) : Exp.S af (asgOf af T stF) = T :=
  setOfAsg_eq hT fun _ ha =>
    (asgOf_low hA (Nat.lt_of_le_of_lt ha hlo)).trans (Exp.asgOf_x af T ha)

open Classical in
theorem asgOf_dv {b v : Nat} (hbv : dvOf stF b = some v) :
    asgOf af T stF v = true ↔ AttackedBy af T b := by
  rw [asgOf, if_pos ⟨b, hbv⟩, decide_eq_true_eq]
  exact ⟨fun ⟨b', hb', hatt⟩ => hA.2.2.2 b b' v hbv hb' ▸ hatt, fun h => ⟨b, hbv, h⟩⟩

include hwf in
theorem asgOf_dvc (hlo : af.n < lo) (hT : ConflictFree af T) : DvC af (asgOf af T stF) stF := by
  intro b v hbv
  have hdv := asgOf_dv hA (T := T) hbv
  have hS := S_asgOf hA hlo hT.1
  rw [disjWith_iff, DisjDef, attIn_iff hwf _ _ hS, ← Exp.S_lt (ν := asgOf af T stF) (hA.1 ▸ dvOf_lt hbv), hS]
  exact ⟨fun hv => Bool.eq_false_iff.2 fun hTb => hT.2 b hTb (hdv.1 hv), hdv⟩

theorem asgOf_r (hlo : af.n * 2 < lo) {a : Nat} (ha : a < af.n) :
    asgOf af T stF (Exp.r af.n a) = true ↔ InRange af T a := by
  rw [asgOf_low hA (Nat.lt_of_le_of_lt (Exp.r_le_reserve ha) hlo)]
  exact Exp.asgOf_r af T a
end

theorem co_surj (thr : Nat) (af : AF) (hwf : af.WF) (T : ASet) (hT : Complete af T) :
    ∃ ν, cnfTrue ν (co thr af) = true ∧ Exp.S af ν = T := by
  have hA := run_dvOK hwf thr
  have hlo : af.n < (init af false).next := Nat.lt_add_of_pos_left Nat.one_pos
  have hS := S_asgOf hA hlo hT.1.1.1
  refine ⟨asgOf af T (run thr af), ?_, hS⟩
  rw [co_iff thr af hwf, hS]
  exact ⟨hT, asgOf_dvc hwf hA hlo hT.1.1⟩

theorem coRange_sound (thr : Nat) (af : AF) (hwf : af.WF) (ν : Asg)
    (h : cnfTrue ν (coRange thr af) = true) :
    Complete af (Exp.S af ν) ∧ Exp.RSound af ν := by
  rw [Exp.S, co_iff_local hwf, Exp.rsound_iff hwf, ← forall_lt_and]
  exact ((coRange_spec thr af hwf ν).1 h).1

theorem coRange_exact (thr : Nat) (af : AF) (hwf : af.WF) (T : ASet) (hT : Complete af T) :
    ∃ ν, cnfTrue ν (coRange thr af) = true ∧ Exp.S af ν = T ∧
      ∀ a, a < af.n → (ν (Exp.r af.n a) = true ↔ InRange af T a) := by
  have hA := runRange_dvOK hwf thr
  have hlo : af.n * 2 < (init af true).next := Nat.lt_add_of_pos_left Nat.one_pos
  have hlo' : af.n < (init af true).next := Nat.lt_of_le_of_lt (Nat.le_mul_of_pos_right _ (by decide)) hlo
  have hS := S_asgOf hA hlo' hT.1.1.1
  have hE := fun a ha => asgOf_r hA hlo (T := T) (a := a) ha
  have hloc := (co_iff_local hwf Exp.x _).1 (show Complete af (Exp.S af _) from hS.symm ▸ hT)
  exact ⟨_, (coRange_spec thr af hwf _).2
    (fun a ha => ⟨hloc a ha, (Exp.rexact_iff hwf hS ha).2 (hE a ha)⟩)
    (asgOf_dvc hwf hA hlo' hT.1.1), hS, hE⟩

end Hyb
end Crusta
