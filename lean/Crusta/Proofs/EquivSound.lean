import Crusta.Model.Equiv
import Crusta.Proofs.AttackRows
import Crusta.Proofs.ListAux
import Crusta.Proofs.GExist

/-!
# Soundness of the equivalence reduction (`utils::EquivalencyComputer`)

The propagation loops keep exact counters (`PInv`): what they propagate lies in every complete
extension that contains the seeds and what they defeat in none, and a conflict means that no complete
extension contains the seeds (`propagate_sound`).  Class construction merges two arguments only when
each forces the other, so the computed classes partition the arguments and merged arguments are
indistinguishable under CO (`computeClasses_spec`).

`QInv` (a counter at zero belongs to a propagated argument), `Proc` and the disjunct on the fuel in
`propagate_inv` are kept here for `EquivGrounded.lean`, which shows that `n + 1` rounds reach the
fixed point and that it is the grounded extension.
-/

namespace Crusta.Eq
open Crusta

theorem getD_ge {α : Type} (l : List α) (i : Nat) (d : α) (h : l.length ≤ i) : l.getD i d = d :=
  Crusta.getD_ge l i d h

theorem foldl_set {α : Type} (ms : List Nat) (v d : α) (acc : List α) (h : ∀ m ∈ ms, m < acc.length) :
    (ms.foldl (fun a m => a.set m v) acc).length = acc.length ∧
    ∀ x, (ms.foldl (fun a m => a.set m v) acc).getD x d = if x ∈ ms then v else acc.getD x d := by
  refine ⟨length_foldl_set v ms acc, fun x => ?_⟩
  rw [List.getD_eq_getElem?_getD, getElem?_foldl_set, List.getD_eq_getElem?_getD]
  split
  · next hx => rw [List.getElem?_eq_getElem (h x hx)]; rfl
  · rfl

structure Flags (n : Nat) (fl : List Bool) (l : List Nat) : Prop where
  len : fl.length = n
  mem : ∀ x, fl.getD x false = true ↔ x ∈ l

namespace Flags
variable {n : Nat} {fl : List Bool} {l : List Nat}

theorem lt (h : Flags n fl l) : ∀ x ∈ l, x < n := fun x hx =>
  h.len ▸ Nat.lt_of_not_le fun hle => by
    have := (h.mem x).2 hx
    rw [getD_ge _ _ _ hle] at this; cases this

theorem snoc (h : Flags n fl l) {d : Nat} (hd : d < n) : Flags n (fl.set d true) (l ++ [d]) := by
  refine ⟨List.length_set.trans h.len, fun x => ?_⟩
  rw [List.mem_append, List.mem_singleton]
  by_cases hdx : d = x
  · subst hdx; rw [getD_set_eq _ _ _ _ (h.len ▸ hd)]; exact ⟨fun _ => Or.inr rfl, fun _ => rfl⟩
  · rw [getD_set_ne _ _ _ _ _ hdx, h.mem x]
    exact ⟨Or.inl, fun hh => hh.resolve_right fun e => hdx e.symm⟩

theorem ofList (l : List Nat) (n : Nat) (h : ∀ a ∈ l, a < n) :
    Flags n (l.foldl (fun acc a => acc.set a true) (List.replicate n false)) l := by
  obtain ⟨f1, f2⟩ := foldl_set l true false (List.replicate n false)
    (by rw [List.length_replicate]; exact h)
  refine ⟨f1.trans List.length_replicate, fun x => ?_⟩
  rw [f2 x, getD_replicate_self]
  exact ⟨fun hx => Classical.byContradiction fun hn => (by rw [if_neg hn] at hx; cases hx), fun hx => if_pos hx⟩

end Flags

variable (af : AF)

/-- number of attack entries into `d` (duplicates counted) -/
def tot (d : Nat) : Nat := (af.attackers d).length

def pending (D : List Nat) (d : Nat) : Nat := (af.attackers d).countP (fun b => !decide (b ∈ D))

theorem pending_nil (d : Nat) : pending af [] d = tot af d :=
  List.countP_eq_length.2 fun _ _ => rfl

theorem pending_eq_zero {af : AF} {D : List Nat} {d : Nat} :
    pending af D d = 0 ↔ ∀ b, (b, d) ∈ af.atts → b ∈ D := by
  rw [pending, List.countP_eq_zero]
  constructor
  · intro h b hb
    exact Classical.byContradiction fun hn => h b (AF.mem_attackers.2 hb) (by rw [decide_eq_false hn]; rfl)
  · intro h b hb hn
    rw [decide_eq_true (h b (AF.mem_attackers.1 hb))] at hn; cases hn

theorem count_attackers (t d : Nat) : (af.attackers d).count t = (af.attackedOf t).count d :=
  (AF.count_rows af.atts t d).symm

theorem countP_not_mem_snoc (l D : List Nat) (t : Nat) (ht : t ∉ D) :
    l.countP (fun b => !decide (b ∈ D)) = l.countP (fun b => !decide (b ∈ D ++ [t])) + l.count t := by
  induction l with
  | nil => rfl
  | cons b l ih =>
    rw [List.countP_cons, List.countP_cons, List.count_cons, ih]
    by_cases hb : b = t
    · rw [decide_eq_false (hb ▸ ht), decide_eq_true (hb ▸ List.mem_append_right D (List.mem_singleton_self b)),
        if_pos (beq_iff_eq.2 hb)]
      rfl
    · rw [if_neg fun h => hb (beq_iff_eq.1 h), decide_eq_decide.2 (show b ∈ D ++ [t] ↔ b ∈ D from
        ⟨fun h => (List.mem_append.1 h).resolve_right fun h' => hb (List.mem_singleton.1 h'),
          List.mem_append_left _⟩)]
      exact Nat.add_right_comm _ _ _

theorem pending_snoc (D : List Nat) (t d : Nat) (ht : t ∉ D) :
    pending af D d = pending af (D ++ [t]) d + (af.attackedOf t).count d := by
  rw [← count_attackers]; exact countP_not_mem_snoc _ D t ht

theorem foldl_cnt (l : List (Nat × Nat)) (acc : List Nat) (h : ∀ p ∈ l, p.2 < acc.length) :
    (l.foldl (fun acc p => acc.set p.2 (acc.getD p.2 0 + 1)) acc).length = acc.length ∧
    ∀ d, (l.foldl (fun acc p => acc.set p.2 (acc.getD p.2 0 + 1)) acc).getD d 0 =
      acc.getD d 0 + l.countP (fun p => p.2 == d) := by
  induction l generalizing acc with
  | nil => exact ⟨rfl, fun d => rfl⟩
  | cons p l ih =>
    obtain ⟨hp, h'⟩ := List.forall_mem_cons.1 h
    obtain ⟨i1, i2⟩ := ih (acc.set p.2 (acc.getD p.2 0 + 1)) (by rwa [List.length_set])
    refine ⟨by rw [List.foldl_cons, i1, List.length_set], fun d => ?_⟩
    rw [List.foldl_cons, i2 d, List.countP_cons]
    by_cases hpd : p.2 = d
    · subst hpd; rw [getD_set_eq _ _ _ _ hp, if_pos (beq_self_eq_true _)]
      exact Nat.add_right_comm _ 1 _
    · rw [getD_set_ne _ _ _ _ _ hpd, if_neg fun h => hpd (beq_iff_eq.1 h)]; rfl

theorem nAttacksTo_spec (hwf : af.WF) :
    (nAttacksTo af).length = af.n ∧ ∀ d, (nAttacksTo af).getD d 0 = tot af d := by
  obtain ⟨h1, h2⟩ := foldl_cnt af.atts (List.replicate af.n 0) fun p hp => by
    rw [List.length_replicate]; exact (hwf p hp).2
  refine ⟨h1.trans List.length_replicate, fun d => ?_⟩
  rw [nAttacksTo, h2 d, getD_replicate_self, Nat.zero_add, tot, AF.attackers, List.length_map,
    List.countP_eq_length_filter]

/-- invariant of the propagation state; `extra` is the not-yet-processed part of the attack row of
the argument that has just been defeated (empty between two runs of `defendLoop`).  Outside `args`
the counter of `d` counts the attack entries into `d` from arguments not defeated, and those of `extra`. -/
structure PInv (args : List Nat) (extra : List Nat) (st : PSt) : Prop where
  lenC : st.cnt.length = af.n
  flP : Flags af.n st.inProp st.propagated
  flD : Flags af.n st.inDef st.defeated
  argsIn : ∀ a ∈ args, a ∈ st.propagated
  propNodup : args.Nodup → st.propagated.Nodup
  zeroP : ∀ x ∈ st.propagated, x ∉ args → st.cnt.getD x 0 = 0
  defNodup : st.defeated.Nodup
  disj : ∀ x ∈ st.defeated, x ∉ st.propagated
  defAtt : ∀ x ∈ st.defeated, ∃ q ∈ st.propagated, (q, x) ∈ af.atts
  ctr : ∀ d, d ∉ args → st.cnt.getD d 0 = pending af st.defeated d + extra.count d
  sem : ∀ S, Complete af S → (∀ a ∈ args, S a = true) → ∀ x ∈ st.propagated, S x = true

namespace PInv
variable {af} {args e : List Nat} {st : PSt}

theorem semD (h : PInv af args e st) (S : ASet) (hS : Complete af S) (ha : ∀ a ∈ args, S a = true) :
    ∀ x ∈ st.defeated, AttackedBy af S x := fun x hx =>
  (h.defAtt x hx).elim fun q hq => ⟨q, hq.2, h.sem S hS ha q hq.1⟩

theorem attackers_defeated (h : PInv af args e st) {d : Nat} (hda : d ∉ args)
    (hc : st.cnt.getD d 0 = 0) : ∀ b, (b, d) ∈ af.atts → b ∈ st.defeated :=
  pending_eq_zero.1 (Nat.eq_zero_of_add_eq_zero_right ((h.ctr d hda).symm.trans hc))

theorem cnt_zero (h : PInv af args [] st) {d : Nat} (hda : d ∉ args)
    (hall : ∀ b, (b, d) ∈ af.atts → b ∈ st.defeated) : st.cnt.getD d 0 = 0 :=
  (h.ctr d hda).trans (pending_eq_zero.2 hall)

theorem skip {d : Nat} {ds : List Nat} (h : PInv af args (d :: ds) st) (hda : d ∈ args) :
    PInv af args ds st :=
  { h with
    ctr := fun x hx => by rw [h.ctr x hx, List.count_cons_of_ne (fun (hh : d = x) => hx (hh ▸ hda))] }

theorem dec {d : Nat} {ds : List Nat} (h : PInv af args (d :: ds) st) (hd : d < af.n) (hda : d ∉ args) :
    d ∉ st.propagated ∧ PInv af args ds { st with cnt := st.cnt.set d (st.cnt.getD d 0 - 1) } := by
  have hc := h.ctr d hda
  rw [List.count_cons_self] at hc
  have hdp : d ∉ st.propagated := fun hp =>
    Nat.succ_ne_zero _ (hc.symm.trans (h.zeroP d hp hda))
  refine ⟨hdp, { h with lenC := ?_, zeroP := ?_, ctr := ?_ }⟩
  · exact List.length_set.trans h.lenC
  · intro x hx hxa
    exact (getD_set_ne _ _ _ _ _ fun (hh : d = x) => hdp (hh ▸ hx)).trans (h.zeroP x hx hxa)
  · intro x hxa
    by_cases hdx : d = x
    · subst hdx
      rw [getD_set_eq _ _ _ _ (h.lenC ▸ hd), hc]; rfl
    · rw [getD_set_ne _ _ _ _ _ hdx, ← List.count_cons_of_ne hdx]; exact h.ctr x hxa

/-- an argument whose counter has reached zero is propagated: it is defended -/
theorem push {d : Nat} (h : PInv af args e st) (hd : d < af.n) (hda : d ∉ args)
    (hdp : d ∉ st.propagated) (hc : st.cnt.getD d 0 = 0) :
    PInv af args e { st with propagated := st.propagated ++ [d], inProp := st.inProp.set d true } :=
  have hall := h.attackers_defeated hda hc
  { h with
    flP := h.flP.snoc hd
    argsIn := fun a ha => List.mem_append_left _ (h.argsIn a ha)
    propNodup := fun ha => nodup_concat (h.propNodup ha) hdp
    zeroP := forall_mem_concat h.zeroP fun _ => hc
    disj := fun x hx hxp => (List.mem_append.1 hxp).elim (h.disj x hx) fun hxd =>
      (h.defAtt d (List.mem_singleton.1 hxd ▸ hx)).elim fun q hq => h.disj q (hall q hq.2) hq.1
    defAtt := fun x hx => (h.defAtt x hx).imp fun _ hq => ⟨List.mem_append_left _ hq.1, hq.2⟩
    sem := fun S hS ha => forall_mem_concat (h.sem S hS ha)
      (hS.2 d hd fun b hb => h.semD S hS ha b (hall b hb)) }

theorem defeat {id t : Nat} (h : PInv af args [] st) (hwf : af.WF) (hatt : (id, t) ∈ af.atts)
    (hid : id ∈ st.propagated) (htp : t ∉ st.propagated) (htd : t ∉ st.defeated) :
    PInv af args (af.attackedOf t)
      { st with defeated := st.defeated ++ [t], inDef := st.inDef.set t true } :=
  { h with
    flD := h.flD.snoc (hwf _ hatt).2
    defNodup := nodup_concat h.defNodup htd
    disj := forall_mem_concat h.disj htp
    defAtt := forall_mem_concat h.defAtt ⟨id, hid, hatt⟩
    ctr := fun d hd => (h.ctr d hd).trans (pending_snoc af _ t d htd) }

end PInv

/-- the invariant the loops carry: if `args` contains every unattacked argument, every counter at
zero belongs to a propagated argument.  (Between the decrement of a counter and the test of its new
value this part does not hold, whence the two layers.) -/
structure QInv (args : List Nat) (extra : List Nat) (st : PSt) : Prop
    extends PInv af args extra st where
  zero : (∀ x, x < af.n → tot af x = 0 → x ∈ args) →
    ∀ x, x < af.n → st.cnt.getD x 0 = 0 → x ∈ st.propagated

theorem defendLoop_cons (args : List Nat) (st : PSt) (d : Nat) (ds : List Nat) :
    defendLoop args st (d :: ds) =
      if args.contains d then defendLoop args st ds
      else if st.cnt.getD d 0 - 1 == 0 then
        defendLoop args { st with cnt := st.cnt.set d (st.cnt.getD d 0 - 1),
                                  propagated := st.propagated ++ [d], inProp := st.inProp.set d true } ds
      else defendLoop args { st with cnt := st.cnt.set d (st.cnt.getD d 0 - 1) } ds := rfl

theorem defendLoop_inv (args : List Nat) (ds : List Nat) (st : PSt) (P0 : List Nat)
    (hds : ∀ d ∈ ds, d < af.n) (h : QInv af args ds st) (hP : P0 <+: st.propagated) :
    QInv af args [] (defendLoop args st ds) ∧ (defendLoop args st ds).defeated = st.defeated ∧
    P0 <+: (defendLoop args st ds).propagated := by
  induction ds generalizing st with
  | nil => exact ⟨h, rfl, hP⟩
  | cons d ds ih =>
    obtain ⟨hd, hds'⟩ := List.forall_mem_cons.1 hds
    rw [defendLoop_cons]
    by_cases hda : d ∈ args
    · rw [if_pos (List.contains_iff_mem.2 hda)]
      exact ih st hds' ⟨h.toPInv.skip hda, h.zero⟩ hP
    · rw [if_neg fun hc => hda (List.contains_iff_mem.1 hc)]
      obtain ⟨hdp, h1⟩ := h.toPInv.dec hd hda
      have hl : d < st.cnt.length := h.lenC ▸ hd
      by_cases hz : st.cnt.getD d 0 - 1 = 0
      · rw [if_pos (beq_iff_eq.2 hz)]
        refine ih _ hds' ⟨h1.push hd hda hdp ((getD_set_eq _ _ _ _ hl).trans hz),
          fun u x hx hx0 => ?_⟩ (hP.trans (List.prefix_append _ _))
        by_cases e : d = x
        · exact List.mem_append_right _ (List.mem_singleton.2 e.symm)
        · exact List.mem_append_left _ (h.zero u x hx ((getD_set_ne _ _ _ _ _ e).symm.trans hx0))
      · rw [if_neg fun hc => hz (beq_iff_eq.1 hc)]
        refine ih _ hds' ⟨h1, fun u x hx hx0 => ?_⟩ hP
        by_cases e : d = x
        · subst e; exact absurd ((getD_set_eq _ _ _ _ hl).symm.trans hx0) hz
        · exact h.zero u x hx ((getD_set_ne _ _ _ _ _ e).symm.trans hx0)

theorem attackLoop_cons (args : List Nat) (st : PSt) (t : Nat) (ts : List Nat) :
    attackLoop af args st (t :: ts) =
      if st.inProp.getD t false then none
      else if st.inDef.getD t false then attackLoop af args st ts
      else attackLoop af args (defendLoop args
        { st with defeated := st.defeated ++ [t], inDef := st.inDef.set t true } (af.attackedOf t)) ts :=
  rfl

/-- what is claimed of a loop with a conflict exit -/
def Post (args : List Nat) (P : PSt → Prop) : Option PSt → Prop
  | some st => P st
  | none => ¬ ∃ S, Complete af S ∧ ∀ a ∈ args, S a = true

/-- `P0` and `D0` are what had been propagated and defeated at some earlier point -/
theorem attackLoop_inv (hwf : af.WF) (args : List Nat) (id : Nat) (ts : List Nat) (st : PSt)
    (P0 D0 : List Nat) (hts : ∀ t ∈ ts, (id, t) ∈ af.atts) (hid : id ∈ P0)
    (hP : P0 <+: st.propagated) (hD : D0 ⊆ st.defeated) (h : QInv af args [] st) :
    Post af args (fun st' => QInv af args [] st' ∧ P0 <+: st'.propagated ∧ D0 ++ ts ⊆ st'.defeated)
      (attackLoop af args st ts) := by
  induction ts generalizing st D0 with
  | nil => exact ⟨h, hP, by rw [List.append_nil]; exact hD⟩
  | cons t ts ih =>
    obtain ⟨hatt, hts'⟩ := List.forall_mem_cons.1 hts
    rw [attackLoop_cons, List.append_cons]
    by_cases hp : st.inProp.getD t false = true
    · rw [if_pos hp]
      rintro ⟨S, hS, hargs⟩
      have hpS := h.sem S hS hargs
      exact hS.1.1.2 t (hpS t ((h.flP.mem t).1 hp)) ⟨id, hatt, hpS id (hP.subset hid)⟩
    · rw [if_neg hp]
      by_cases hdf : st.inDef.getD t false = true
      · rw [if_pos hdf]
        exact ih st _ hts' hP (List.append_subset.2
          ⟨hD, List.cons_subset.2 ⟨(h.flD.mem t).1 hdf, List.nil_subset _⟩⟩) h
      · rw [if_neg hdf]
        obtain ⟨h2, e2, e3⟩ := defendLoop_inv af args (af.attackedOf t) _ P0
          (fun d hd => (hwf _ (AF.mem_attackedOf.1 hd)).2)
          ⟨h.toPInv.defeat hwf hatt (hP.subset hid) (fun hh => hp ((h.flP.mem t).2 hh))
            (fun hh => hdf ((h.flD.mem t).2 hh)), h.zero⟩ hP
        refine ih _ _ hts' e3 ?_ h2
        rw [e2]
        exact List.append_subset.2 ⟨fun x hx => List.mem_append_left _ (hD hx),
          List.subset_append_right _ _⟩

/-- the first `i` propagated arguments have been processed: all their targets are defeated -/
def Proc (st : PSt) (i : Nat) : Prop :=
  ∀ id ∈ st.propagated.take i, af.attackedOf id ⊆ st.defeated

theorem propLoop_succ (args : List Nat) (fuel i : Nat) (st : PSt) :
    propLoop af args (fuel + 1) i st =
      match st.propagated[i]? with
      | none => some st
      | some id =>
        match attackLoop af args st (af.attackedOf id) with
        | none => none
        | some st' => propLoop af args fuel (i + 1) st' := rfl

theorem propLoop_inv (hwf : af.WF) (args : List Nat) (N fuel i : Nat) (st : PSt) (hN : i + fuel = N)
    (h : QInv af args [] st) (hp : Proc af st i) :
    Post af args (fun st' => QInv af args [] st' ∧
      ∃ i', Proc af st' i' ∧ (st'.propagated.length ≤ i' ∨ i' = N))
      (propLoop af args fuel i st) := by
  induction fuel generalizing i st with
  | zero => exact ⟨h, i, hp, Or.inr hN⟩
  | succ fuel ih =>
    rw [propLoop_succ]
    cases hid : st.propagated[i]? with
    | none => exact ⟨h, i, hp, Or.inl (List.getElem?_eq_none_iff.1 hid)⟩
    | some id =>
      have a := attackLoop_inv af hwf args id (af.attackedOf id) st st.propagated st.defeated
        (fun t ht => AF.mem_attackedOf.1 ht) (List.mem_of_getElem? hid) (List.prefix_refl _)
        (List.Subset.refl _) h
      -- reduce the `match` on the loop result, then case on that result with `a` still in the goal
      simp only []
      revert a
      cases attackLoop af args st (af.attackedOf id) with
      | none => exact fun a => a
      | some st1 =>
        rintro ⟨q1, ⟨r, e1⟩, m⟩
        obtain ⟨m1, m2⟩ := List.append_subset.1 m
        obtain ⟨hil, _⟩ := List.getElem?_eq_some_iff.1 hid
        refine ih (i + 1) st1 ((Nat.add_right_comm i 1 fuel).trans hN) q1 ?_
        rw [Proc, ← e1, List.take_append_of_le_length hil, List.take_add_one, hid]
        exact forall_mem_concat (fun x hx => (hp x hx).trans m1) m2

theorem init_inv (hwf : af.WF) (args : List Nat) (hargs : ∀ a ∈ args, a < af.n) :
    QInv af args []
      ⟨nAttacksTo af, args, args.foldl (fun acc a => acc.set a true) (List.replicate af.n false), [],
        List.replicate af.n false⟩ := by
  obtain ⟨c1, c2⟩ := nAttacksTo_spec af hwf
  exact
    { lenC := c1
      flP := Flags.ofList args af.n hargs
      flD := Flags.ofList [] af.n (List.forall_mem_nil _)
      argsIn := fun _ ha => ha
      propNodup := id
      zeroP := fun x hx hxa => absurd hx hxa
      defNodup := List.nodup_nil
      disj := List.forall_mem_nil _
      defAtt := List.forall_mem_nil _
      ctr := fun d _ => (c2 d).trans (pending_nil af d).symm
      sem := fun S _ ha => ha
      zero := fun u x hx hx0 => u x hx ((c2 x).symm.trans hx0) }

theorem propagate_inv (hwf : af.WF) (args : List Nat) (hargs : ∀ a ∈ args, a < af.n) :
    (∀ p d, propagate af (nAttacksTo af) args = some (p, d) →
      ∃ st i, QInv af args [] st ∧ st.propagated = p ∧ st.defeated = d ∧ Proc af st i ∧
        (p.length ≤ i ∨ i = af.n + 1)) ∧
    (propagate af (nAttacksTo af) args = none → ¬ ∃ S, Complete af S ∧ ∀ a ∈ args, S a = true) := by
  have h := propLoop_inv af hwf args (af.n + 1) (af.n + 1) 0 _ (Nat.zero_add _)
    (init_inv af hwf args hargs) (List.forall_mem_nil _)
  -- as in `propLoop_inv`: `simp only []` reduces the `match` on the loop result
  unfold propagate
  simp only []
  split
  · next heq => rw [heq] at h; exact ⟨nofun, fun _ => h⟩
  · next st heq =>
    rw [heq] at h
    obtain ⟨q, i, hi, hor⟩ := h
    refine ⟨fun p d hpd => ?_, nofun⟩
    cases hpd
    exact ⟨st, i, q, rfl, rfl, hi, hor⟩

theorem propagate_sound (hwf : af.WF) (args : List Nat) (hargs : ∀ a ∈ args, a < af.n) :
    (∀ p d, propagate af (nAttacksTo af) args = some (p, d) →
      ∀ S, Complete af S → (∀ a ∈ args, S a = true) → (∀ x ∈ p, S x = true) ∧ (∀ x ∈ d, S x = false)) ∧
    (propagate af (nAttacksTo af) args = none → ¬ ∃ S, Complete af S ∧ ∀ a ∈ args, S a = true) := by
  obtain ⟨hsome, hnone⟩ := propagate_inv af hwf args hargs
  refine ⟨fun p d heq S hS hS' => ?_, hnone⟩
  obtain ⟨st, _, hinv, rfl, rfl, _⟩ := hsome p d heq
  refine ⟨hinv.sem S hS hS', fun x hx => ?_⟩
  cases hSx : S x
  · rfl
  · exact absurd (hinv.semD S hS hS' x hx) (hS.1.1.2 x hSx)

def Forces (i x : Nat) : Prop := ∀ S, Complete af S → S i = true → S x = true

theorem same_of_forces {af : AF} {a b : Nat} (h1 : Forces af a b) (h2 : Forces af b a)
    (S : ASet) (hS : Complete af S) : S a = S b := by
  cases ha : S a
  · cases hb : S b
    · rfl
    · rw [h2 S hS hb] at ha; cases ha
  · exact (h1 S hS ha).symm

/-- what a cached propagation list of `i` has to be -/
def ListOK (i : Nat) (p : List Nat) : Prop :=
  p.Nodup ∧ ∀ x ∈ p, x < af.n ∧ Forces af i x

theorem listOK_nil (i : Nat) : ListOK af i [] := ⟨List.nodup_nil, List.forall_mem_nil _⟩

def pidOf (cnt : List Nat) (id : Nat) : List Nat :=
  match propagate af cnt [id] with | some q => q.1 | none => []

theorem pidOf_ok (hwf : af.WF) (i : Nat) (hi : i < af.n) :
    ListOK af i (pidOf af (nAttacksTo af) i) := by
  unfold pidOf
  cases hq : propagate af (nAttacksTo af) [i] with
  | none => exact listOK_nil af i
  | some q =>
    have hargs : ∀ a ∈ [i], a < af.n := fun a ha => List.mem_singleton.1 ha ▸ hi
    obtain ⟨st, _, hinv, hp, _⟩ := (propagate_inv af hwf [i] hargs).1 q.1 q.2 hq
    show ListOK af i q.1
    rw [← hp]
    exact ⟨hinv.propNodup (List.nodup_cons.2 ⟨List.not_mem_nil, List.nodup_nil⟩), fun x hx =>
      ⟨hinv.flP.lt x hx, fun S hS hSi => hinv.sem S hS (fun a ha => List.mem_singleton.1 ha ▸ hSi) x hx⟩⟩

def CacheOK (props : List (Option (List Nat))) : Prop :=
  ∀ i p, props.getD i none = some p → ListOK af i p

theorem CacheOK.set {af : AF} {props : List (Option (List Nat))} (h : CacheOK af props) (i : Nat)
    (p : List Nat) (hp : ListOK af i p) : CacheOK af (props.set i (some p)) := by
  intro j q hq
  by_cases hij : i = j
  · by_cases hi : i < props.length
    · rw [← hij, getD_set_eq _ _ _ _ hi] at hq
      cases hq; exact hij ▸ hp
    · rw [List.set_eq_of_length_le (Nat.le_of_not_lt hi)] at hq
      exact h j q hq
  · rw [getD_set_ne _ _ _ _ _ hij] at hq
    exact h j q hq

/-- the class under construction with the arrays `inClasses` and `props` -/
abbrev Acc := List Nat × List Bool × List (Option (List Nat))

def mergeStep (cnt : List Nat) (arg : Nat) (acc : Acc) (id : Nat) : Acc :=
  if (pidOf af cnt id).contains arg then (acc.1 ++ [id], acc.2.1.set id true, acc.2.2.set id (some []))
  else (acc.1, acc.2.1, acc.2.2.set id (some (pidOf af cnt id)))

def lookup (cnt : List Nat) (st : CSt) (arg : Nat) : List Nat × List (Option (List Nat)) :=
  match st.props.getD arg none with
  | some p => (p, st.props.set arg (some []))
  | none => (pidOf af cnt arg, st.props)

def close (cs : List Cls) (acc : Acc) : CSt := ⟨cs ++ [⟨.other, acc.1⟩], acc.2.1, acc.2.2⟩

/-- `classStep` as the cache look-up followed by a fold of `mergeStep` and `close`; a failed
propagation for `arg` behaves like an empty list: `arg` stays alone -/
theorem classStep_eq (cnt : List Nat) (st : CSt) (arg : Nat) :
    classStep af cnt st arg =
      if st.inClasses.getD arg false then st
      else close st.classes
        (((lookup af cnt st arg).1.filter
            (fun id => !((st.inClasses.set arg true).getD id false) && id > arg)).foldl
          (mergeStep af cnt arg) ([arg], st.inClasses.set arg true, (lookup af cnt st arg).2)) := by
  unfold classStep lookup pidOf
  cases st.inClasses.getD arg false with
  | true => rfl
  | false =>
    cases st.props.getD arg none with
    | some p => rfl
    | none => cases propagate af cnt [arg] <;> rfl

/-- the members of `c` are indistinguishable under CO, and its kind says the truth about them -/
def ClsSound (c : Cls) : Prop :=
  (∀ a ∈ c.members, ∀ b ∈ c.members, ∀ S, Complete af S → S a = S b) ∧
  (c.kind = .grounded → ∀ a ∈ c.members, ∀ S, Complete af S → S a = true) ∧
  (c.kind = .defeated → ∀ a ∈ c.members, ∀ S, Complete af S → S a = false)

def flat (cs : List Cls) : List Nat := cs.flatMap (·.members)

theorem flat_snoc (cs : List Cls) (c : Cls) : flat (cs ++ [c]) = flat cs ++ c.members := by
  rw [flat, List.flatMap_append, List.flatMap_singleton]; rfl

theorem mem_flat {cs : List Cls} {a : Nat} : a ∈ flat cs ↔ ∃ c ∈ cs, a ∈ c.members := List.mem_flatMap

theorem clsSound_singleton (i : Nat) : ClsSound af ⟨.other, [i]⟩ :=
  ⟨fun a ha b hb S _ => by rw [List.mem_singleton.1 ha, List.mem_singleton.1 hb], nofun, nofun⟩

/-- invariant of the fold of `classStep`: `inClasses` flags the members of the classes so far, which
are disjoint and sound, and the cache is right -/
structure CInv (st : CSt) : Prop where
  fl : Flags af.n st.inClasses (flat st.classes)
  nodup : (flat st.classes).Nodup
  cache : CacheOK af st.props
  sound : ∀ c ∈ st.classes, ClsSound af c

theorem lookup_ok (hwf : af.WF) (st : CSt) (arg : Nat) (harg : arg < af.n)
    (h : CacheOK af st.props) :
    ListOK af arg (lookup af (nAttacksTo af) st arg).1 ∧ CacheOK af (lookup af (nAttacksTo af) st arg).2 := by
  unfold lookup
  cases hg : st.props.getD arg none with
  | some p => exact ⟨h arg p hg, h.set arg [] (listOK_nil af arg)⟩
  | none => exact ⟨pidOf_ok af hwf arg harg, h⟩

theorem flat_close_snoc (cs : List Cls) (acc : Acc) (id : Nat) (fl : List Bool)
    (pr : List (Option (List Nat))) :
    flat (close cs (acc.1 ++ [id], fl, pr)).classes = flat (close cs acc).classes ++ [id] := by
  rw [close, close, flat_snoc, flat_snoc, List.append_assoc]

theorem CInv.merge {af : AF} {cs : List Cls} {acc : Acc} {arg id : Nat} (h : CInv af (close cs acc))
    (harg : arg ∈ acc.1) (hid : id < af.n) (hnew : id ∉ flat (close cs acc).classes)
    (h1 : Forces af arg id) (h2 : Forces af id arg) :
    CInv af (close cs (acc.1 ++ [id], acc.2.1.set id true, acc.2.2.set id (some []))) := by
  have hfl := flat_close_snoc cs acc id (acc.2.1.set id true) (acc.2.2.set id (some []))
  exact
    { fl := hfl ▸ h.fl.snoc hid
      nodup := hfl ▸ nodup_concat h.nodup hnew
      cache := h.cache.set id [] (listOK_nil af id)
      sound := fun c hc => by
        rcases List.mem_append.1 hc with hc | hc
        · exact h.sound c (List.mem_append_left _ hc)
        · rw [List.mem_singleton.1 hc]
          refine ⟨fun a ha b hb S hS => ?_, nofun, nofun⟩
          have key : ∀ x ∈ acc.1 ++ [id], S x = S arg := forall_mem_concat
            (fun x hx => (h.sound _ (List.mem_append_right _ (List.mem_singleton_self _))).1 x hx arg harg S hS)
            (same_of_forces h2 h1 S hS)
          exact (key a ha).trans (key b hb).symm }

theorem merge_fold (hwf : af.WF) (arg : Nat) (cs : List Cls) (rem : List Nat) (acc : Acc)
    (h : CInv af (close cs acc)) (harg : arg ∈ acc.1) (hnd : rem.Nodup)
    (hrem : ∀ id ∈ rem, id < af.n ∧ id ∉ flat (close cs acc).classes ∧ Forces af arg id) :
    CInv af (close cs (rem.foldl (mergeStep af (nAttacksTo af) arg) acc)) ∧
    arg ∈ (rem.foldl (mergeStep af (nAttacksTo af) arg) acc).1 := by
  induction rem generalizing acc with
  | nil => exact ⟨h, harg⟩
  | cons id rem ih =>
    obtain ⟨⟨hid, hidF, hidFo⟩, hrem'⟩ := List.forall_mem_cons.1 hrem
    obtain ⟨hidrem, hnd'⟩ := List.nodup_cons.1 hnd
    have hpid := pidOf_ok af hwf id hid
    rw [List.foldl_cons, mergeStep]
    split
    · next hc =>
      refine ih _ (h.merge harg hid hidF hidFo (hpid.2 arg (List.contains_iff_mem.1 hc)).2)
        (List.mem_append_left _ harg) hnd' fun x hx => ?_
      obtain ⟨x1, x2, x3⟩ := hrem' x hx
      refine ⟨x1, fun hh => ?_, x3⟩
      rw [flat_close_snoc] at hh
      rcases List.mem_append.1 hh with hh | hh
      · exact x2 hh
      · exact hidrem (List.mem_singleton.1 hh ▸ hx)
    · exact ih _ { h with cache := h.cache.set id _ hpid } harg hnd' hrem'

theorem classStep_inv (hwf : af.WF) (st : CSt) (arg : Nat) (harg : arg < af.n)
    (h : CInv af st) :
    CInv af (classStep af (nAttacksTo af) st arg) ∧
    arg ∈ flat (classStep af (nAttacksTo af) st arg).classes ∧
    ∃ ex, (classStep af (nAttacksTo af) st arg).classes = st.classes ++ ex ∧
      ∀ c ∈ ex, c.kind = Kind.other := by
  by_cases hin : st.inClasses.getD arg false = true
  · rw [classStep_eq, if_pos hin]
    exact ⟨h, (h.fl.mem arg).1 hin, [], (List.append_nil _).symm, List.forall_mem_nil _⟩
  · have hargF : arg ∉ flat st.classes := fun hh => hin ((h.fl.mem arg).2 hh)
    obtain ⟨hp, hc⟩ := lookup_ok af hwf st arg harg h.cache
    have hfl : flat (close st.classes ([arg], st.inClasses.set arg true,
        (lookup af (nAttacksTo af) st arg).2)).classes = flat st.classes ++ [arg] := flat_snoc _ _
    have h0 : CInv af (close st.classes ([arg], st.inClasses.set arg true,
        (lookup af (nAttacksTo af) st arg).2)) :=
      { fl := hfl ▸ h.fl.snoc harg
        nodup := hfl ▸ nodup_concat h.nodup hargF
        cache := hc
        sound := forall_mem_concat h.sound (clsSound_singleton af arg) }
    obtain ⟨m1, m2⟩ := merge_fold af hwf arg st.classes ((lookup af (nAttacksTo af) st arg).1.filter
        fun id => !((st.inClasses.set arg true).getD id false) && id > arg) _ h0
      (List.mem_singleton_self arg) (hp.1.filter _) fun id hid => by
        obtain ⟨hidp, hcond⟩ := List.mem_filter.1 hid
        rw [Bool.and_eq_true, Bool.not_eq_true'] at hcond
        refine ⟨(hp.2 id hidp).1, fun hh => ?_, (hp.2 id hidp).2⟩
        cases hcond.1.symm.trans ((h0.fl.mem id).2 hh)
    rw [classStep_eq, if_neg hin]
    exact ⟨m1, (flat_snoc _ _).symm ▸ List.mem_append_right _ m2, [_], rfl,
      fun c hc => List.mem_singleton.1 hc ▸ rfl⟩

theorem fold_classStep (hwf : af.WF) (l : List Nat) (st : CSt) (hl : ∀ a ∈ l, a < af.n)
    (h : CInv af st) :
    CInv af (l.foldl (classStep af (nAttacksTo af)) st) ∧
    (∀ a ∈ l, a ∈ flat (l.foldl (classStep af (nAttacksTo af)) st).classes) ∧
    ∃ ex, (l.foldl (classStep af (nAttacksTo af)) st).classes = st.classes ++ ex ∧
      ∀ c ∈ ex, c.kind = Kind.other := by
  induction l generalizing st with
  | nil => exact ⟨h, List.forall_mem_nil _, [], (List.append_nil _).symm, List.forall_mem_nil _⟩
  | cons x l ih =>
    obtain ⟨hx, hl'⟩ := List.forall_mem_cons.1 hl
    obtain ⟨s1, s2, e1, s3, s4⟩ := classStep_inv af hwf st x hx h
    obtain ⟨i1, i2, e2, i3, i4⟩ := ih _ hl' s1
    rw [List.foldl_cons]
    refine ⟨i1, fun a ha => ?_, e1 ++ e2, by rw [i3, s3, List.append_assoc],
      fun c hc => (List.mem_append.1 hc).elim (s4 c) (i4 c)⟩
    rcases List.mem_cons.1 ha with rfl | ha
    · rw [i3, flat, List.flatMap_append]; exact List.mem_append_left _ s2
    · exact i2 a ha

/-- the unattacked arguments, as `compute_classes` lists them -/
def unatt : List Nat := (List.range af.n).filter (fun a => (nAttacksTo af).getD a 0 == 0)

/-- the classes `compute_classes` starts from: the propagated and the defeated list, if not empty -/
def cl0 (g d : List Nat) : List Cls :=
  (if g.isEmpty then [] else [⟨Kind.grounded, g⟩]) ++ (if d.isEmpty then [] else [⟨Kind.defeated, d⟩])

theorem computeClasses_of_some (g d : List Nat)
    (h : propagate af (nAttacksTo af) (unatt af) = some (g, d)) :
    computeClasses af = ((List.range af.n).foldl (classStep af (nAttacksTo af))
      ⟨cl0 g d, (g ++ d).foldl (fun acc a => acc.set a true) (List.replicate af.n false),
        List.replicate af.n none⟩).classes := by
  unfold computeClasses unatt at *; simp only [h]; rfl

theorem mem_unatt (hwf : af.WF) (a : Nat) : a ∈ unatt af ↔ a < af.n ∧ tot af a = 0 := by
  rw [unatt, List.mem_filter, List.mem_range, (nAttacksTo_spec af hwf).2, beq_iff_eq]

theorem unatt_lt : ∀ a ∈ unatt af, a < af.n := fun _ ha => List.mem_range.1 (List.mem_filter.1 ha).1

theorem unatt_nodup : (unatt af).Nodup := List.nodup_range.filter _

theorem unatt_no_attacker (hwf : af.WF) (a : Nat) (ha : a ∈ unatt af) (b : Nat) :
    (b, a) ∉ af.atts := fun hb =>
  List.ne_nil_of_mem (AF.mem_attackers.2 hb) (List.eq_nil_of_length_eq_zero ((mem_unatt af hwf a).1 ha).2)

theorem unattacked_in (hwf : af.WF) (a : Nat) (ha : a ∈ unatt af)
    (S : ASet) (hS : Complete af S) : S a = true :=
  hS.2 a (unatt_lt af a ha) fun b hb => absurd hb (unatt_no_attacker af hwf a ha b)

theorem mem_cl0 {g d : List Nat} {c : Cls} :
    c ∈ cl0 g d ↔ (g ≠ [] ∧ c = ⟨Kind.grounded, g⟩) ∨ (d ≠ [] ∧ c = ⟨Kind.defeated, d⟩) := by
  unfold cl0
  cases g <;> cases d <;> simp

theorem flat_cl0 (g d : List Nat) : flat (cl0 g d) = g ++ d := by
  unfold cl0 flat
  cases g <;> cases d <;> simp

/-- what is left of `CInv` after the fold, when every argument has been visited: a sound partition -/
structure Good (cs : List Cls) : Prop where
  cover : ∀ a, a < af.n → a ∈ flat cs
  lt : ∀ a ∈ flat cs, a < af.n
  nodup : (flat cs).Nodup
  sound : ∀ c ∈ cs, ClsSound af c

theorem cinv_init (hwf : af.WF) (g d : List Nat)
    (hp : propagate af (nAttacksTo af) (unatt af) = some (g, d)) :
    CInv af ⟨cl0 g d, (g ++ d).foldl (fun acc a => acc.set a true) (List.replicate af.n false),
      List.replicate af.n none⟩ := by
  have hsem : ∀ S, Complete af S → (∀ x ∈ g, S x = true) ∧ ∀ x ∈ d, S x = false := fun S hS =>
    (propagate_sound af hwf _ (unatt_lt af)).1 g d hp S hS fun x hx => unattacked_in af hwf x hx S hS
  obtain ⟨st, _, hinv, rfl, rfl, _⟩ := (propagate_inv af hwf _ (unatt_lt af)).1 g d hp
  exact
    { fl := (flat_cl0 _ _).symm ▸ Flags.ofList _ af.n fun x hx =>
        (List.mem_append.1 hx).elim (hinv.flP.lt x) (hinv.flD.lt x)
      nodup := (flat_cl0 _ _).symm ▸ List.nodup_append.2 ⟨hinv.propNodup (unatt_nodup af),
        hinv.defNodup, fun a ha b hb hab => hinv.disj b hb (hab ▸ ha)⟩
      cache := fun i p hip => by
        rw [show (List.replicate af.n (none : Option (List Nat))).getD i none = none from
          getD_replicate_self ..] at hip
        cases hip
      sound := fun c hc => by
        rcases mem_cl0.1 hc with ⟨_, rfl⟩ | ⟨_, rfl⟩
        · exact ⟨fun a ha b hb S hS => by rw [(hsem S hS).1 a ha, (hsem S hS).1 b hb],
            fun _ a ha S hS => (hsem S hS).1 a ha, nofun⟩
        · exact ⟨fun a ha b hb S hS => by rw [(hsem S hS).2 a ha, (hsem S hS).2 b hb],
            nofun, fun _ a ha S hS => (hsem S hS).2 a ha⟩ }

theorem exists_complete : ∃ S, Complete af S := by
  obtain ⟨S, hS⟩ := af.g.exists_grounded ⟨af.n, fun a ha => of_decide_eq_true ha⟩
  exact ⟨S, (af.g_complete S).1 hS.1⟩

/-- the propagation from the unattacked arguments meets no conflict, since they all lie in a complete
extension: the fall-back of `compute_classes` (every argument a class of its own) is never taken -/
theorem propagate_unatt_some (hwf : af.WF) : ∃ g d, propagate af (nAttacksTo af) (unatt af) = some (g, d) := by
  cases hp : propagate af (nAttacksTo af) (unatt af) with
  | some gd => exact ⟨gd.1, gd.2, rfl⟩
  | none =>
    obtain ⟨S0, hS0⟩ := exists_complete af
    exact absurd ⟨S0, hS0, fun x hx => unattacked_in af hwf x hx S0 hS0⟩
      ((propagate_sound af hwf _ (unatt_lt af)).2 hp)

/-- the classes are sound and partition the arguments; they are the initial classes followed by
classes of kind `other` -/
theorem computeClasses_spec (hwf : af.WF) :
    Good af (computeClasses af) ∧
    ∃ g d ex, propagate af (nAttacksTo af) (unatt af) = some (g, d) ∧
      computeClasses af = cl0 g d ++ ex ∧ ∀ c ∈ ex, c.kind = Kind.other := by
  obtain ⟨g, d, hp⟩ := propagate_unatt_some af hwf
  rw [computeClasses_of_some af g d hp]
  obtain ⟨c1, c2, ex, c3, c4⟩ := fold_classStep af hwf (List.range af.n) _
    (fun a ha => List.mem_range.1 ha) (cinv_init af hwf g d hp)
  exact ⟨⟨fun a ha => c2 a (List.mem_range.2 ha), c1.fl.lt, c1.nodup, c1.sound⟩, g, d, ex, hp, c3, c4⟩

theorem computeClasses_good (hwf : af.WF) : Good af (computeClasses af) :=
  (computeClasses_spec af hwf).1

theorem flat_cons (c : Cls) (cs : List Cls) : flat (c :: cs) = c.members ++ flat cs := List.flatMap_cons

/-- `initToReduced` from position `k` on, over the array `acc` -/
def i2rFrom (k : Nat) (cs : List Cls) (acc : List Nat) : List Nat :=
  (cs.zipIdx k).foldl (fun acc (x : Cls × Nat) => x.1.members.foldl (fun a m => a.set m x.2) acc) acc

theorem i2r_fold (cs : List Cls) (k : Nat) (acc : List Nat)
    (hnd : (flat cs).Nodup) (hlt : ∀ a ∈ flat cs, a < acc.length) :
    (i2rFrom k cs acc).length = acc.length ∧
    ∀ a, (∀ i c, cs[i]? = some c → a ∈ c.members → (i2rFrom k cs acc).getD a 0 = k + i) ∧
      (a ∉ flat cs → (i2rFrom k cs acc).getD a 0 = acc.getD a 0) := by
  induction cs generalizing k acc with
  | nil => exact ⟨rfl, fun a => ⟨fun i c hi => (by cases hi), fun _ => rfl⟩⟩
  | cons c cs ih =>
    rw [flat_cons, List.nodup_append] at hnd
    obtain ⟨_, hnd2, hdis⟩ := hnd
    rw [flat_cons, List.forall_mem_append] at hlt
    obtain ⟨s1, s2⟩ := foldl_set c.members k 0 acc hlt.1
    obtain ⟨i1, i2⟩ := ih (k + 1) (c.members.foldl (fun a m => a.set m k) acc) hnd2 (s1 ▸ hlt.2)
    rw [i2rFrom, List.zipIdx_cons, List.foldl_cons]
    refine ⟨i1.trans s1, fun a => ⟨fun i c' hi ha => ?_, fun hna => ?_⟩⟩
    · cases i with
      | zero =>
        cases hi
        exact ((i2 a).2 fun hh => hdis a ha a hh rfl).trans ((s2 a).trans (if_pos ha))
      | succ i => exact ((i2 a).1 i c' hi ha).trans (Nat.add_right_comm k 1 i)
    · rw [flat_cons, List.mem_append, not_or] at hna
      exact ((i2 a).2 hna.2).trans ((s2 a).trans (if_neg hna.1))

theorem initToReduced_spec (n : Nat) (cs : List Cls) (hnd : (flat cs).Nodup) (hlt : ∀ a ∈ flat cs, a < n)
    (i : Nat) (c : Cls) (hi : cs[i]? = some c) (a : Nat) (ha : a ∈ c.members) :
    (initToReduced n cs).getD a 0 = i :=
  -- `initToReduced n cs` unfolds to `i2rFrom 0 cs (List.replicate n 0)`
  (((i2r_fold cs 0 (List.replicate n 0) hnd (by rw [List.length_replicate]; exact hlt)).2 a).1
    i c hi ha).trans (Nat.zero_add i)

end Crusta.Eq
