import Crusta.Proofs.DynAttEnc

/-!
# What the clauses of a re-encoding say, at the level of variables

The encoding is over the *variable graph*: vertices are the argument variables `1..n`, the edge
`a → x` is present iff the attack variable `attVar n x a` is true.  `VStable` / `VComplete` are the
conditions the clauses of `EncSpec` impose on an assignment (restricted to argument, attack and
attacker-disjunction variables); both directions are proved: every model of the clauses meets them,
and every assignment that meets them can be extended to the auxiliary variables into a model.
-/

namespace Crusta.DynAtt
open Crusta Crusta.Dyn

/-! Cell `(i, j)` of an `n × n` pass has index `i * n + j`. -/

theorem decode (n i j : Nat) (hj : j < n) : (i * n + j) / n = i ∧ (i * n + j) % n = j := by
  have hn : 0 < n := by omega
  rw [Nat.mul_comm]
  refine ⟨?_, ?_⟩
  · rw [Nat.mul_add_div hn, Nat.div_eq_of_lt hj]; rfl
  · rw [Nat.mul_add_mod, Nat.mod_eq_of_lt hj]

theorem pair_inj {n i j i' j' : Nat} (hj : j < n) (hj' : j' < n) (h : i * n + j = i' * n + j') :
    i = i' ∧ j = j' := by
  have h1 := decode n i j hj
  have h2 := decode n i' j' hj'
  rw [h] at h1
  exact ⟨h1.1.symm.trans h2.1, h1.2.symm.trans h2.2⟩

structure VStable (n : Nat) (ν : Asg) : Prop where
  cf : ∀ i j, i < n → j < n → ν (attVar n (i + 1) (j + 1)) = true → ν (i + 1) = true →
    ν (j + 1) = true → False
  att : ∀ i, i < n → ν (i + 1) = false →
    ∃ j, j < n ∧ ν (j + 1) = true ∧ ν (attVar n (i + 1) (j + 1)) = true

/-- `disjVar n x` reads "`x` is attacked by the set" (`dj_in`, `dj_out`).  With that reading: `cf` — no
member is attacked by the set; `dfd` — the attackers of a member are attacked; `cpl` — an argument left
out has an attacker that is not attacked (so every defended argument is in) -/
structure VComplete (n : Nat) (ν : Asg) : Prop where
  cf : ∀ i, i < n → ν (i + 1) = true → ν (disjVar n (i + 1)) = false
  dfd : ∀ i j, i < n → j < n → ν (attVar n (i + 1) (j + 1)) = true → ν (i + 1) = true →
    ν (disjVar n (j + 1)) = true
  cpl : ∀ i, i < n → ν (i + 1) = false →
    ∃ j, j < n ∧ ν (attVar n (i + 1) (j + 1)) = true ∧ ν (disjVar n (j + 1)) = false
  dj_in : ∀ i j, i < n → j < n → ν (attVar n (i + 1) (j + 1)) = true → ν (j + 1) = true →
    ν (disjVar n (i + 1)) = true
  dj_out : ∀ i, i < n → ν (disjVar n (i + 1)) = true →
    ∃ j, j < n ∧ ν (j + 1) = true ∧ ν (attVar n (i + 1) (j + 1)) = true

theorem clauseTrue_auxLits (ν : Asg) (l : Lit) (m N : Nat) :
    clauseTrue ν (l :: auxLits m N) = true ↔ litTrue ν l = true ∨ ∃ j, j < m ∧ ν (N + 1 + j) = true := by
  rw [clauseTrue_cons, Bool.or_eq_true]
  refine or_congr Iff.rfl ?_
  rw [clauseTrue_iff]
  constructor
  · rintro ⟨l, hl, ht⟩
    obtain ⟨j, hj, rfl⟩ := (mem_auxLits l m N).1 hl
    exact ⟨j, hj, ht⟩
  · rintro ⟨j, hj, ht⟩
    exact ⟨pl (N + 1 + j), (mem_auxLits _ m N).2 ⟨j, hj, rfl⟩, ht⟩

theorem passSpec_true {n N : Nat} {pre : Nat → Cnf} {head : Nat → Lit} {cell : Nat → Nat → Nat → Cnf}
    {ν : Asg} :
    (∀ c, PassSpec n N pre head cell c → clauseTrue ν c = true) ↔
      ∀ i, i < n → cnfTrue ν (pre (i + 1)) = true ∧
        (∀ j, j < n → cnfTrue ν (cell (i + 1) (j + 1) (N + i * n + 1 + j)) = true) ∧
        (litTrue ν (head (i + 1)) = true ∨ ∃ j, j < n ∧ ν (N + i * n + 1 + j) = true) := by
  constructor
  · intro h i hi
    refine ⟨(cnfTrue_iff _ _).2 fun c hc => h c ⟨i, hi, Or.inl hc⟩,
      fun j hj => (cnfTrue_iff _ _).2 fun c hc => h c ⟨i, hi, Or.inr (Or.inl ⟨j, hj, hc⟩)⟩,
      (clauseTrue_auxLits ν _ n _).1 (h _ ⟨i, hi, Or.inr (Or.inr rfl)⟩)⟩
  · rintro h c ⟨i, hi, hc | ⟨j, hj, hc⟩ | rfl⟩
    · exact (cnfTrue_iff _ _).1 (h i hi).1 c hc
    · exact (cnfTrue_iff _ _).1 ((h i hi).2.1 j hj) c hc
    · exact (clauseTrue_auxLits ν _ n _).2 (h i hi).2.2

theorem stCell_true (ν : Asg) (n x a u : Nat) :
    cnfTrue ν (stCell n x a u) = true ↔ ν u = (ν a && ν (attVar n x a)) ∧
      (ν (attVar n x a) = true → ν x = true → ν a = true → False) := by
  simp only [stCell, cnfTrue_cons, cnfTrue_nil, clauseTrue_cons, clauseTrue_nil, litTrue_pl, litTrue_nl]
  generalize ν u = bu
  generalize ν (attVar n x a) = bt
  generalize ν a = ba
  generalize ν x = bx
  revert bu bt ba bx
  decide

theorem coCell1_true (ν : Asg) (n x a u : Nat) :
    cnfTrue ν (coCell1 n x a u) = true ↔ ν u = (!ν (disjVar n a) && ν (attVar n x a)) ∧
      (ν (attVar n x a) = true → ν x = true → ν (disjVar n a) = true) := by
  simp only [coCell1, cnfTrue_cons, cnfTrue_nil, clauseTrue_cons, clauseTrue_nil, litTrue_pl, litTrue_nl]
  generalize ν u = bu
  generalize ν (attVar n x a) = bt
  generalize ν (disjVar n a) = bd
  generalize ν x = bx
  revert bu bt bd bx
  decide

theorem coCell2_true (ν : Asg) (n x a u : Nat) :
    cnfTrue ν (coCell2 n x a u) = true ↔ ν u = (ν a && ν (attVar n x a)) ∧
      (ν (attVar n x a) = true → ν a = true → ν (disjVar n x) = true) := by
  simp only [coCell2, cnfTrue_cons, cnfTrue_nil, clauseTrue_cons, clauseTrue_nil, litTrue_pl, litTrue_nl]
  generalize ν u = bu
  generalize ν (attVar n x a) = bt
  generalize ν (disjVar n x) = bd
  generalize ν a = ba
  revert bu bt bd ba
  decide

theorem vstable_of_model {n : Nat} {ν : Asg} (h : ∀ c, EncSpec .ST n c → clauseTrue ν c = true) :
    VStable n ν := by
  simp only [encSpec_st] at h
  have H := passSpec_true.1 h
  constructor
  · intro i j hi hj
    exact ((stCell_true ν n _ _ _).1 ((H i hi).2.1 j hj)).2
  · intro i hi hx
    obtain ⟨j, hj, hu⟩ := (H i hi).2.2.resolve_left (by rw [litTrue_pl, hx]; exact Bool.false_ne_true)
    rw [((stCell_true ν n _ _ _).1 ((H i hi).2.1 j hj)).1, Bool.and_eq_true] at hu
    exact ⟨j, hj, hu⟩

theorem vcomplete_of_model {n : Nat} {ν : Asg} (h : ∀ c, EncSpec .CO n c → clauseTrue ν c = true) :
    VComplete n ν := by
  simp only [encSpec_co] at h
  have H1 := passSpec_true.1 fun c hc => h c (Or.inl hc)
  have H2 := passSpec_true.1 fun c hc => h c (Or.inr hc)
  constructor
  · intro i hi hx
    have := (H1 i hi).1
    simpa [hx] using this
  · intro i j hi hj
    exact ((coCell1_true ν n _ _ _).1 ((H1 i hi).2.1 j hj)).2
  · intro i hi hx
    obtain ⟨j, hj, hu⟩ := (H1 i hi).2.2.resolve_left (by rw [litTrue_pl, hx]; exact Bool.false_ne_true)
    rw [((coCell1_true ν n _ _ _).1 ((H1 i hi).2.1 j hj)).1, Bool.and_eq_true, Bool.not_eq_true'] at hu
    exact ⟨j, hj, hu.2, hu.1⟩
  · intro i j hi hj
    exact ((coCell2_true ν n _ _ _).1 ((H2 i hi).2.1 j hj)).2
  · intro i hi hd
    obtain ⟨j, hj, hu⟩ := (H2 i hi).2.2.resolve_left (by rw [litTrue_nl, hd]; exact Bool.false_ne_true)
    rw [((coCell2_true ν n _ _ _).1 ((H2 i hi).2.1 j hj)).1, Bool.and_eq_true] at hu
    exact ⟨j, hj, hu⟩

/-- `ν` extended to the auxiliary variables `B + i * n + 1 + j` of a pass started at `n_vars() = B`,
the one of cell `(i, j)` getting the value `f i j` -/
def auxExt (n B : Nat) (f : Nat → Nat → Bool) (ν : Asg) : Asg := fun v =>
  if v ≤ B then ν v else f ((v - B - 1) / n) ((v - B - 1) % n)

theorem auxExt_low {n B : Nat} {f : Nat → Nat → Bool} {ν : Asg} {v : Nat} (h : v ≤ B) :
    auxExt n B f ν v = ν v := if_pos h

theorem auxExt_aux {n B : Nat} {f : Nat → Nat → Bool} {ν : Asg} (i : Nat) {j : Nat} (hj : j < n) :
    auxExt n B f ν (B + i * n + 1 + j) = f i j := by
  have ht : B + i * n + 1 + j - B - 1 = i * n + j := by omega
  unfold auxExt
  rw [if_neg (by omega), ht, (decode n i j hj).1, (decode n i j hj).2]

def extST (n : Nat) (ν : Asg) : Asg := fun v =>
  if v ≤ n * (1 + n) then ν v
  else
    let t := v - n * (1 + n) - 1
    ν (t % n + 1) && ν (attVar n (t / n + 1) (t % n + 1))

theorem extST_eq (n : Nat) (ν : Asg) :
    extST n ν = auxExt n (n * (1 + n)) (fun i j => ν (j + 1) && ν (attVar n (i + 1) (j + 1))) ν := rfl

theorem extST_low {n : Nat} {ν : Asg} {v : Nat} (h : v ≤ n * (1 + n)) : extST n ν v = ν v := by
  rw [extST_eq]; exact auxExt_low h

theorem model_of_vstable {n : Nat} {ν : Asg} (h : VStable n ν) :
    ∀ c, EncSpec .ST n c → clauseTrue (extST n ν) c = true := by
  simp only [encSpec_st]
  refine passSpec_true.2 fun i hi => ⟨rfl, fun j hj => (stCell_true _ n _ _ _).2 ?_, ?_⟩
  · rw [extST_low (arg_le hj), extST_low (arg_le hi), extST_low (attVar_bounds hi hj).2]
    exact ⟨extST_eq n ν ▸ auxExt_aux i hj, h.cf i j hi hj⟩
  · rw [litTrue_pl, extST_low (arg_le hi)]
    cases hx : ν (i + 1) with
    | true => exact Or.inl rfl
    | false =>
      obtain ⟨j, hj, ha, hat⟩ := h.att i hi hx
      exact Or.inr ⟨j, hj, (extST_eq n ν ▸ auxExt_aux i hj).trans (by rw [ha, hat]; rfl)⟩

def extCO (n : Nat) (ν : Asg) : Asg := fun v =>
  if v ≤ n * (2 + n) then ν v
  else if v ≤ n * (2 + n) + n * n then
    let t := v - n * (2 + n) - 1
    !ν (disjVar n (t % n + 1)) && ν (attVar n (t / n + 1) (t % n + 1))
  else
    let t := v - (n * (2 + n) + n * n) - 1
    ν (t % n + 1) && ν (attVar n (t / n + 1) (t % n + 1))

theorem extCO_eq (n : Nat) (ν : Asg) : extCO n ν =
    auxExt n (n * (2 + n) + n * n) (fun i j => ν (j + 1) && ν (attVar n (i + 1) (j + 1)))
      (auxExt n (n * (2 + n)) (fun i j => !ν (disjVar n (j + 1)) && ν (attVar n (i + 1) (j + 1))) ν) := by
  funext v
  unfold extCO auxExt
  by_cases h1 : v ≤ n * (2 + n)
  · rw [if_pos h1, if_pos (Nat.le_trans h1 (Nat.le_add_right _ _)), if_pos h1]
  · by_cases h2 : v ≤ n * (2 + n) + n * n
    · rw [if_neg h1, if_pos h2, if_pos h2, if_neg h1]
    · rw [if_neg h1, if_neg h2, if_neg h2]

theorem extCO_low {n : Nat} {ν : Asg} {v : Nat} (h : v ≤ n * (2 + n)) : extCO n ν v = ν v := by
  rw [extCO_eq]
  exact (auxExt_low (Nat.le_trans h (Nat.le_add_right _ _))).trans (auxExt_low h)

theorem extCO_aux1 {n : Nat} {ν : Asg} {i j : Nat} (hi : i < n) (hj : j < n) :
    extCO n ν (n * (2 + n) + i * n + 1 + j) =
      (!ν (disjVar n (j + 1)) && ν (attVar n (i + 1) (j + 1))) := by
  rw [extCO_eq]
  exact (auxExt_low (by have := cell_lt hi hj; omega)).trans (auxExt_aux i hj)

theorem extCO_aux2 {n : Nat} {ν : Asg} {i j : Nat} (hj : j < n) :
    extCO n ν (n * (2 + n) + n * n + i * n + 1 + j) = (ν (j + 1) && ν (attVar n (i + 1) (j + 1))) := by
  rw [extCO_eq]
  exact auxExt_aux i hj

theorem model_of_vcomplete {n : Nat} {ν : Asg} (h : VComplete n ν) :
    ∀ c, EncSpec .CO n c → clauseTrue (extCO n ν) c = true := by
  have harg : ∀ {i}, i < n → extCO n ν (i + 1) = ν (i + 1) := fun hi =>
    extCO_low (Nat.le_trans (arg_le hi) (mul_one_add_le n))
  have hdisj : ∀ {i}, i < n → extCO n ν (disjVar n (i + 1)) = ν (disjVar n (i + 1)) := fun hi =>
    extCO_low (disjVar_bounds hi).2
  have hatt : ∀ {i j}, i < n → j < n →
      extCO n ν (attVar n (i + 1) (j + 1)) = ν (attVar n (i + 1) (j + 1)) := fun hi hj =>
    extCO_low (Nat.le_trans (attVar_bounds hi hj).2 (mul_one_add_le n))
  simp only [encSpec_co]
  rintro c (hc | hc)
  · revert c
    refine passSpec_true.2 fun i hi => ⟨?_, fun j hj => (coCell1_true _ n _ _ _).2 ?_, ?_⟩
    · simp only [cnfTrue_cons, cnfTrue_nil, clauseTrue_cons, clauseTrue_nil,
        litTrue_nl, harg hi, hdisj hi]
      cases hx : ν (i + 1) with
      | false => rfl
      | true => rw [h.cf i hi hx]; rfl
    · rw [extCO_aux1 hi hj, hdisj hj, hatt hi hj, harg hi]
      exact ⟨rfl, h.dfd i j hi hj⟩
    · rw [litTrue_pl, harg hi]
      cases hx : ν (i + 1) with
      | true => exact Or.inl rfl
      | false =>
        obtain ⟨j, hj, hat, hd⟩ := h.cpl i hi hx
        exact Or.inr ⟨j, hj, (extCO_aux1 hi hj).trans (by rw [hd, hat]; rfl)⟩
  · revert c
    refine passSpec_true.2 fun i hi => ⟨rfl, fun j hj => (coCell2_true _ n _ _ _).2 ?_, ?_⟩
    · rw [harg hj, hatt hi hj, hdisj hi]
      exact ⟨extCO_aux2 hj, h.dj_in i j hi hj⟩
    · rw [litTrue_nl, hdisj hi]
      cases hd : ν (disjVar n (i + 1)) with
      | false => exact Or.inl rfl
      | true =>
        obtain ⟨j, hj, ha, hat⟩ := h.dj_out i hi hd
        exact Or.inr ⟨j, hj, (extCO_aux2 hj).trans (by rw [ha, hat]; rfl)⟩

end Crusta.DynAtt
