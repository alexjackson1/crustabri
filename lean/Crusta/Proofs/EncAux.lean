import Crusta.Proofs.EncCommon

/-!
# aux_var encoders: the CNF has exactly the intended sets as models

The models are the assignments whose argument variables give an intended set and whose auxiliary
variables say "attacked by the set" (`PCons`), range variables "in the range" (`RCons`); `asgOf T` is
that assignment for `T`, well defined by the layout lemmas (the three families of variables are
injective and disjoint).
-/

namespace Crusta
namespace Aux

def S (af : AF) (ν : Asg) : ASet := setOfAsg af.n x ν

def PCons (af : AF) (ν : Asg) : Prop := ∀ a, a < af.n → (ν (p a) = true ↔ AttackedBy af (S af ν) a)

def RCons (af : AF) (ν : Asg) : Prop := ∀ a, a < af.n → (ν (r af.n a) = true ↔ InRange af (S af ν) a)

theorem S_lt {af : AF} {ν : Asg} {a : Nat} (h : a < af.n) : S af ν a = ν (x a) := setOfAsg_lt h

theorem disj_iff (af : AF) (ν : Asg) (a : Nat) :
    cnfTrue ν (disj af a) = true ↔ DisjDef af x ν a (p a) :=
  disjGadget_iff ν (x a) (p a) (af.attackers a) x

theorem range_iff (ν : Asg) (n a : Nat) :
    cnfTrue ν (range n a) = true ↔ (ν (r n a) = true ↔ (ν (x a) = true ∨ ν (p a) = true)) :=
  rangeGadget_iff ν (x a) (p a) (r n a)

section
variable {af : AF} (hwf : af.WF) (ν : Asg)
include hwf

theorem disjDef_iff_pcons (hcf : ∀ a, a < af.n → LocalCF af x ν a) :
    (∀ a, a < af.n → DisjDef af x ν a (p a)) ↔ PCons af ν := by
  simp only [PCons, S, attackedBy_setOfAsg hwf]
  exact ⟨fun h a ha => (h a ha).2, fun h a ha =>
    ⟨fun hp => Bool.eq_false_iff.2 fun hxa => hcf a ha hxa ((h a ha).1 hp), h a ha⟩⟩

/-- an aux_var encoding: per argument a clause group `g a`, read as `L a` once the disjunction
variables are defined, followed by the disjunction gadget -/
theorem enc_iff (g : Nat → Cnf) (L : Nat → Prop) (hL : ∀ a, L a → LocalCF af x ν a)
    (hg : (∀ a, a < af.n → DisjDef af x ν a (p a)) →
      ∀ a, a < af.n → (cnfTrue ν (g a) = true ↔ L a)) :
    cnfTrue ν ((List.range af.n).flatMap (fun a => g a ++ disj af a)) = true ↔
      (PCons af ν ∧ ∀ a, a < af.n → L a) := by
  simp only [cnfTrue_flatMap_range, cnfTrue_append_iff, disj_iff, forall_lt_and]
  constructor
  · rintro ⟨h1, hD⟩
    have hLa := fun a ha => (hg hD a ha).1 (h1 a ha)
    exact ⟨(disjDef_iff_pcons hwf ν fun a ha => hL a (hLa a ha)).1 hD, hLa⟩
  · rintro ⟨hP, hLa⟩
    have hD := (disjDef_iff_pcons hwf ν fun a ha => hL a (hLa a ha)).2 hP
    exact ⟨fun a ha => (hg hD a ha).2 (hLa a ha), hD⟩
end

theorem withRange_iff {af : AF} (ν : Asg) (h : Nat → Cnf) {B : Prop}
    (hh : cnfTrue ν ((List.range af.n).flatMap h) = true ↔ (PCons af ν ∧ B)) :
    cnfTrue ν ((List.range af.n).flatMap (fun a => h a ++ range af.n a)) = true ↔
      (PCons af ν ∧ B ∧ RCons af ν) := by
  rw [cnfTrue_flatMap_range] at hh ⊢
  simp only [cnfTrue_append_iff, forall_lt_and, hh, range_iff, and_assoc]
  refine and_congr_right fun hP => and_congr_right fun _ => forall₂_congr fun a ha => ?_
  rw [InRange, S_lt ha, hP a ha]

theorem cf_iff (af : AF) (hwf : af.WF) (ν : Asg) :
    cnfTrue ν (cf af) = true ↔ ConflictFree af (S af ν) :=
  cfEnc_iff x ν hwf

theorem adm_iff (af : AF) (hwf : af.WF) (ν : Asg) :
    cnfTrue ν (adm af) = true ↔ (PCons af ν ∧ Admissible af (S af ν)) := by
  rw [S, adm_iff_local hwf]
  exact enc_iff hwf ν (admArg af) _ (fun _ h => h.1)
    fun hD a _ => admClauses_iff fun b hb => hD b (AF.attackers_lt hwf hb)

theorem co_iff (af : AF) (hwf : af.WF) (ν : Asg) :
    cnfTrue ν (co af) = true ↔ (PCons af ν ∧ Complete af (S af ν)) := by
  rw [S, co_iff_local hwf]
  exact enc_iff hwf ν (coArg af) _ (fun _ h => h.1)
    fun hD a _ => auxClauses_iff fun b hb => hD b (AF.attackers_lt hwf hb)

theorem cfRange_iff (af : AF) (hwf : af.WF) (ν : Asg) :
    cnfTrue ν (cfRange af) = true ↔ (PCons af ν ∧ ConflictFree af (S af ν) ∧ RCons af ν) := by
  refine withRange_iff ν (fun a => cfArg af a ++ disj af a) ?_
  rw [S, cf_iff_local hwf]
  exact enc_iff hwf ν (cfArg af) _ (fun _ h => h) fun _ a _ => cfClauses_iff af x ν a

theorem admRange_iff (af : AF) (hwf : af.WF) (ν : Asg) :
    cnfTrue ν (admRange af) = true ↔ (PCons af ν ∧ Admissible af (S af ν) ∧ RCons af ν) :=
  withRange_iff ν (fun a => admArg af a ++ disj af a) (adm_iff af hwf ν)

theorem coRange_iff (af : AF) (hwf : af.WF) (ν : Asg) :
    cnfTrue ν (coRange af) = true ↔ (PCons af ν ∧ Complete af (S af ν) ∧ RCons af ν) :=
  withRange_iff ν (fun a => coArg af a ++ disj af a) (co_iff af hwf ν)

theorem x_inj {a b : Nat} (h : x a = x b) : a = b :=
  Nat.succ.inj (Nat.eq_of_mul_eq_mul_right (by decide) h)

theorem x_le_reserve {n a : Nat} (ha : a < n) : 1 ≤ x a ∧ x a ≤ n * 2 :=
  ⟨Nat.mul_pos (Nat.succ_pos a) (by decide), Nat.mul_le_mul_right 2 ha⟩

theorem p_succ (a : Nat) : p a + 1 = x a := Nat.sub_add_cancel (x_le_reserve (Nat.lt_succ_self a)).1

theorem p_inj {a b : Nat} (h : p a = p b) : a = b := x_inj (by rw [← p_succ, ← p_succ, h])

theorem x_ne_p (a b : Nat) : x a ≠ p b := by unfold x p; omega

theorem x_ne_r {n : Nat} {a : Nat} (ha : a < n) (b : Nat) : x a ≠ r n b :=
  Nat.ne_of_lt (Nat.lt_of_le_of_lt (x_le_reserve ha).2 (Nat.lt_succ_of_le (Nat.le_add_right _ _)))

theorem p_ne_r {n : Nat} {a : Nat} (ha : a < n) (b : Nat) : p a ≠ r n b :=
  Nat.ne_of_lt (Nat.lt_of_le_of_lt (Nat.le_trans (Nat.sub_le _ _) (x_le_reserve ha).2)
    (Nat.lt_succ_of_le (Nat.le_add_right _ _)))

theorem r_inj {n a b : Nat} (h : r n a = r n b) : a = b := Nat.add_left_cancel (Nat.succ.inj h)

theorem r_le_reserve {n a : Nat} (ha : a < n) : n * 2 < r n a ∧ r n a ≤ n * 3 :=
  ⟨Nat.lt_succ_of_le (Nat.le_add_right _ _), Nat.mul_succ n 2 ▸ Nat.add_le_add_left (Nat.succ_le_of_lt ha) _⟩

theorem x_of_decode {var a : Nat} (hv : var ≠ 0) (h2 : var % 2 = 0) (h3 : var / 2 - 1 = a) :
    var = x a := by
  have h := Nat.div_add_mod var 2
  rw [h2, Nat.add_zero] at h
  cases hk : var / 2 with
  | zero => rw [hk] at h; exact absurd h.symm hv
  | succ k => rw [hk] at h h3; rw [← h, ← h3, x, Nat.mul_comm]; rfl

open Classical in
noncomputable def asgOf (af : AF) (T : ASet) : Asg := fun v =>
  decide (∃ a, a < af.n ∧ (v = x a ∧ T a = true ∨ v = p a ∧ AttackedBy af T a ∨
    v = r af.n a ∧ InRange af T a))

theorem asgOf_x (af : AF) (T : ASet) {a : Nat} (ha : a < af.n) :
    asgOf af T (x a) = true ↔ T a = true := by
  simp only [asgOf, decide_eq_true_eq, x_ne_p, x_ne_r ha, false_and, or_false]
  exact ⟨fun ⟨b, _, e, h⟩ => x_inj e ▸ h, fun h => ⟨a, ha, rfl, h⟩⟩

theorem asgOf_p (af : AF) (T : ASet) {a : Nat} (ha : a < af.n) :
    asgOf af T (p a) = true ↔ AttackedBy af T a := by
  simp only [asgOf, decide_eq_true_eq, (x_ne_p _ a).symm, p_ne_r ha, false_and, or_false, false_or]
  exact ⟨fun ⟨b, _, e, h⟩ => p_inj e ▸ h, fun h => ⟨a, ha, rfl, h⟩⟩

theorem asgOf_r (af : AF) (T : ASet) {a : Nat} (ha : a < af.n) :
    asgOf af T (r af.n a) = true ↔ InRange af T a := by
  simp only [asgOf, decide_eq_true_eq]
  constructor
  · rintro ⟨b, hb, ⟨e, _⟩ | ⟨e, _⟩ | ⟨e, h⟩⟩
    · exact absurd e.symm (x_ne_r hb a)
    · exact absurd e.symm (p_ne_r hb a)
    · exact r_inj e ▸ h
  · exact fun h => ⟨a, ha, Or.inr (Or.inr ⟨rfl, h⟩)⟩

theorem S_asgOf (af : AF) (T : ASet) (hT : Sub af T) : S af (asgOf af T) = T :=
  setOfAsg_eq hT fun _ ha => Bool.eq_iff_iff.2 (asgOf_x af T ha)

theorem asgOf_cons (af : AF) (T : ASet) (hT : Sub af T) :
    S af (asgOf af T) = T ∧ PCons af (asgOf af T) ∧ RCons af (asgOf af T) := by
  refine ⟨S_asgOf af T hT, ?_, ?_⟩
  · intro a ha; rw [S_asgOf af T hT]; exact asgOf_p af T ha
  · intro a ha; rw [S_asgOf af T hT]; exact asgOf_r af T ha

theorem cf_surj (af : AF) (hwf : af.WF) (T : ASet) (hT : ConflictFree af T) :
    ∃ ν, cnfTrue ν (cf af) = true ∧ S af ν = T :=
  exists_model (ConflictFree af) (cf_iff af hwf _) (S_asgOf af T hT.1) hT

theorem adm_surj (af : AF) (hwf : af.WF) (T : ASet) (hT : Admissible af T) :
    ∃ ν, cnfTrue ν (adm af) = true ∧ S af ν = T :=
  have h := asgOf_cons af T hT.1.1
  -- the property handed to `exists_model` speaks of the assignment itself, to fit the `↔` of `adm_iff`
  exists_model (fun S => PCons af (asgOf af T) ∧ Admissible af S) (adm_iff af hwf _) h.1 ⟨h.2.1, hT⟩

theorem co_surj (af : AF) (hwf : af.WF) (T : ASet) (hT : Complete af T) :
    ∃ ν, cnfTrue ν (co af) = true ∧ S af ν = T :=
  have h := asgOf_cons af T hT.1.1.1
  exists_model (fun S => PCons af (asgOf af T) ∧ Complete af S) (co_iff af hwf _) h.1 ⟨h.2.1, hT⟩

end Aux
end Crusta
