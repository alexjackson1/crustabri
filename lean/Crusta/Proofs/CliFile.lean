import Crusta.Proofs.CliCompose
import Crusta.Proofs.StoreIccma
import Crusta.Proofs.ReaderWF

/-!
# From the bytes of an instance file to the answer of the command line

Composition of the ICCMA'23 reader, the store it builds and `cli_answer_valid_read`.
-/

namespace Crusta.Cli
open Crusta Crusta.IO

theorem iccmaArgOfStr_lt (n : Nat) (arg : Str) (a : Nat) (h : iccmaArgOfStr n arg = some a) : a < n := by
  unfold iccmaArgOfStr at h
  split at h
  · rename_i k _
    split at h
    · rename_i hk
      cases h
      simp only [Bool.and_eq_true, decide_eq_true_eq] at hk
      omega
    · cases h
  · cases h

/-- **from the bytes of an instance file to the answer** (ICCMA'23 format; told in full at `C05.cli_on_readable_file`) -/
theorem cli_on_iccma_file (bs : List UInt8) (fw : IccmaFw) (hfile : readIccma bs = .ok fw)
    (s : Str) (t : Task) (σ : Sem) (hread : readProblem s = some (t, σ))
    (enc : Option String) (cfg : Cfg)
    (henc : ∀ k, dispatchEncoder σ enc (decide (s = s_SEPR)) = some k → cfg.enc = k)
    (cert : Bool) (argStr : Str) (a : Nat) (harg : t ≠ .SE → iccmaArgOfStr fw.n argStr = some a)
    (w : World) (hb : w.Bounded)
    (hfuel : cfg.fuel ≥ fuelFor (1 + (Store.ofIccma fw.n fw.atts).view.maxId.getD 0)) :
    (∀ x, (Store.ofIccma fw.n fw.atts).g.live x = true ↔ x < fw.n) ∧
    (∀ x y, (Store.ofIccma fw.n fw.atts).g.att x y ↔ (x, y) ∈ fw.atts) ∧
    ∃ p, entryProg (dispatchSolver t σ) cfg (Store.ofIccma fw.n fw.atts).view (entryOf t cert [a]) = some p ∧
      wp False p w (fun ans _ => ProblemOK t σ (Store.ofIccma fw.n fw.atts).g (entryOf t cert [a]) ans) := by
  have hwf := readIccma_wfa bs fw hfile
  have hg := Store.ofIccma_g fw.n fw.atts hwf
  exact ⟨hg.1, hg.2, cli_answer_valid_read s t σ hread enc cfg henc _ _ (Store.ofIccma_view_ok fw.n fw.atts hwf) cert [a]
    (entryOf_args_live fun ht => (hg.1 a).2 (iccmaArgOfStr_lt _ _ _ (harg ht))) w hb hfuel⟩

end Crusta.Cli
