import Crusta.Proofs.EncCommon

/-!
# exp encoders and the default stable encoder

Per argument the complete encoder emits one of three clause shapes (`coArg`), each read back as a
local condition on the set (`coArg_iff`).  With range variables the clauses only make them sound
(`RSound`: `S a → r_a` and `r_a → a` in the range); the canonical assignment `asgOf` of a set has
them exact (`asgOf_cons`).  The stable encoder shares the layout: `Stb.x`, `Stb.S` are `Exp.x`,
`Exp.S` by unfolding, so `Exp.S_asgOf` and `Exp.decode_eq_S` serve it as they stand.
-/

namespace Crusta
namespace Exp

def S (af : AF) (ν : Asg) : ASet := setOfAsg af.n x ν

theorem S_lt {af : AF} {ν : Asg} {a : Nat} (h : a < af.n) : S af ν a = ν (x a) := setOfAsg_lt h

theorem cf_iff (af : AF) (hwf : af.WF) (ν : Asg) :
    cnfTrue ν (cf af) = true ↔ ConflictFree af (S af ν) :=
  cfEnc_iff x ν hwf

theorem defenders_iff (af : AF) (ν : Asg) (a : Nat) :
    (∀ D ∈ defenders af a, clauseTrue ν D = true) ↔ ∀ b ∈ af.attackers a, AttIn af x ν b := by
  simp only [defenders, List.forall_mem_map, clauseTrue_map, litTrue_pl, AttIn]

theorem nontrivial_iff (af : AF) (ν : Asg) (a : Nat) :
    cnfTrue ν (nontrivial af a (defenders af a)) = true ↔ Local3 af x ν a := by
  rw [nontrivial, cnfTrue_append_iff, cnfTrue_append_iff, and_assoc, cfArg,
    cfClauses_iff, cnfTrue_map_nl_cons, cnfTrue_map, defenders_iff]
  refine and_congr_right fun _ => and_congr_right fun _ => ?_
  -- a tuple of true literals, one from each defender set, exists iff each set has a true literal
  simp only [clauseTrue_pl_cons_map_neg, LocalCO, ← defenders_iff]
  simp only [clauseTrue_iff, ← exists_cartProd_all]
  exact ⟨fun h ⟨t, ht, hl⟩ => h t ht hl, fun h t ht hl => h ⟨t, ht, hl⟩⟩

theorem coArg_iff (af : AF) (ν : Asg) (a : Nat) :
    cnfTrue ν (coArg af a) = true ↔ Local3 af x ν a := by
  unfold coArg
  by_cases h1 : (defenders af a).isEmpty
  · rw [if_pos h1, local3_of_unattacked (List.map_eq_nil_iff.1 (List.isEmpty_iff.1 h1))]
    simp only [cnfTrue_cons, cnfTrue_nil, Bool.and_true, clauseTrue_cons, clauseTrue_nil, litTrue_pl,
      Bool.or_false]
  · by_cases h2 : (defenders af a).any (fun d => d.isEmpty)
    · rw [if_neg h1, if_pos h2]
      rw [defenders, List.any_map, List.any_eq_true] at h2
      obtain ⟨b, hb, he⟩ := h2
      rw [local3_of_undefended hb (List.map_eq_nil_iff.1 (List.isEmpty_iff.1 he))]
      simp only [cnfTrue_cons, cnfTrue_nil, Bool.and_true, clauseTrue_cons, clauseTrue_nil, litTrue_nl,
        Bool.or_false, Bool.not_eq_true']
    · rw [if_neg h1, if_neg h2]
      exact nontrivial_iff af ν a

theorem co_iff (af : AF) (hwf : af.WF) (ν : Asg) :
    cnfTrue ν (co af) = true ↔ Complete af (S af ν) := by
  rw [S, co_iff_local hwf, co, cnfTrue_flatMap_range]
  exact forall₂_congr fun a _ => coArg_iff af ν a

def RSound (af : AF) (ν : Asg) : Prop :=
  ∀ a, a < af.n → (S af ν a = true → ν (r af.n a) = true) ∧ (ν (r af.n a) = true → InRange af (S af ν) a)

/-- `RSound` at one argument, on the variables -/
def RS (af : AF) (ν : Asg) (a : Nat) : Prop :=
  (ν (x a) = true → ν (r af.n a) = true) ∧ (ν (r af.n a) = true → ν (x a) = true ∨ AttIn af x ν a)

def RExact (af : AF) (ν : Asg) (a : Nat) : Prop :=
  ν (r af.n a) = true ↔ (ν (x a) = true ∨ AttIn af x ν a)

theorem RExact.rs {af : AF} {ν : Asg} {a : Nat} (h : RExact af ν a) : RS af ν a :=
  ⟨fun hx => h.2 (Or.inl hx), h.1⟩

theorem rexact_iff {af : AF} (hwf : af.WF) {ν : Asg} {T : ASet} (hS : S af ν = T) {a : Nat}
    (ha : a < af.n) : RExact af ν a ↔ (ν (r af.n a) = true ↔ InRange af T a) := by
  rw [RExact, attIn_iff hwf x ν hS, ← S_lt (ν := ν) ha, hS, InRange]

theorem range_iff (af : AF) (ν : Asg) (a : Nat) : cnfTrue ν (range af a) = true ↔ RS af ν a := by
  rw [range, cnfTrue_cons, cnfTrue_cons, cnfTrue_nil, Bool.and_true, Bool.and_eq_true, clauseTrue_nl_cons,
    clauseTrue_nl_cons]
  simp only [clauseTrue_cons, clauseTrue_nil, litTrue_pl, Bool.or_false, Bool.or_eq_true, clauseTrue_map]
  exact Iff.rfl

theorem rsound_iff {af : AF} (hwf : af.WF) (ν : Asg) : RSound af ν ↔ ∀ a, a < af.n → RS af ν a :=
  forall₂_congr fun a ha => by rw [InRange, S, attackedBy_setOfAsg hwf, setOfAsg_lt ha, RS]

theorem withRange_iff {af : AF} (hwf : af.WF) (ν : Asg) (g : Nat → Cnf) {B : Prop}
    (hg : cnfTrue ν ((List.range af.n).flatMap g) = true ↔ B) :
    cnfTrue ν ((List.range af.n).flatMap (fun a => g a ++ range af a)) = true ↔ (B ∧ RSound af ν) := by
  rw [cnfTrue_flatMap_range] at hg ⊢
  simp only [cnfTrue_append_iff, forall_lt_and, hg, range_iff, rsound_iff hwf]

theorem coRange_iff (af : AF) (hwf : af.WF) (ν : Asg) :
    cnfTrue ν (coRange af) = true ↔ (Complete af (S af ν) ∧ RSound af ν) :=
  withRange_iff hwf ν (coArg af) (co_iff af hwf ν)

theorem cfRange_iff (af : AF) (hwf : af.WF) (ν : Asg) :
    cnfTrue ν (cfRange af) = true ↔ (ConflictFree af (S af ν) ∧ RSound af ν) :=
  withRange_iff hwf ν (cfArg af) (cf_iff af hwf ν)

open Classical in
noncomputable def asgOf (af : AF) (T : ASet) : Asg := fun v =>
  if v > af.n then decide (InRange af T (v - af.n - 1)) else T (v - 1)

theorem asgOf_x (af : AF) (T : ASet) {a : Nat} (ha : a < af.n) : asgOf af T (x a) = T a :=
  if_neg (Nat.not_lt.2 ha)

open Classical in
theorem asgOf_r (af : AF) (T : ASet) (a : Nat) :
    asgOf af T (r af.n a) = true ↔ InRange af T a := by
  have h1 : r af.n a > af.n := Nat.lt_succ_of_le (Nat.le_add_right _ _)
  rw [asgOf, if_pos h1, decide_eq_true_eq, r, Nat.add_assoc, Nat.add_sub_cancel_left, Nat.add_sub_cancel]

theorem S_asgOf (af : AF) (T : ASet) (hT : Sub af T) : S af (asgOf af T) = T :=
  setOfAsg_eq hT fun _ ha => asgOf_x af T ha

theorem asgOf_cons (af : AF) (T : ASet) (hT : Sub af T) :
    S af (asgOf af T) = T ∧ RSound af (asgOf af T) ∧
      ∀ a, a < af.n → (asgOf af T (r af.n a) = true ↔ InRange af T a) := by
  refine ⟨S_asgOf af T hT, ?_, fun a _ => asgOf_r af T a⟩
  intro a _
  rw [S_asgOf af T hT]
  exact ⟨fun h => (asgOf_r af T a).2 (Or.inl h), (asgOf_r af T a).1⟩

theorem cf_surj (af : AF) (hwf : af.WF) (T : ASet) (hT : ConflictFree af T) :
    ∃ ν, cnfTrue ν (cf af) = true ∧ S af ν = T :=
  exists_model (ConflictFree af) (cf_iff af hwf _) (S_asgOf af T hT.1) hT

theorem co_surj (af : AF) (hwf : af.WF) (T : ASet) (hT : Complete af T) :
    ∃ ν, cnfTrue ν (co af) = true ∧ S af ν = T :=
  exists_model (Complete af) (co_iff af hwf _) (S_asgOf af T hT.1.1.1) hT

theorem x_inj {a b : Nat} (h : x a = x b) : a = b := Nat.succ.inj h
theorem x_ne_r {n a : Nat} (ha : a < n) (b : Nat) : x a ≠ r n b :=
  Nat.ne_of_lt (Nat.lt_succ_of_le (Nat.le_trans ha (Nat.le_add_right _ _)))
theorem r_inj {n a b : Nat} (h : r n a = r n b) : a = b := Nat.add_left_cancel (Nat.succ.inj h)
theorem x_le_reserve {n a : Nat} (ha : a < n) : 1 ≤ x a ∧ x a ≤ n := ⟨Nat.succ_pos a, ha⟩
theorem r_le_reserve {n a : Nat} (ha : a < n) : r n a ≤ n * 2 :=
  Nat.mul_two n ▸ Nat.add_le_add_left (Nat.succ_le_of_lt ha) n

end Exp

namespace Stb

def S (af : AF) (ν : Asg) : ASet := setOfAsg af.n x ν

theorem argCl_iff (af : AF) (ν : Asg) (a : Nat) :
    cnfTrue ν (argCl af a) = true ↔ (LocalCF af x ν a ∧ LocalST af x ν a) := by
  rw [argCl, cnfTrue_append_iff, cnfTrue_map]
  refine and_congr ?_ ?_
  · -- the clause for a self-attack is the general one with its two literals identified
    have : ∀ b, clauseTrue ν (if b == a then [nl (x a)] else [nl (x a), nl (x b)]) = true ↔
        (ν (x a) = true → ν (x b) = false) := by
      intro b
      by_cases e : b = a
      · rw [if_pos (beq_iff_eq.2 e), e, clauseTrue_nl_cons]
        exact ⟨fun h hx => absurd (h hx) Bool.false_ne_true,
          fun h hx => absurd hx (Bool.eq_false_iff.1 (h hx))⟩
      · rw [if_neg (fun h => e (beq_iff_eq.1 h)), clauseTrue_nl_cons]
        simp only [clauseTrue_cons, clauseTrue_nil, litTrue_nl, Bool.or_false, Bool.not_eq_true']
    simp only [this, LocalCF, AttIn, not_exists, not_and, Bool.not_eq_true]
    exact ⟨fun h hx b hb => h b hb hx, fun h b hb hx => h hx b hb⟩
  · simp only [cnfTrue_cons, cnfTrue_nil, Bool.and_true, clauseTrue_cons, litTrue_pl, Bool.or_eq_true,
      clauseTrue_map, List.mem_filter, LocalST, AttIn]
    constructor
    · rintro (h | ⟨b, ⟨hb, _⟩, hxb⟩) hx
      · rw [hx] at h; cases h
      · exact ⟨b, hb, hxb⟩
    · intro h
      cases hx : ν (x a)
      · obtain ⟨b, hb, hxb⟩ := h hx
        have hne : b ≠ a := fun e => by rw [e, hx] at hxb; cases hxb
        exact Or.inr ⟨b, ⟨hb, by rw [Bool.not_eq_true', beq_eq_false_iff_ne]; exact hne⟩, hxb⟩
      · exact Or.inl rfl

theorem enc_iff (af : AF) (hwf : af.WF) (ν : Asg) :
    cnfTrue ν (enc af) = true ↔ Stable af (S af ν) := by
  rw [S, st_iff_local hwf, enc, cnfTrue_flatMap_range]
  exact forall₂_congr fun a _ => argCl_iff af ν a

theorem enc_surj (af : AF) (hwf : af.WF) (T : ASet) (hT : Stable af T) :
    ∃ ν, cnfTrue ν (enc af) = true ∧ S af ν = T :=
  exists_model (Stable af) (enc_iff af hwf _) (Exp.S_asgOf af T hT.1.1) hT

end Stb
end Crusta
