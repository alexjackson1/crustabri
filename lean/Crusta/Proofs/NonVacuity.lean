import Crusta.Proofs.RunCheck
import Crusta.Props.C01
import Crusta.Props.C02
import Crusta.Props.C03
import Crusta.Props.C04
import Crusta.Props.C15
import Crusta.Props.C19

/-!
# Non-vacuity witnesses

The end-to-end theorems of `Crusta/Props` take many hypotheses (`CfgOK`, `FwView.Ok`, `entryProg … =
some p`, `World.Bounded`, `RunSound`, `interp … = (.done …, w')`, …).  This file exhibits concrete,
non-trivial instances on which **all** of them are proved to hold jointly; the `_concl` theorems
apply a property theorem to such an instance (`static_hyps_PR_se` and `c06_hyps` have none: they
only exhibit the hypotheses; see there).  The static instances also carry `cfg.fuel ≥ fuelFor …`: it
is the extra hypothesis of `static_entry_total` / `C18.every_query_terminates` (no panic, the fuel is
not exhausted), which are not applied here; the `_concl` theorems drop it.

The runs are checked by evaluation (`RunCheck.lean`).  The witnesses for C19 and C15 are about no run of a
solver program: their hypotheses are evaluated directly.
-/

namespace Crusta.NonVacuity
open Crusta

/- `RunSound` is only met applied to concrete runs here.  Elaborating a term against such an expected
type makes Lean look for implicit binders in it, that is, evaluate `RunSound` (on an `unsat` reply it
does unfold to a `∀`): sealed, it is left to the kernel, which evaluates `runSoundB`.  A `seal` ends with
its file (and `runSoundB_sound` in `RunCheck.lean` needs `RunSound` open), so it stands in each file that
states `RunSound` of a concrete program. -/
seal RunSound

/-- a 2-cycle with a tail: complete extensions ∅, {0,2}, {1}; preferred = stable = {0,2}, {1} -/
def afA : AF := ⟨3, [(0, 1), (1, 0), (1, 2)]⟩

/-- `afA` plus a self-attacking isolated argument: no stable extension -/
def afB : AF := ⟨4, [(0, 1), (1, 0), (1, 2), (3, 3)]⟩

theorem afA_wf : afA.WF := by unfold AF.WF; decide
theorem afB_wf : afB.WF := by unfold AF.WF; decide

theorem cfgA_CO : CfgOK .CO cfgA := base_complete_of .auxCO (Or.inl rfl)
theorem cfgA_PR : CfgOK .PR cfgA := base_complete_of .auxCO (Or.inl rfl)

theorem cfgA_fuel : cfgA.fuel ≥ fuelFor (1 + afA.view.maxId.getD 0) := by decide

/-! Complete semantics, credulous query with certificate, one SAT reply: the hypotheses of
`C02.credulous_status_exact`, `C04.certificates_witness` (DC half) and `static_answers_conform`; the first
two are applied in `static_concl_CO_dc`. -/

def pCO : Prog Ans := certOnly true (coDCcert cfgA afA.view [0])

theorem static_hyps_CO_dc :
    ∃ (cfg : Cfg) (p : Prog Ans) (rs : List Reply) (ans : Ans) (w' : World),
      cfg.enc = .auxCO ∧
      CfgOK .CO cfg ∧
      afA.view.Ok afA.g ∧
      (∀ a ∈ [0], afA.g.live a = true) ∧
      entryProg .CO cfg afA.view (.dc true [0]) = some p ∧
      ({} : World).Bounded ∧
      cfg.fuel ≥ fuelFor (1 + afA.view.maxId.getD 0) ∧
      rs = [.sat mCO] ∧
      RunSound p rs {} ∧
      interp p rs {} = (.done ans, w') ∧
      ans = .acc ⟨true, some [0, 2]⟩ true ∧ w'.calls = 1 := by
  have h : RunsTo pCO [.sat mCO] {} (.acc ⟨true, some [0, 2]⟩ true) 1 := by decide +kernel
  exact ⟨cfgA, pCO, _, _, _, rfl, cfgA_CO, AF.view_ok afA afA_wf, by decide, rfl, Bounded_empty, cfgA_fuel, rfl,
    h.sound, h.eq, rfl, h.calls⟩

theorem static_concl_CO_dc :
    (∃ S, Sem.CO.GExt afA.g S ∧ HitsL [0] S) ∧
    (∃ e, (some [0, 2] : Option (List Nat)) = some e ∧ Sem.CO.GExt afA.g (ofList e) ∧ HitsL [0] (ofList e)) := by
  obtain ⟨cfg, p, rs, ans, w', _, hcfg, hv, hargs, hp, hb, _, _, hs, hrun, hans, _⟩ := static_hyps_CO_dc
  subst hans
  refine ⟨(C02.credulous_status_exact .CO cfg hcfg _ _ hv true [0] hargs p hp _ hb rs hs _ _ w' hrun).1 rfl, ?_⟩
  exact ((C04.certificates_witness .CO cfg hcfg _ _ hv true [0] hargs _ hb rs _ _ w').1 p hp hs hrun).2 rfl |>.1 rfl

/-! Preferred semantics, runs with several SAT calls, the last reply being `unsat`: the hypotheses of
`C03.skeptical_status_exact`, `C04.certificates_witness` (DS half), applied in `static_concl_PR_ds`, and of
`C01.se_answers_are_extensions` (first half: `static_hyps_PR_se`; not applied: its conclusion, "the answer
{0,2} is a preferred extension of `afA`", is what `afA`'s doc says; the second half of C01 is applied in
`static_concl_ST_se_none`). -/

/-- the complete extension {0,2} (selector false) -/
def mPR02 : Model := [some false, some true, some true, some false, some false, some true, some false]
/-- the complete extension {1} (selector false) -/
def mPR1 : Model := modelOf 7 [1, 4, 5]

def pPRds : Prog Ans := certOnly true (prDScert cfgA afA.view [0])

theorem run_PRds : RunsTo pPRds [.sat mPR02, .sat mPR1, .unsat] {} (.acc ⟨false, some [1]⟩ true) 3 := by
  decide +kernel

/-- skeptical acceptance of argument 0 under PR, certificate requested.  The SAT solver first
proposes {0,2} (contains 0: search discarded), then {1}, and then proves that {1} has no complete
proper superset (`unsat`: discharged by `refuteB` on the 18 clauses over 7 variables the solver holds and
the assumptions `x1, ¬sel`).  Three SAT calls; answer NO with the counter-example {1}. -/
theorem static_hyps_PR_ds :
    ∃ (cfg : Cfg) (p : Prog Ans) (rs : List Reply) (ans : Ans) (w' : World),
      cfg.enc = .auxCO ∧
      CfgOK .PR cfg ∧
      afA.view.Ok afA.g ∧
      (∀ a ∈ [0], afA.g.live a = true) ∧
      entryProg .PR cfg afA.view (.ds true [0]) = some p ∧
      ({} : World).Bounded ∧
      cfg.fuel ≥ fuelFor (1 + afA.view.maxId.getD 0) ∧
      rs = [.sat mPR02, .sat mPR1, .unsat] ∧
      RunSound p rs {} ∧
      interp p rs {} = (.done ans, w') ∧
      ans = .acc ⟨false, some [1]⟩ true ∧ w'.calls = 3 :=
  ⟨cfgA, pPRds, _, _, _, rfl, cfgA_PR, AF.view_ok afA afA_wf, by decide, rfl, Bounded_empty, cfgA_fuel, rfl,
    run_PRds.sound, run_PRds.eq, rfl, run_PRds.calls⟩

theorem static_concl_PR_ds :
    (¬ ∀ S, Sem.PR.GExt afA.g S → HitsL [0] S) ∧
    (∃ e, (some [1] : Option (List Nat)) = some e ∧ Sem.PR.GExt afA.g (ofList e) ∧ ¬ HitsL [0] (ofList e)) := by
  obtain ⟨cfg, p, rs, ans, w', _, hcfg, hv, hargs, hp, hb, _, _, hs, hrun, hans, _⟩ := static_hyps_PR_ds
  subst hans
  refine ⟨fun h => ?_, ?_⟩
  · have := (C03.skeptical_status_exact .PR cfg hcfg _ _ hv true [0] hargs p hp _ hb rs hs _ _ w' hrun).2 h
    cases this
  · exact ((C04.certificates_witness .PR cfg hcfg _ _ hv true [0] hargs _ hb rs _ _ w').2 p hp hs hrun).2 rfl |>.1 rfl

def pPRse : Prog Ans := do pure (.ext (← prSE cfgA afA.view))

/-- single-extension query under PR: from the grounded extension ∅ the solver is offered {0,2},
then `unsat` (no complete proper superset).  Two SAT calls; answer {0,2}. -/
theorem static_hyps_PR_se :
    ∃ (cfg : Cfg) (p : Prog Ans) (rs : List Reply) (res : Option (List Nat)) (w' : World),
      cfg.enc = .auxCO ∧
      CfgOK .PR cfg ∧
      afA.view.Ok afA.g ∧
      entryProg .PR cfg afA.view .se = some p ∧
      ({} : World).Bounded ∧
      cfg.fuel ≥ fuelFor (1 + afA.view.maxId.getD 0) ∧
      rs = [.sat mPR02, .unsat] ∧
      RunSound p rs {} ∧
      interp p rs {} = (.done (.ext res), w') ∧
      res = some [0, 2] ∧ w'.calls = 2 := by
  have h : RunsTo pPRse [.sat mPR02, .unsat] {} (.ext (some [0, 2])) 2 := by decide +kernel
  exact ⟨cfgA, pPRse, _, _, _, rfl, cfgA_PR, AF.view_ok afA afA_wf, rfl, Bounded_empty, cfgA_fuel, rfl,
    h.sound, h.eq, rfl, h.calls⟩

/-! Stable semantics on a framework without stable extension, the answer `none`: the hypotheses of
`C01.se_answers_are_extensions`, second half ("no extension is returned only if there is none"). -/

/-- the stable extension {0,2} of the first component (default stable encoder: `x_a = a+1`) -/
def mST : Model := [some true, some false, some true]

def pSTse : Prog Ans := do pure (.ext (← stSE afB.view))

/-- `afB` has the components {0,1,2} and {3}: one solver per component; the first call is `sat`,
the second (clauses `¬x0`, `x0` of the self-attacker) `unsat`; the answer is `none` -/
theorem static_hyps_ST_se_none :
    ∃ (cfg : Cfg) (p : Prog Ans) (rs : List Reply) (res : Option (List Nat)) (w' : World),
      CfgOK .ST cfg ∧
      afB.view.Ok afB.g ∧
      entryProg .ST cfg afB.view .se = some p ∧
      ({} : World).Bounded ∧
      cfg.fuel ≥ fuelFor (1 + afB.view.maxId.getD 0) ∧
      rs = [.sat mST, .unsat] ∧
      RunSound p rs {} ∧
      interp p rs {} = (.done (.ext res), w') ∧
      res = none ∧ w'.calls = 2 ∧ w'.solvers.length = 2 := by
  have h : RunsTo pSTse [.sat mST, .unsat] {} (.ext none) 2 ∧
      (interp pSTse [.sat mST, .unsat] {}).2.solvers.length = 2 := by decide +kernel
  exact ⟨cfgA, pSTse, _, _, _, trivial, AF.view_ok afB afB_wf, rfl, Bounded_empty, by decide, rfl,
    h.1.sound, h.1.eq, rfl, h.1.calls, h.2⟩

theorem static_concl_ST_se_none : ¬ ∃ S, Sem.ST.GExt afB.g S := by
  obtain ⟨cfg, p, rs, res, w', hcfg, hv, hp, hb, _, _, hs, hrun, hres, _⟩ := static_hyps_ST_se_none
  exact (C01.se_answers_are_extensions .ST cfg hcfg _ _ hv p hp _ hb rs hs res w' hrun).2 hres

/-! The hypotheses of `C06.status_independent_of_configuration` on two different runs.  Not applied: the
conclusion `a1.status = a2.status` is already stated by the last two conjuncts (`false`, `false`). -/

def cfgE : Cfg := { enc := .expCO, fuel := 60 }

/-- exp layout: `x_a = a+1`, selector = variable 4; the complete extension {1} -/
def mE1 : Model := [some false, some true, some false, some false]

def pPRdsE : Prog Ans := certOnly false (prDS cfgE afA.view [0])

/-- the same skeptical query run twice: aux_var encoder / certificate / empty world / three SAT
calls, and exponential encoder / no certificate / a world in which a solver already exists / one
SAT call (the shortcut of `is_skeptically_accepted_in_cc` fires).  Same status. -/
theorem c06_hyps :
    ∃ (cfg1 cfg2 : Cfg) (p1 p2 : Prog Ans) (w2 : World) (rs1 rs2 : List Reply) (a1 a2 : AccAns)
      (w1' w2' : World),
      cfg1.enc = .auxCO ∧ cfg2.enc = .expCO ∧
      afA.view.Ok afA.g ∧ (∀ a ∈ [0], afA.g.live a = true) ∧
      CfgOK .PR cfg1 ∧ CfgOK .PR cfg2 ∧
      ({} : World).Bounded ∧ w2.Bounded ∧ w2.solvers.length = 1 ∧
      entryProg .PR cfg1 afA.view (.ds true [0]) = some p1 ∧
      entryProg .PR cfg2 afA.view (.ds false [0]) = some p2 ∧
      RunSound p1 rs1 {} ∧ RunSound p2 rs2 w2 ∧
      interp p1 rs1 {} = (.done (.acc a1 true), w1') ∧
      interp p2 rs2 w2 = (.done (.acc a2 false), w2') ∧
      w1'.calls = 3 ∧ w2'.calls = 1 ∧ a1.status = false ∧ a2.status = false := by
  have h : RunsTo pPRdsE [.sat mE1] ({} : World).onNew (.acc ⟨false, none⟩ false) 1 := by decide +kernel
  exact ⟨cfgA, cfgE, pPRds, pPRdsE, _, _, _, _, _, _, _, rfl, rfl, AF.view_ok afA afA_wf, by decide, cfgA_PR,
    base_complete_of .expCO (Or.inr (Or.inl rfl)), Bounded_empty, Bounded_onNew Bounded_empty, rfl, rfl, rfl,
    run_PRds.sound, h.sound, run_PRds.eq, h.eq, run_PRds.calls, h.calls, rfl, rfl⟩

/-- 0 ↔ 1 ↔ 2 (arguments 0 and 2 both attack 1 and are attacked by 1 only), and 3 → 4 -/
def afC : AF := ⟨5, [(0, 1), (1, 0), (1, 2), (2, 1), (3, 4)]⟩

/-- hypothesis of `C19.merged_arguments_indistinguishable` (and of the other C19 theorems) on a
framework where the reduction performs a genuine merge: grounded class {3}, defeated class {4},
and the class {0,2} of two distinct arguments found by mutual propagation -/
theorem c19_hyps :
    afC.WF ∧
    (Eq.computeClasses afC).map (fun c => (c.kind, c.members)) =
      [(.grounded, [3]), (.defeated, [4]), (.other, [0, 2]), (.other, [1])] ∧
    (∃ c ∈ Eq.computeClasses afC, 2 ≤ c.members.length ∧ 0 ∈ c.members ∧ 2 ∈ c.members ∧ (0 : Nat) ≠ 2) := by
  have e : (Eq.computeClasses afC).map (fun c => (c.kind, c.members)) =
      [(.grounded, [3]), (.defeated, [4]), (.other, [0, 2]), (.other, [1])] := by decide +kernel
  have hmem : (Eq.Kind.other, [0, 2]) ∈ (Eq.computeClasses afC).map (fun c => (c.kind, c.members)) := by
    rw [e]; decide
  obtain ⟨c, hc, hk⟩ := List.mem_map.1 hmem
  have hm : c.members = [0, 2] := congrArg Prod.snd hk
  exact ⟨by unfold AF.WF; decide, e, c, hc, by rw [hm]; decide⟩

theorem c19_concl : ∀ S, Complete afC S → S 0 = S 2 := by
  obtain ⟨hwf, _, c, hc, _, h0, h2, _⟩ := c19_hyps
  exact C19.merged_arguments_indistinguishable afC hwf c hc 0 h0 2 h2

open Crusta.Sat in
def opsX : List Sat.BOp := [.add [pl 1, nl 2], .reserve 4, .add [pl 2, pl 3]]
def asX : List Lit := [nl 3]
def mX : List Bool := [true, true, false, false]
/-- a reply laid out as: `c hi` / `s SATISFIABLE` / `v 1 2` / `c` / `v -3 -4 0` / (empty line) -/
def layX : Sat.Layout := ⟨[[99, 32, 104, 105]], [([], 2)], [[99]], [[]]⟩

theorem layX_ok : layX.Ok := by
  have h1 : Sat.Noise [99, 32, 104, 105] := ⟨IO.LineOk.of_small _, .inr (.inr ⟨_, rfl⟩)⟩
  have h2 : Sat.Noise [99] := ⟨IO.LineOk.of_small _, .inr (.inl rfl)⟩
  have h3 : Sat.Noise [] := ⟨IO.LineOk.of_small _, .inl rfl⟩
  simp only [Sat.Layout.Ok, layX, List.forall_mem_cons, List.not_mem_nil, false_imp_iff, implies_true, and_true,
    h1, h2, h3]

/-- all hypotheses of `C15.external_wrapper_sound`, including the premise of its first conclusion
(the model satisfies the clauses read back from the text handed to the solver) -/
theorem c15_hyps :
    (∀ op ∈ opsX, op.Proper) ∧ (∀ a ∈ asX, 1 ≤ a.var) ∧ layX.Ok ∧ mX.length ≤ 9223372036854775807 ∧
    (let b := opsX.foldl Sat.Buffered.apply {}
     b.nVars = 4 ∧ b.clauses = [[pl 1, nl 2], [pl 2, pl 3]] ∧
     ∃ nv nc cls, Sat.readDimacs (b.dimacs asX) = some (nv, nc, cls) ∧
      cls = [[pl 1, nl 2], [pl 2, pl 3], [nl 3]] ∧
      cnfTrue (asgOfModel (mX.map some)) cls = true) := by
  have hops : ∀ op ∈ opsX, op.Proper := by
    intro op hop
    simp only [opsX, List.mem_cons, List.not_mem_nil, or_false] at hop
    rcases hop with rfl | rfl | rfl <;> unfold Sat.BOp.Proper <;> decide
  have has : ∀ a ∈ asX, 1 ≤ a.var := by decide
  refine ⟨hops, has, layX_ok, by decide, ?_⟩
  obtain ⟨nv, nc, cls, hread, hcls, _⟩ := Sat.dimacs_header_exact opsX asX hops has
  refine ⟨by decide, by decide, nv, nc, cls, hread, ?_, ?_⟩
  · rw [hcls]; decide
  · rw [hcls]; decide

/-- the first conclusion of `C15.external_wrapper_sound` -/
theorem c15_concl :
    Sat.parseReply mX.length (Sat.renderModel mX layX) = .sat (mX.map some) ∧
    (∀ c ∈ (opsX.foldl Sat.Buffered.apply {}).clauses, clauseTrue (asgOfModel (mX.map some)) c = true) ∧
    (∀ a ∈ asX, litTrue (asgOfModel (mX.map some)) a = true) := by
  obtain ⟨hops, has, hlay, hm, _, _, nv, nc, cls, hread, _, hsat⟩ := c15_hyps
  obtain ⟨nv', nc', cls', hread', himp, _⟩ := C15.external_wrapper_sound opsX asX hops has mX layX hlay hm
  rw [hread] at hread'
  injection hread' with h; injection h with _ h; injection h with _ h
  subst h
  exact himp hsat

end Crusta.NonVacuity
