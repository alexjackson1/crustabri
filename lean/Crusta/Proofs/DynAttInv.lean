import Crusta.Proofs.DynAttSem
import Crusta.Proofs.DynInv

/-!
# The invariant of the attack-assumption encoder and what it means

`AInv st e Γ` relates the solver's framework `st`, the encoder tables `e` and the clause database
`Γ` of the SAT solver currently held in the shared cell.  Under it `assumptions(af)` never panics, and
the models of `Γ` under these assumptions are, on the argument variables, exactly the stable resp.
complete extensions of `st`.
-/

namespace Crusta.DynAtt
open Crusta Crusta.Dyn

/-- the two tables read as total functions; proofs also use them through this unfolding -/
def AEnc.av (e : AEnc) (i : Nat) : Option Nat := e.argVar.getD i none
def AEnc.ty (e : AEnc) (v : Nat) : AVarType := e.vars.getD v .ignored
def AEnc.xv (e : AEnc) (i : Nat) : Nat := (e.av i).getD 0

theorem xv_of_av {e : AEnc} {i v : Nat} (h : e.av i = some v) : e.xv i = v := by
  unfold AEnc.xv; rw [h]; rfl

/-- `Γ` holds the last re-encoding (`enc_in`) and beyond it only unit clauses on variables that are no argument
variables (`db_kind`); `av_live`, `ty_arg`: the two tables are inverse to each other on the live arguments -/
structure AInv (st : Store) (e : AEnc) (Γ : Cnf) : Prop where
  enc_in : ∀ c, EncSpec e.sem e.nArgVars c → c ∈ Γ
  db_kind : ∀ c ∈ Γ, EncSpec e.sem e.nArgVars c ∨
      ∃ v, c = [pl v] ∧ 1 ≤ v ∧ v ≤ e.nArgVars ∧ ∀ a, e.ty v ≠ .arg a
  av_live : ∀ i, st.hasId i = true → ∃ v, e.av i = some v ∧ 1 ≤ v ∧ v ≤ e.nArgVars ∧ e.ty v = .arg i
  ty_arg : ∀ v i, e.ty v = .arg i → st.hasId i = true ∧ e.av i = some v
  -- bookkeeping needed to preserve the invariant: the variables from `next_dummy_arg_var` on are untouched
  -- (no argument, no unit clause); no proof consumes `nd_le`
  arg_lt : ∀ v i, e.ty v = .arg i → v < e.nextDummy
  unit_lt : ∀ v, [pl v] ∈ Γ → v < e.nextDummy
  nd_pos : 1 ≤ e.nextDummy
  nd_le : e.nextDummy ≤ e.nArgVars + 1
  /-- guarded: an encoding of the empty framework has `n_arg_vars = 0` and a table of length 1 -/
  sz : 0 < e.nArgVars → e.argVar.length = st.labels.length
  /-- not about meaning: `solver_vars` is long enough for `new_argument` not to index out of bounds -/
  vars_len : e.nArgVars + e.nArgVars * e.nArgVars < e.vars.length ∧
      (e.sem = .CO → 2 * e.nArgVars + e.nArgVars * e.nArgVars < e.vars.length)

def setOf (st : Store) (e : AEnc) (ν : Asg) : ASet := fun i => st.hasId i && ν (e.xv i)

def hit (e : AEnc) (st : Store) (t : Nat) : Bool := st.iterAttacks.any (fun p => e.attIndex p == some t)

theorem setAssumptions_spec (e : AEnc) : ∀ (atts : List (Nat × Nat)) (acc : List Lit),
    (∀ p ∈ atts, ∃ t, e.attIndex p = some t ∧ t < acc.length) →
    ∃ r, setAssumptions e atts acc = some r ∧ r.length = acc.length ∧
      (∀ p ∈ atts, ∀ t, e.attIndex p = some t → r[t]? = some (pl (1 + t + e.nArgVars))) ∧
      (∀ t, (∀ p ∈ atts, e.attIndex p ≠ some t) → r[t]? = acc[t]?) := by
  intro atts
  induction atts with
  | nil => intro acc _; exact ⟨acc, rfl, rfl, nofun, fun _ _ => rfl⟩
  | cons p rest ih =>
    intro acc h
    obtain ⟨t0, ht0, hlt0⟩ := h p List.mem_cons_self
    obtain ⟨r, hr, hlen, hin, hout⟩ := ih (acc.set t0 (pl (1 + t0 + e.nArgVars))) fun q hq =>
      let ⟨t, ht, hlt⟩ := h q (List.mem_cons_of_mem _ hq)
      ⟨t, ht, (List.length_set ..).symm ▸ hlt⟩
    refine ⟨r, ?_, hlen.trans (List.length_set ..), fun q hq t hqt => ?_, fun t hnone => ?_⟩
    · show (match e.attIndex p with
        | none => none
        | some i => if i < acc.length then setAssumptions e rest (acc.set i (pl (1 + i + e.nArgVars))) else none) = _
      rw [ht0]
      exact (if_pos hlt0).trans hr
    · -- the last attack mapped to `t` decides; if it is `p` itself the later ones leave position `t` alone
      by_cases hex : ∃ q' ∈ rest, e.attIndex q' = some t
      · obtain ⟨q', hq', hq't⟩ := hex
        exact hin q' hq' t hq't
      · obtain rfl : q = p := (List.mem_cons.1 hq).resolve_right fun hqr => hex ⟨q, hqr, hqt⟩
        obtain rfl : t0 = t := Option.some.inj (ht0.symm.trans hqt)
        rw [hout t0 fun q' hq' h' => hex ⟨q', hq', h'⟩, List.getElem?_set_self hlt0]
    · have hne : t0 ≠ t := fun h0 => hnone p List.mem_cons_self (h0 ▸ ht0)
      rw [hout t fun q hq => hnone q (List.mem_cons_of_mem _ hq), List.getElem?_set_ne hne]

theorem attIndex_of_vars {e : AEnc} {a b i j : Nat} (hb : e.av b = some (i + 1)) (ha : e.av a = some (j + 1)) :
    e.attIndex (a, b) = some (i * e.nArgVars + j) := by
  unfold AEnc.attIndex
  rw [show e.argVar.getD b none = some (i + 1) from hb, show e.argVar.getD a none = some (j + 1) from ha]
  exact if_neg fun h => h.elim (Nat.succ_ne_zero i) (Nat.succ_ne_zero j)

section
variable {st : Store} {e : AEnc} {Γ : Cnf}

theorem live_var (h : AInv st e Γ) {a : Nat} (ha : st.hasId a = true) :
    ∃ i, i < e.nArgVars ∧ e.av a = some (i + 1) ∧ e.xv a = i + 1 ∧ e.ty (i + 1) = .arg a := by
  obtain ⟨v, h1, h2, h3, h4⟩ := h.av_live a ha
  cases v with
  | zero => cases h2
  | succ i => exact ⟨i, h3, h1, xv_of_av h1, h4⟩

theorem att_vars (hinv : st.Inv) (h : AInv st e Γ) {a b : Nat} (hab : st.HasAtt a b) :
    ∃ i j, i < e.nArgVars ∧ j < e.nArgVars ∧ e.av b = some (i + 1) ∧ e.av a = some (j + 1) := by
  obtain ⟨hla, hlb⟩ := Store.g_wf hinv a b hab
  obtain ⟨j, hj, ha, -, -⟩ := live_var h hla
  obtain ⟨i, hi, hb, -, -⟩ := live_var h hlb
  exact ⟨i, j, hi, hj, hb, ha⟩

theorem av_inj (h : AInv st e Γ) {a b v : Nat} (ha : st.hasId a = true) (hb : st.hasId b = true)
    (hva : e.av a = some v) (hvb : e.av b = some v) : a = b := by
  obtain ⟨va, h1, -, -, h2⟩ := h.av_live a ha
  obtain ⟨vb, h3, -, -, h4⟩ := h.av_live b hb
  rw [hva] at h1; rw [hvb] at h3
  obtain rfl := Option.some.inj h1
  obtain rfl := Option.some.inj h3
  rw [h2] at h4
  exact AVarType.arg.inj h4

theorem ty_of_av (h : AInv st e Γ) {a i : Nat} (ha : st.hasId a = true) (hai : e.av a = some (i + 1)) :
    e.ty (i + 1) = .arg a := by
  obtain ⟨i', -, hai', -, hty⟩ := live_var h ha
  rw [hai] at hai'
  have : i + 1 = i' + 1 := Option.some.inj hai'
  rw [this]; exact hty

theorem assumptions_total (hinv : st.Inv) (h : AInv st e Γ) :
    ∃ as, e.assumptionsOpt st = some as ∧ as.length = e.nArgVars * e.nArgVars ∧
      ∀ t, t < e.nArgVars * e.nArgVars →
        as[t]? = some (if hit e st t = true then pl (1 + t + e.nArgVars) else nl (1 + e.nArgVars + t)) := by
  unfold AEnc.assumptionsOpt
  obtain ⟨r, hr, hlen, hin, hout⟩ := setAssumptions_spec e st.iterAttacks
    ((List.range (e.nArgVars * e.nArgVars)).map (fun i => nl (1 + e.nArgVars + i))) (by
      rintro ⟨a, b⟩ hp
      obtain ⟨i, j, hi, hj, hb, ha⟩ := att_vars hinv h ((Store.mem_iterAttacks a b).1 hp)
      refine ⟨_, attIndex_of_vars hb ha, ?_⟩
      rw [List.length_map, List.length_range]
      exact cell_lt hi hj)
  refine ⟨r, hr, by rw [hlen, List.length_map, List.length_range], fun t ht => ?_⟩
  by_cases hh : hit e st t = true
  · obtain ⟨p, hp, hpt⟩ := List.any_eq_true.1 hh
    rw [hin p hp t (beq_iff_eq.1 hpt), if_pos hh]
  · rw [hout t fun p hp hpt => hh (List.any_eq_true.2 ⟨p, hp, beq_iff_eq.2 hpt⟩), if_neg hh,
      List.getElem?_map, List.getElem?_range ht]
    rfl

/-- the attack variables reflect the attacks of the framework -/
def AttOK (st : Store) (e : AEnc) (ν : Asg) : Prop :=
  ∀ i j, i < e.nArgVars → j < e.nArgVars →
    (ν (attVar e.nArgVars (i + 1) (j + 1)) = true ↔
      ∃ a b, st.HasAtt a b ∧ e.av b = some (i + 1) ∧ e.av a = some (j + 1))

theorem hit_iff (hinv : st.Inv) (h : AInv st e Γ) {i j : Nat} (hj : j < e.nArgVars) :
    hit e st (i * e.nArgVars + j) = true ↔
      ∃ a b, st.HasAtt a b ∧ e.av b = some (i + 1) ∧ e.av a = some (j + 1) := by
  unfold hit
  simp only [List.any_eq_true, beq_iff_eq]
  constructor
  · rintro ⟨⟨a, b⟩, hp, hidx⟩
    have hab := (Store.mem_iterAttacks a b).1 hp
    obtain ⟨i', j', hi', hj', hb, ha⟩ := att_vars hinv h hab
    rw [attIndex_of_vars hb ha] at hidx
    obtain ⟨rfl, rfl⟩ := pair_inj hj' hj (Option.some.inj hidx)
    exact ⟨a, b, hab, hb, ha⟩
  · rintro ⟨a, b, hab, hb, ha⟩
    exact ⟨(a, b), (Store.mem_iterAttacks a b).2 hab, attIndex_of_vars hb ha⟩

theorem assumps_iff {as : List Lit} {n : Nat} {f : Nat → Bool} (hlen : as.length = n * n)
    (hget : ∀ t, t < n * n → as[t]? = some (if f t = true then pl (1 + t + n) else nl (1 + n + t)))
    (ν : Asg) : assumpsTrue ν as = true ↔ ∀ t, t < n * n → ν (1 + n + t) = f t := by
  have key : ∀ t, litTrue ν (if f t = true then pl (1 + t + n) else nl (1 + n + t)) = true ↔
      ν (1 + n + t) = f t := by
    intro t
    rw [Nat.add_right_comm 1 t n]
    cases f t <;> simp
  rw [assumpsTrue_iff]
  constructor
  · intro hall t ht
    exact (key t).1 (hall _ (List.mem_of_getElem? (hget t ht)))
  · intro hall l hl
    obtain ⟨t, ht, rfl⟩ := List.getElem_of_mem hl
    have hg := hget t (hlen ▸ ht)
    rw [List.getElem?_eq_getElem ht] at hg
    rw [Option.some.inj hg]
    exact (key t).2 (hall t (hlen ▸ ht))

theorem attOK_of_assumps (hinv : st.Inv) (h : AInv st e Γ) {as : List Lit} {ν : Asg}
    (has : e.assumptionsOpt st = some as) (hA : assumpsTrue ν as = true) : AttOK st e ν := by
  obtain ⟨as', has', hlen, hget⟩ := assumptions_total hinv h
  rw [has] at has'
  obtain rfl := Option.some.inj has'
  have := (assumps_iff hlen hget ν).1 hA
  intro i j hi hj
  rw [attVar_cell, this (i * e.nArgVars + j) (cell_lt hi hj), hit_iff hinv h hj]

theorem setOf_of_var {ν : Asg} {a i : Nat} (ha : st.hasId a = true) (hai : e.av a = some (i + 1)) :
    setOf st e ν a = ν (i + 1) := by
  rw [setOf, ha, Bool.true_and, xv_of_av hai]

theorem att_of_var (hinv : st.Inv) (h : AInv st e Γ) {ν : Asg} (hatt : AttOK st e ν) {a i j : Nat}
    (ha : st.hasId a = true) (hai : e.av a = some (i + 1)) (hi : i < e.nArgVars) (hj : j < e.nArgVars)
    (hat : ν (attVar e.nArgVars (i + 1) (j + 1)) = true) :
    ∃ a', st.HasAtt a' a ∧ st.hasId a' = true ∧ e.av a' = some (j + 1) := by
  obtain ⟨a', b', hab, hb', ha'⟩ := (hatt i j hi hj).1 hat
  obtain ⟨hla', hlb'⟩ := Store.g_wf hinv a' b' hab
  obtain rfl : b' = a := av_inj h hlb' ha hb' hai
  exact ⟨a', hab, hla', ha'⟩

theorem stable_of_vstable (hinv : st.Inv) (h : AInv st e Γ) {ν : Asg} (hatt : AttOK st e ν)
    (hv : VStable e.nArgVars ν) : st.g.Stable (setOf st e ν) := by
  refine ⟨⟨fun a ha => (Bool.and_eq_true_iff.1 ha).1, ?_⟩, ?_⟩
  · rintro a ha ⟨b, hba, hb⟩
    obtain ⟨hlb, hla⟩ := Store.g_wf hinv b a hba
    obtain ⟨i, hi, hai, -, -⟩ := live_var h hla
    obtain ⟨j, hj, hbj, -, -⟩ := live_var h hlb
    rw [setOf_of_var hla hai] at ha
    rw [setOf_of_var hlb hbj] at hb
    exact hv.cf i j hi hj ((hatt i j hi hj).2 ⟨b, a, hba, hai, hbj⟩) ha hb
  · intro a ha hSa
    obtain ⟨i, hi, hai, -, -⟩ := live_var h ha
    rw [setOf_of_var ha hai] at hSa
    obtain ⟨j, hj, hνj, hat⟩ := hv.att i hi hSa
    obtain ⟨a', hab, hla', ha'⟩ := att_of_var hinv h hatt ha hai hi hj hat
    exact ⟨a', hab, (setOf_of_var hla' ha').trans hνj⟩

/-- **soundness of the encoding (stable semantics)** -/
theorem models_stable (hinv : st.Inv) (h : AInv st e Γ) (hsem : e.sem = .ST) {as : List Lit} {ν : Asg}
    (has : e.assumptionsOpt st = some as) (hΓ : cnfTrue ν Γ = true) (hA : assumpsTrue ν as = true) :
    st.g.Stable (setOf st e ν) := by
  apply stable_of_vstable hinv h (attOK_of_assumps hinv h has hA)
  apply vstable_of_model
  intro c hc
  exact (cnfTrue_iff _ _).1 hΓ c (h.enc_in c (by rw [hsem]; exact hc))

theorem disj_iff (hinv : st.Inv) (h : AInv st e Γ) {ν : Asg} (hatt : AttOK st e ν)
    (hv : VComplete e.nArgVars ν) {a i : Nat} (ha : st.hasId a = true) (hi : i < e.nArgVars)
    (hai : e.av a = some (i + 1)) :
    ν (disjVar e.nArgVars (i + 1)) = true ↔ st.g.AttackedBy (setOf st e ν) a := by
  constructor
  · intro hd
    obtain ⟨j, hj, hνj, hat⟩ := hv.dj_out i hi hd
    obtain ⟨a', hab, hla', ha'⟩ := att_of_var hinv h hatt ha hai hi hj hat
    exact ⟨a', hab, (setOf_of_var hla' ha').trans hνj⟩
  · rintro ⟨b, hba, hb⟩
    obtain ⟨hlb, -⟩ := Store.g_wf hinv b a hba
    obtain ⟨j, hj, hbj, -, -⟩ := live_var h hlb
    rw [setOf_of_var hlb hbj] at hb
    exact hv.dj_in i j hi hj ((hatt i j hi hj).2 ⟨b, a, hba, hai, hbj⟩) hb

theorem complete_of_vcomplete (hinv : st.Inv) (h : AInv st e Γ) {ν : Asg} (hatt : AttOK st e ν)
    (hv : VComplete e.nArgVars ν) : st.g.Complete (setOf st e ν) := by
  have hlive : ∀ a, setOf st e ν a = true → st.hasId a = true := fun a ha => (Bool.and_eq_true_iff.1 ha).1
  refine ⟨⟨⟨hlive, fun a ha hatk => ?_⟩, fun a ha b hba => ?_⟩, fun a ha hdef => ?_⟩
  · have hla := hlive a ha
    obtain ⟨i, hi, hai, -, -⟩ := live_var h hla
    rw [setOf_of_var hla hai] at ha
    have := (disj_iff hinv h hatt hv hla hi hai).2 hatk
    rw [hv.cf i hi ha] at this
    cases this
  · obtain ⟨hlb, -⟩ := Store.g_wf hinv b a hba
    have hla := hlive a ha
    obtain ⟨i, hi, hai, -, -⟩ := live_var h hla
    obtain ⟨j, hj, hbj, -, -⟩ := live_var h hlb
    rw [setOf_of_var hla hai] at ha
    exact (disj_iff hinv h hatt hv hlb hj hbj).1
      (hv.dfd i j hi hj ((hatt i j hi hj).2 ⟨b, a, hba, hai, hbj⟩) ha)
  · obtain ⟨i, hi, hai, -, -⟩ := live_var h ha
    rw [setOf_of_var ha hai]
    cases hνa : ν (i + 1) with
    | true => rfl
    | false =>
      -- the attacker `a'` that the long clause of row `i` points at is not attacked, but `a` is defended
      obtain ⟨j, hj, hat, hdj⟩ := hv.cpl i hi hνa
      obtain ⟨a', hab, hla', ha'⟩ := att_of_var hinv h hatt ha hai hi hj hat
      have := (disj_iff hinv h hatt hv hla' hj ha').2 (hdef a' hab)
      rw [hdj] at this
      cases this

/-- **soundness of the encoding (complete semantics)** -/
theorem models_complete (hinv : st.Inv) (h : AInv st e Γ) (hsem : e.sem = .CO) {as : List Lit} {ν : Asg}
    (has : e.assumptionsOpt st = some as) (hΓ : cnfTrue ν Γ = true) (hA : assumpsTrue ν as = true) :
    st.g.Complete (setOf st e ν) := by
  apply complete_of_vcomplete hinv h (attOK_of_assumps hinv h has hA)
  apply vcomplete_of_model
  intro c hc
  exact (cnfTrue_iff _ _).1 hΓ c (h.enc_in c (by rw [hsem]; exact hc))

/-- the assignment describing the set `S` on argument, attack and attacker-disjunction variables
(variables that are not argument variables are true, their attacker disjunction is false) -/
def baseAsg (st : Store) (e : AEnc) (S : ASet) : Asg := fun v =>
  if v ≤ e.nArgVars then (match e.ty v with | .arg a => S a | _ => true)
  else if v ≤ e.nArgVars * (1 + e.nArgVars) then hit e st (v - e.nArgVars - 1)
  else match e.ty (v - e.nArgVars * (1 + e.nArgVars)) with
    | .arg a => (attackersOf st a).any S
    | _ => false

theorem base_arg (S : ASet) {v : Nat} (hv : v ≤ e.nArgVars) :
    baseAsg st e S v = (match e.ty v with | .arg a => S a | _ => true) := if_pos hv

theorem base_assumption (S : ASet) {t : Nat} (ht : t < e.nArgVars * e.nArgVars) :
    baseAsg st e S (1 + e.nArgVars + t) = hit e st t := by
  show (if 1 + e.nArgVars + t ≤ e.nArgVars then _ else
    if 1 + e.nArgVars + t ≤ e.nArgVars * (1 + e.nArgVars) then hit e st (1 + e.nArgVars + t - e.nArgVars - 1)
    else _) = _
  rw [if_neg (by omega), if_pos (assm_le ht)]
  congr 1; omega

theorem base_att (S : ASet) {i j : Nat} (hi : i < e.nArgVars) (hj : j < e.nArgVars) :
    baseAsg st e S (attVar e.nArgVars (i + 1) (j + 1)) = hit e st (i * e.nArgVars + j) := by
  rw [attVar_cell]
  exact base_assumption S (cell_lt hi hj)

theorem base_disj (S : ASet) (i : Nat) :
    baseAsg st e S (disjVar e.nArgVars (i + 1)) =
      (match e.ty (i + 1) with | .arg a => (attackersOf st a).any S | _ => false) := by
  have hN := mul_one_add e.nArgVars
  show (if i + 1 + e.nArgVars * (1 + e.nArgVars) ≤ e.nArgVars then _ else
    if i + 1 + e.nArgVars * (1 + e.nArgVars) ≤ e.nArgVars * (1 + e.nArgVars) then _ else _) = _
  rw [if_neg (by omega), if_neg (by omega),
    show disjVar e.nArgVars (i + 1) - e.nArgVars * (1 + e.nArgVars) = i + 1 from Nat.add_sub_cancel ..]

theorem base_attOK (hinv : st.Inv) (h : AInv st e Γ) (S : ASet) : AttOK st e (baseAsg st e S) := by
  intro i j hi hj
  rw [base_att S hi hj, hit_iff hinv h hj]

theorem base_live (h : AInv st e Γ) (S : ASet) {a i : Nat} (ha : st.hasId a = true) (hi : i < e.nArgVars)
    (hai : e.av a = some (i + 1)) : baseAsg st e S (i + 1) = S a := by
  rw [base_arg S hi, ty_of_av h ha hai]

theorem base_false (h : AInv st e Γ) (S : ASet) {i : Nat} (hi : i < e.nArgVars)
    (hf : baseAsg st e S (i + 1) = false) :
    ∃ a, st.hasId a = true ∧ e.av a = some (i + 1) ∧ S a = false := by
  rw [base_arg S hi] at hf
  cases hty : e.ty (i + 1) with
  | arg a =>
    rw [hty] at hf
    obtain ⟨hl, hav⟩ := h.ty_arg _ _ hty
    exact ⟨a, hl, hav, hf⟩
  | _ => rw [hty] at hf; cases hf

theorem vstable_base (hinv : st.Inv) (h : AInv st e Γ) {S : ASet} (hS : st.g.Stable S) :
    VStable e.nArgVars (baseAsg st e S) := by
  have hwf := Store.g_wf hinv
  have hatt := base_attOK hinv h S
  constructor
  · intro i j hi hj hat hx ha
    obtain ⟨a', b', hab, hb', ha'⟩ := (hatt i j hi hj).1 hat
    obtain ⟨hla', hlb'⟩ := hwf a' b' hab
    rw [base_live h S hlb' hi hb'] at hx
    rw [base_live h S hla' hj ha'] at ha
    exact hS.1.2 b' hx ⟨a', hab, ha⟩
  · intro i hi hf
    obtain ⟨a, hla, hai, hSa⟩ := base_false h S hi hf
    obtain ⟨b, hba, hSb⟩ := hS.2 a hla hSa
    obtain ⟨hlb, -⟩ := hwf b a hba
    obtain ⟨j, hj, hbj, -, -⟩ := live_var h hlb
    refine ⟨j, hj, ?_, (hatt i j hi hj).2 ⟨b, a, hba, hai, hbj⟩⟩
    rw [base_live h S hlb hj hbj]; exact hSb

theorem base_disj_live (hinv : st.Inv) (h : AInv st e Γ) (S : ASet) {a i : Nat} (ha : st.hasId a = true)
    (hai : e.av a = some (i + 1)) :
    baseAsg st e S (disjVar e.nArgVars (i + 1)) = true ↔ st.g.AttackedBy S a := by
  rw [base_disj S i, ty_of_av h ha hai]
  exact any_attackers_iff hinv S a

theorem vcomplete_base (hinv : st.Inv) (h : AInv st e Γ) {S : ASet} (hS : st.g.Complete S) :
    VComplete e.nArgVars (baseAsg st e S) := by
  have hwf := Store.g_wf hinv
  have hatt := base_attOK hinv h S
  constructor
  · intro i hi hx
    rw [base_disj S i]
    rw [base_arg S hi] at hx
    cases hty : e.ty (i + 1) with
    | arg a =>
      rw [hty] at hx
      simp only
      cases hany : (attackersOf st a).any S with
      | false => rfl
      | true => exact absurd ((any_attackers_iff hinv S a).1 hany) (hS.1.1.2 a hx)
    | _ => rfl
  · intro i j hi hj hat hx
    obtain ⟨a', b', hab, hb', ha'⟩ := (hatt i j hi hj).1 hat
    obtain ⟨hla', hlb'⟩ := hwf a' b' hab
    rw [base_live h S hlb' hi hb'] at hx
    exact (base_disj_live hinv h S hla' ha').2 (hS.1.2 b' hx a' hab)
  · intro i hi hf
    obtain ⟨a, hla, hai, hSa⟩ := base_false h S hi hf
    have : ∃ b, st.HasAtt b a ∧ ¬ st.g.AttackedBy S b := by
      apply Classical.byContradiction
      intro hne
      have hdef : st.g.Defended S a := fun b hb =>
        Classical.byContradiction fun hn => hne ⟨b, hb, hn⟩
      rw [hS.2 a hla hdef] at hSa
      cases hSa
    obtain ⟨b, hba, hnb⟩ := this
    obtain ⟨hlb, -⟩ := hwf b a hba
    obtain ⟨j, hj, hbj, -, -⟩ := live_var h hlb
    refine ⟨j, hj, (hatt i j hi hj).2 ⟨b, a, hba, hai, hbj⟩, ?_⟩
    cases hd : baseAsg st e S (disjVar e.nArgVars (j + 1)) with
    | false => rfl
    | true => exact absurd ((base_disj_live hinv h S hlb hbj).1 hd) hnb
  · intro i j hi hj hat ha
    obtain ⟨a', b', hab, hb', ha'⟩ := (hatt i j hi hj).1 hat
    obtain ⟨hla', hlb'⟩ := hwf a' b' hab
    rw [base_live h S hla' hj ha'] at ha
    exact (base_disj_live hinv h S hlb' hb').2 ⟨a', hab, ha⟩
  · intro i hi hd
    rw [base_disj S i] at hd
    cases hty : e.ty (i + 1) with
    | arg a =>
      rw [hty] at hd
      obtain ⟨hla, hai⟩ := h.ty_arg _ _ hty
      obtain ⟨b, hba, hSb⟩ := (any_attackers_iff hinv S a).1 hd
      obtain ⟨hlb, -⟩ := hwf b a hba
      obtain ⟨j, hj, hbj, -, -⟩ := live_var h hlb
      refine ⟨j, hj, ?_, (hatt i j hi hj).2 ⟨b, a, hba, hai, hbj⟩⟩
      rw [base_live h S hlb hj hbj]; exact hSb
    | _ => rw [hty] at hd; cases hd

theorem base_unit (S : ASet) {v : Nat} (h2 : v ≤ e.nArgVars) (h3 : ∀ a, e.ty v ≠ .arg a) :
    baseAsg st e S v = true := by
  rw [base_arg S h2]
  split
  · next a hty => exact absurd hty (h3 a)
  · rfl

theorem model_of_base (hinv : st.Inv) (h : AInv st e Γ) {as : List Lit}
    (has : e.assumptionsOpt st = some as) {S : ASet} (hlive : ∀ i, S i = true → st.hasId i = true)
    {μ : Asg} (hlow : ∀ v, v ≤ e.nArgVars * (1 + e.nArgVars) → μ v = baseAsg st e S v)
    (hμ : ∀ c, EncSpec e.sem e.nArgVars c → clauseTrue μ c = true) :
    cnfTrue μ Γ = true ∧ assumpsTrue μ as = true ∧ ∀ i, setOf st e μ i = S i := by
  refine ⟨(cnfTrue_iff _ _).2 fun c hc => ?_, ?_, fun i => ?_⟩
  · rcases h.db_kind c hc with hk | ⟨v, rfl, _, h2, h3'⟩
    · exact hμ c hk
    · rw [clauseTrue_singleton, litTrue_pl, hlow v (Nat.le_trans h2 (le_mul_one_add _))]
      exact base_unit S h2 h3'
  · obtain ⟨as', has', hlen, hget⟩ := assumptions_total hinv h
    rw [has] at has'
    obtain rfl := Option.some.inj has'
    refine (assumps_iff hlen hget _).2 fun t ht => ?_
    rw [hlow _ (assm_le ht)]
    exact base_assumption S ht
  · unfold setOf
    cases hl : st.hasId i with
    | false =>
      cases hSi : S i with
      | false => rfl
      | true => rw [hlive i hSi] at hl; cases hl
    | true =>
      obtain ⟨k, hk, hik, hxk, -⟩ := live_var h hl
      rw [hxk, Bool.true_and, hlow _ (arg_le hk)]
      exact base_live h S hl hk hik

/-- **completeness of the encoding (stable semantics)**: every stable extension of the current
framework is described by a model of the clause database under `assumptions(af)` -/
theorem stable_model (hinv : st.Inv) (h : AInv st e Γ) (hsem : e.sem = .ST) {as : List Lit}
    (has : e.assumptionsOpt st = some as) {S : ASet} (hS : st.g.Stable S) :
    ∃ ν, cnfTrue ν Γ = true ∧ assumpsTrue ν as = true ∧ ∀ i, setOf st e ν i = S i :=
  ⟨extST e.nArgVars (baseAsg st e S), model_of_base hinv h has hS.1.1 (fun _ hv => extST_low hv)
    (hsem ▸ model_of_vstable (vstable_base hinv h hS))⟩

/-- **completeness of the encoding (complete semantics)** -/
theorem complete_model (hinv : st.Inv) (h : AInv st e Γ) (hsem : e.sem = .CO) {as : List Lit}
    (has : e.assumptionsOpt st = some as) {S : ASet} (hS : st.g.Complete S) :
    ∃ ν, cnfTrue ν Γ = true ∧ assumpsTrue ν as = true ∧ ∀ i, setOf st e ν i = S i :=
  ⟨extCO e.nArgVars (baseAsg st e S), model_of_base hinv h has hS.1.1.1
    (fun _ hv => extCO_low (Nat.le_trans hv (mul_one_add_le _)))
    (hsem ▸ model_of_vcomplete (vcomplete_base hinv h hS))⟩

end

end Crusta.DynAtt
