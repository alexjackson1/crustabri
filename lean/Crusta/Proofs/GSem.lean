import Crusta.Spec.AF

/-!
# Semantics over a sparse universe

Stores, views and extracted components number their arguments with holes (removed arguments keep
their id forever).  `G` is a framework given by a liveness predicate and an attack relation; here
the textbook definitions up to preferred are repeated on it (grounded: `ViewSpec.lean`; range-based
and ideal: `GSem2.lean`).  `AF.g` is a compact framework seen this way (on it they are the
definitions of `Spec/AF.lean`: `GBasic.lean`); `Store.g`, the framework held by a store, is in
`StoreBasics.lean`.
-/

namespace Crusta

structure G where
  live : Nat → Bool
  att : Nat → Nat → Prop

namespace G

def AttackedBy (g : G) (S : ASet) (a : Nat) : Prop := ∃ b, g.att b a ∧ S b = true
def CF (g : G) (S : ASet) : Prop := (∀ a, S a = true → g.live a = true) ∧ ∀ a, S a = true → ¬ g.AttackedBy S a
def Defended (g : G) (S : ASet) (a : Nat) : Prop := ∀ b, g.att b a → g.AttackedBy S b
def Admissible (g : G) (S : ASet) : Prop := g.CF S ∧ ∀ a, S a = true → g.Defended S a
def Complete (g : G) (S : ASet) : Prop := g.Admissible S ∧ ∀ a, g.live a = true → g.Defended S a → S a = true
def Stable (g : G) (S : ASet) : Prop := g.CF S ∧ ∀ a, g.live a = true → S a = false → g.AttackedBy S a
def Preferred (g : G) (S : ASet) : Prop := g.Admissible S ∧ ∀ T, g.Admissible T → SubsetS S T → SubsetS T S

/-- attacks only relate live arguments -/
def WF (g : G) : Prop := ∀ a b, g.att a b → g.live a = true ∧ g.live b = true

/-- the live arguments are bounded: what the existence of maximal sets of arguments needs -/
def Fin (g : G) : Prop := ∃ n, ∀ a, g.live a = true → a < n

end G

def AF.g (af : AF) : G := ⟨fun a => decide (a < af.n), fun b a => (b, a) ∈ af.atts⟩

end Crusta
