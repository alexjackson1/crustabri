import Crusta.Proofs.RxSem
import Crusta.Proofs.ApxScan
import Crusta.Gen.ApxPatterns

/-!
# The scanners of the Aspartix reader model implement the regular expressions of the Rust source

`Crusta.Gen.argLine`, `argLineName`, `attLine`, `attLineNames` are regenerated from
`src/io/aspartix_reader.rs` on every run.  They are unfolded in the four `_nf` theorems and evaluated
in `groupsFlat_patterns`, `numGroups_patterns`, nowhere else, so a change of a source pattern breaks
this file.

Each pattern is first brought to an explicit shape (`argLine_nf`, `attLine_nf`: `LooseArg`,
`LooseAtt`; `argLineName_nf`, `attLineNames_nf`: the shapes `StrictArg`, `StrictAtt` of `ApxScan`,
with a character other than the line feed where the pattern has `.`); the rest is argued on the
shapes.  On a line without line feed (every item of `BufRead::lines`: `LinesNoLf`) the scanners
return exactly the trimmed captures of the strict patterns (`matchArg_iff`, `matchAtt_iff`), and the
captures are unique, so the leftmost-first rule of the regex crate has nothing to choose.  Regex ⟹
scanner needs no hypothesis; scanner ⟹ regex fails exactly when the `.` faces a line feed, which
`scanTail` accepts as it does every code point (`lf_disagreement`, `matchArg_iff_general`).
`apx_line_classification`: the five-way partition of the lines and the branch `apxLine` takes in
each class.

The only facts used on the Unicode tables (`Lexical`): `\s` is disjoint from `[_[:alpha:]\d]`; `a`, `)`,
`,` are not blanks; `)`, `,` are not identifier characters.
-/

namespace Crusta.RxApx
open Crusta.IO Crusta.Rx

theorem cls_ws : clsHolds false [Atom.ws] = isWs := by
  funext c; simp [clsHolds, Atom.holds]

theorem cls_idStart : clsHolds false [Atom.ch 95, Atom.alpha] = isIdStart := by
  funext c; simp [clsHolds, Atom.holds, isIdStart]

theorem cls_idChar : clsHolds false [Atom.ch 95, Atom.alpha, Atom.digit] = isIdChar := by
  funext c; simp [clsHolds, Atom.holds, isIdChar, Bool.or_assoc]

theorem cls_not (d : Nat) : clsHolds true [Atom.ch d] = fun c => c != d := by
  funext c; simp [clsHolds, Atom.holds, bne]

/-- `\s*arg\(m\)x\s*` with `m` non-empty without `)`, `x ≠ \n` -/
def LooseArg (l : Str) : Prop :=
  ∃ w1 m x w2, l = w1 ++ 97 :: 114 :: 103 :: 40 :: (m ++ 41 :: x :: w2) ∧
    w1.all isWs = true ∧ m ≠ [] ∧ m.all (fun c => c != 41) = true ∧ x ≠ 10 ∧ w2.all isWs = true

/-- `\s*att\(m1,m2\)x\s*` with `m1` non-empty without `,`, `m2` non-empty without `)` -/
def LooseAtt (l : Str) : Prop :=
  ∃ w1 m1 m2 x w2, l = w1 ++ 97 :: 116 :: 116 :: 40 :: (m1 ++ 44 :: (m2 ++ 41 :: x :: w2)) ∧
    w1.all isWs = true ∧ m1 ≠ [] ∧ m1.all (fun c => c != 44) = true ∧
    m2 ≠ [] ∧ m2.all (fun c => c != 41) = true ∧ x ≠ 10 ∧ w2.all isWs = true

/- In `argLine_nf`, `attLine_nf`, `argLineName_nf`, `attLineNames_nf` below `simp only` leaves one `∃ u t, s = u ++ t ∧ … ∧`
or `∃ t, s = c :: t ∧` per node of the pattern, nested to the right; the `rintro` patterns follow
that nesting.  In the two strict patterns `decide` discharges the side conditions `hasGroup _ = false` of
`matchesG_grp_cat` / `matchesG_of_noGroup`. -/
theorem argLine_nf (l : Str) : Matches Gen.argLine l ↔ LooseArg l := by
  unfold Gen.argLine LooseArg
  simp only [matches_starcls_cat, matches_chr_cat, matches_pluscls_cat, matches_any_cat,
    matches_star_cls, cls_ws, cls_not]
  constructor
  · rintro ⟨w1, _, rfl, hw1, _, rfl, _, rfl, _, rfl, _, rfl, m, _, rfl, ⟨hm, hm'⟩, _, rfl, x, w2, rfl, hx, hw2⟩
    exact ⟨w1, m, x, w2, rfl, hw1, hm, hm', hx, hw2⟩
  · rintro ⟨w1, m, x, w2, rfl, hw1, hm, hm', hx, hw2⟩
    exact ⟨w1, _, rfl, hw1, _, rfl, _, rfl, _, rfl, _, rfl, m, _, rfl, ⟨hm, hm'⟩, _, rfl, x, w2, rfl, hx, hw2⟩

theorem attLine_nf (l : Str) : Matches Gen.attLine l ↔ LooseAtt l := by
  unfold Gen.attLine LooseAtt
  simp only [matches_starcls_cat, matches_chr_cat, matches_pluscls_cat, matches_any_cat,
    matches_star_cls, cls_ws, cls_not]
  constructor
  · rintro ⟨w1, _, rfl, hw1, _, rfl, _, rfl, _, rfl, _, rfl, m1, _, rfl, ⟨hm1, hm1'⟩, _, rfl,
      m2, _, rfl, ⟨hm2, hm2'⟩, _, rfl, x, w2, rfl, hx, hw2⟩
    exact ⟨w1, m1, m2, x, w2, rfl, hw1, hm1, hm1', hm2, hm2', hx, hw2⟩
  · rintro ⟨w1, m1, m2, x, w2, rfl, hw1, hm1, hm1', hm2, hm2', hx, hw2⟩
    exact ⟨w1, _, rfl, hw1, _, rfl, _, rfl, _, rfl, _, rfl, m1, _, rfl, ⟨hm1, hm1'⟩, _, rfl,
      m2, _, rfl, ⟨hm2, hm2'⟩, _, rfl, x, w2, rfl, hx, hw2⟩

/-- the shape `simp only` leaves for the body of a capturing group, folded into `IdSp`: a rewrite
rule of the two strict normal forms -/
theorem idGroup_nf (g : Str) :
    (∃ u t, g = u ++ t ∧ u.all isWs = true ∧ ∃ c t', t = c :: t' ∧ isIdStart c = true ∧
      ∃ ds v, t' = ds ++ v ∧ ds.all isIdChar = true ∧ v.all isWs = true) ↔ ∃ id, IdSp g id := by
  constructor
  · rintro ⟨u, _, rfl, hu, c, _, rfl, hc, ds, v, rfl, hds, hv⟩
    exact ⟨_, u, c, ds, v, rfl, hu, hc, hds, hv, rfl⟩
  · rintro ⟨_, u, c, ds, v, rfl, hu, hc, hds, hv, rfl⟩
    exact ⟨u, _, rfl, hu, c, _, rfl, hc, ds, v, rfl, hds, hv⟩

theorem argLineName_nf (l : Str) (gs : List Str) :
    MatchesG Gen.argLineName l gs ↔ ∃ g x id, gs = [g] ∧ StrictArg l g x id ∧ x ≠ 10 := by
  unfold Gen.argLineName StrictArg
  simp (config := { decide := true }) only [matchesG_starcls_cat, matchesG_chr_cat, matchesG_grp_cat, matchesG_of_noGroup,
    matches_starcls_cat, matches_cls_cat, matches_chr_cat, matches_any_cat,
    matches_star_cls, cls_ws, cls_idStart, cls_idChar, idGroup_nf]
  constructor
  · rintro ⟨w1, _, rfl, hw1, _, rfl, _, rfl, _, rfl, _, rfl, g, _, _, rfl, rfl, ⟨id, hid⟩,
      ⟨_, rfl, x, w2, rfl, hx, hw2⟩, rfl⟩
    exact ⟨g, x, id, rfl, ⟨w1, w2, rfl, hw1, hid, hw2⟩, hx⟩
  · rintro ⟨g, x, id, rfl, ⟨w1, w2, rfl, hw1, hid, hw2⟩, hx⟩
    exact ⟨w1, _, rfl, hw1, _, rfl, _, rfl, _, rfl, _, rfl, g, _, _, rfl, rfl, ⟨id, hid⟩,
      ⟨_, rfl, x, w2, rfl, hx, hw2⟩, rfl⟩

theorem attLineNames_nf (l : Str) (gs : List Str) :
    MatchesG Gen.attLineNames l gs ↔
      ∃ g1 g2 x a b, gs = [g1, g2] ∧ StrictAtt l g1 g2 x a b ∧ x ≠ 10 := by
  unfold Gen.attLineNames StrictAtt
  simp (config := { decide := true }) only [matchesG_starcls_cat, matchesG_chr_cat, matchesG_grp_cat, matchesG_of_noGroup,
    matches_starcls_cat, matches_cls_cat, matches_chr_cat, matches_any_cat,
    matches_star_cls, cls_ws, cls_idStart, cls_idChar, idGroup_nf]
  constructor
  · rintro ⟨w1, _, rfl, hw1, _, rfl, _, rfl, _, rfl, _, rfl, g1, _, _, rfl, rfl, ⟨a, ha⟩,
      _, rfl, g2, _, _, rfl, rfl, ⟨b, hb⟩, ⟨_, rfl, x, w2, rfl, hx, hw2⟩, rfl⟩
    exact ⟨g1, g2, x, a, b, rfl, ⟨w1, w2, rfl, hw1, ha, hb, hw2⟩, hx⟩
  · rintro ⟨g1, g2, x, a, b, rfl, ⟨w1, w2, rfl, hw1, ha, hb, hw2⟩, hx⟩
    exact ⟨w1, _, rfl, hw1, _, rfl, _, rfl, _, rfl, _, rfl, g1, _, _, rfl, rfl, ⟨a, ha⟩,
      _, rfl, g2, _, _, rfl, rfl, ⟨b, hb⟩, ⟨_, rfl, x, w2, rfl, hx, hw2⟩, rfl⟩

theorem split_unique {p : Nat → Bool} {u u' r r' : Str} (hu : u.all p = true) (hu' : u'.all p = true)
    (hr : ∀ x ∈ r.head?, p x = false) (hr' : ∀ x ∈ r'.head?, p x = false)
    (h : u ++ r = u' ++ r') : u = u' ∧ r = r' := by
  have h1 := takeWhile_dropWhile_split u r hu hr
  have h2 := takeWhile_dropWhile_split u' r' hu' hr'
  rw [h] at h1
  exact ⟨h1.1.symm.trans h2.1, h1.2.symm.trans h2.2⟩

theorem until_unique {t : Nat} {u u' r r' : Str} (hu : u.all (fun c => c != t) = true)
    (hu' : u'.all (fun c => c != t) = true) (e : u ++ t :: r = u' ++ t :: r') : u = u' ∧ r = r' := by
  have hp : (fun c => c != t) t = false := bne_self_eq_false t
  have := split_unique hu hu' (head_cons_not hp) (head_cons_not hp) e
  exact ⟨this.1, (List.cons.inj this.2).2⟩

/-- `97` is `a`, the first letter of both `arg(` and `att(` -/
theorem ws_prefix_unique {w w' r r' : Str} (hw : w.all isWs = true) (hw' : w'.all isWs = true)
    (e : w ++ 97 :: r = w' ++ 97 :: r') : r = r' :=
  (List.cons.inj (split_unique hw hw' (head_cons_not isWs_97) (head_cons_not isWs_97) e).2).2

theorem all_mono {p q : Nat → Bool} {l : Str} (h : ∀ c, p c = true → q c = true)
    (hl : l.all p = true) : l.all q = true := by
  rw [List.all_eq_true] at hl ⊢
  exact fun c hc => h c (hl c hc)

/-- used with `t` the terminators `)` (41) and `,` (44) -/
theorem IdSp.all_ne {g id : Str} (h : IdSp g id) (t : Nat) (htw : isWs t = false)
    (hti : isIdChar t = false) : g.all (fun c => c != t) = true := by
  obtain ⟨u, c, ds, v, rfl, hu, hc, hds, hv, _⟩ := h
  have hws : ∀ c, isWs c = true → (c != t) = true := by
    intro c hc; simp only [bne_iff_ne]; rintro rfl; rw [hc] at htw; cases htw
  have hid : ∀ c, isIdChar c = true → (c != t) = true := by
    intro c hc; simp only [bne_iff_ne]; rintro rfl; rw [hc] at hti; cases hti
  simp only [List.all_append, List.all_cons, Bool.and_eq_true]
  exact ⟨all_mono hws hu, hid c (isIdStart_isIdChar c hc), all_mono hid hds, all_mono hws hv⟩

theorem IdSp.ne_nil {g id : Str} (h : IdSp g id) : g ≠ [] := by
  obtain ⟨u, c, ds, v, rfl, _⟩ := h
  simp

/-- the identifier is the trimmed capture (`captured_arg` of the Rust code) -/
theorem IdSp.trim {g id : Str} (h : IdSp g id) : trimWs g = id := by
  obtain ⟨u, c, ds, v, rfl, hu, hc, hds, hv, rfl⟩ := h
  have hcw : isWs c = false := isIdChar_not_isWs c (isIdStart_isIdChar c hc)
  unfold trimWs
  rw [(takeWhile_dropWhile_split u (c :: (ds ++ v)) hu (head_cons_not hcw)).2]
  have e : (c :: (ds ++ v)).reverse = v.reverse ++ (c :: ds).reverse := by simp
  have hh : ∀ x ∈ ((c :: ds).reverse).head?, isWs x = false := by
    intro x hx
    have hm : x ∈ (c :: ds).reverse := List.mem_of_mem_head? hx
    rw [List.mem_reverse, List.mem_cons] at hm
    rcases hm with rfl | hm
    · exact hcw
    · exact isIdChar_not_isWs x (List.all_eq_true.1 hds x hm)
  rw [e, (takeWhile_dropWhile_split v.reverse _ (by simpa using hv) hh).2, List.reverse_reverse]

theorem StrictArg.unique {l g g' : Str} {x x' : Nat} {id id' : Str}
    (h : StrictArg l g x id) (h' : StrictArg l g' x' id') : g = g' ∧ x = x' ∧ id = id' := by
  obtain ⟨w1, w2, rfl, hw1, hid, hw2⟩ := h
  obtain ⟨w1', w2', e, hw1', hid', hw2'⟩ := h'
  have e1 := ws_prefix_unique hw1 hw1' e
  simp only [List.cons.injEq, true_and] at e1
  obtain ⟨rfl, e2⟩ := until_unique (hid.all_ne 41 isWs_41 isIdChar_41) (hid'.all_ne 41 isWs_41 isIdChar_41) e1
  exact ⟨rfl, (List.cons.inj e2).1, hid.trim.symm.trans hid'.trim⟩

theorem StrictAtt.unique {l g1 g2 g1' g2' : Str} {x x' : Nat} {a b a' b' : Str}
    (h : StrictAtt l g1 g2 x a b) (h' : StrictAtt l g1' g2' x' a' b') :
    g1 = g1' ∧ g2 = g2' ∧ x = x' ∧ a = a' ∧ b = b' := by
  obtain ⟨w1, w2, rfl, hw1, ha, hb, hw2⟩ := h
  obtain ⟨w1', w2', e, hw1', ha', hb', hw2'⟩ := h'
  have e1 := ws_prefix_unique hw1 hw1' e
  simp only [List.cons.injEq, true_and] at e1
  obtain ⟨rfl, e2⟩ := until_unique (ha.all_ne 44 isWs_44 isIdChar_44) (ha'.all_ne 44 isWs_44 isIdChar_44) e1
  obtain ⟨rfl, e3⟩ := until_unique (hb.all_ne 41 isWs_41 isIdChar_41) (hb'.all_ne 41 isWs_41 isIdChar_41) e2
  exact ⟨rfl, rfl, (List.cons.inj e3).1, ha.trim.symm.trans ha'.trim, hb.trim.symm.trans hb'.trim⟩

theorem StrictArg.dot_mem {l g : Str} {x : Nat} {id : Str} (h : StrictArg l g x id) : x ∈ l := by
  obtain ⟨w1, w2, rfl, _⟩ := h; simp

theorem StrictAtt.dot_mem {l g1 g2 : Str} {x : Nat} {a b : Str} (h : StrictAtt l g1 g2 x a b) :
    x ∈ l := by
  obtain ⟨w1, w2, rfl, _⟩ := h; simp

theorem StrictArg.trim {l g : Str} {x : Nat} {id : Str} (h : StrictArg l g x id) : trimWs g = id := by
  obtain ⟨_, _, _, _, hid, _⟩ := h; exact hid.trim

theorem StrictAtt.trim {l g1 g2 : Str} {x : Nat} {a b : Str} (h : StrictAtt l g1 g2 x a b) :
    trimWs g1 = a ∧ trimWs g2 = b := by
  obtain ⟨_, _, _, _, ha, hb, _⟩ := h; exact ⟨ha.trim, hb.trim⟩

theorem argLineName_groups {l : Str} {gs : List Str} (h : MatchesG Gen.argLineName l gs) :
    ∃ g, gs = [g] := by
  obtain ⟨g, _, _, rfl, _⟩ := (argLineName_nf l gs).1 h; exact ⟨g, rfl⟩

theorem attLineNames_groups {l : Str} {gs : List Str} (h : MatchesG Gen.attLineNames l gs) :
    ∃ g1 g2, gs = [g1, g2] := by
  obtain ⟨g1, g2, _, _, _, rfl, _⟩ := (attLineNames_nf l gs).1 h; exact ⟨g1, g2, rfl⟩

theorem groupsFlat_patterns :
    GroupsFlat Gen.argLine = true ∧ GroupsFlat Gen.argLineName = true ∧
    GroupsFlat Gen.attLine = true ∧ GroupsFlat Gen.attLineNames = true := by decide

theorem numGroups_patterns :
    numGroups Gen.argLine = 0 ∧ numGroups Gen.argLineName = 1 ∧
    numGroups Gen.attLine = 0 ∧ numGroups Gen.attLineNames = 2 := by decide

/-- **uniqueness of the capture** of `ARG_LINE_ARG_NAME_PATTERN`: whatever the disambiguation
strategy of the regex engine (leftmost-first for the regex crate), the group is the same -/
theorem argLineName_capture_unique (l g g' : Str)
    (h : MatchesG Gen.argLineName l [g]) (h' : MatchesG Gen.argLineName l [g']) : g = g' := by
  obtain ⟨g1, x, id, e, hs, _⟩ := (argLineName_nf l _).1 h
  obtain ⟨g1', x', id', e', hs', _⟩ := (argLineName_nf l _).1 h'
  cases e; cases e'
  exact (hs.unique hs').1

/-- **uniqueness of the captures** of `ATT_LINE_ARG_NAMES_PATTERN` -/
theorem attLineNames_capture_unique (l g1 g2 g1' g2' : Str)
    (h : MatchesG Gen.attLineNames l [g1, g2]) (h' : MatchesG Gen.attLineNames l [g1', g2']) :
    g1 = g1' ∧ g2 = g2' := by
  obtain ⟨k1, k2, x, a, b, e, hs, _⟩ := (attLineNames_nf l _).1 h
  obtain ⟨k1', k2', x', a', b', e', hs', _⟩ := (attLineNames_nf l _).1 h'
  cases e; cases e'
  exact ⟨(hs.unique hs').1, (hs.unique hs').2.1⟩

theorem matchArg_of_matchesG (l g : Str) (h : MatchesG Gen.argLineName l [g]) :
    matchArg l = some (trimWs g) := by
  obtain ⟨g1, x, id, e, hs, _⟩ := (argLineName_nf l _).1 h
  cases e
  rw [hs.trim]
  exact (matchArg_nf _ _).2 ⟨g, x, hs⟩

theorem matchesG_of_matchArg (l lab : Str) (hnl : ∀ c ∈ l, c ≠ 10) (h : matchArg l = some lab) :
    ∃ g, MatchesG Gen.argLineName l [g] ∧ lab = trimWs g := by
  obtain ⟨g, x, hs⟩ := (matchArg_nf l lab).1 h
  exact ⟨g, (argLineName_nf l _).2 ⟨g, x, lab, rfl, hs, hnl x hs.dot_mem⟩, hs.trim.symm⟩

/-- **`matchArg` implements `ARG_LINE_ARG_NAME_PATTERN` + `captured_arg`** on lines without `\n` -/
theorem matchArg_iff (l lab : Str) (hnl : ∀ c ∈ l, c ≠ 10) :
    matchArg l = some lab ↔ ∃ g, MatchesG Gen.argLineName l [g] ∧ lab = trimWs g :=
  ⟨matchesG_of_matchArg l lab hnl, fun ⟨g, h, e⟩ => e ▸ matchArg_of_matchesG l g h⟩

theorem matchAtt_of_matchesG (l g1 g2 : Str) (h : MatchesG Gen.attLineNames l [g1, g2]) :
    matchAtt l = some (trimWs g1, trimWs g2) := by
  obtain ⟨k1, k2, x, a, b, e, hs, _⟩ := (attLineNames_nf l _).1 h
  cases e
  rw [hs.trim.1, hs.trim.2]
  exact (matchAtt_nf _ _ _).2 ⟨g1, g2, x, hs⟩

theorem matchesG_of_matchAtt (l a b : Str) (hnl : ∀ c ∈ l, c ≠ 10) (h : matchAtt l = some (a, b)) :
    ∃ g1 g2, MatchesG Gen.attLineNames l [g1, g2] ∧ a = trimWs g1 ∧ b = trimWs g2 := by
  obtain ⟨g1, g2, x, hs⟩ := (matchAtt_nf l a b).1 h
  exact ⟨g1, g2, (attLineNames_nf l _).2 ⟨g1, g2, x, a, b, rfl, hs, hnl x hs.dot_mem⟩,
    hs.trim.1.symm, hs.trim.2.symm⟩

/-- **`matchAtt` implements `ATT_LINE_ARG_NAMES_PATTERN` + `captured_arg`** on lines without `\n` -/
theorem matchAtt_iff (l a b : Str) (hnl : ∀ c ∈ l, c ≠ 10) :
    matchAtt l = some (a, b) ↔
      ∃ g1 g2, MatchesG Gen.attLineNames l [g1, g2] ∧ a = trimWs g1 ∧ b = trimWs g2 :=
  ⟨matchesG_of_matchAtt l a b hnl, fun ⟨g1, g2, h, ea, eb⟩ => ea ▸ eb ▸ matchAtt_of_matchesG l g1 g2 h⟩

theorem matchArg_eq_none_iff (l : Str) (hnl : ∀ c ∈ l, c ≠ 10) :
    matchArg l = none ↔ ¬ Matches Gen.argLineName l := by
  constructor
  · intro h hm
    obtain ⟨gs, hg⟩ := hm.exists_groups
    obtain ⟨g, rfl⟩ := argLineName_groups hg
    rw [matchArg_of_matchesG l g hg] at h; cases h
  · intro h
    cases hm : matchArg l with
    | none => rfl
    | some lab =>
      obtain ⟨g, hg, _⟩ := matchesG_of_matchArg l lab hnl hm
      exact absurd hg.matches h

theorem matchAtt_eq_none_iff (l : Str) (hnl : ∀ c ∈ l, c ≠ 10) :
    matchAtt l = none ↔ ¬ Matches Gen.attLineNames l := by
  constructor
  · intro h hm
    obtain ⟨gs, hg⟩ := hm.exists_groups
    obtain ⟨g1, g2, rfl⟩ := attLineNames_groups hg
    rw [matchAtt_of_matchesG l g1 g2 hg] at h; cases h
  · intro h
    cases hm : matchAtt l with
    | none => rfl
    | some q =>
      obtain ⟨a, b⟩ := q
      obtain ⟨g1, g2, hg, _⟩ := matchesG_of_matchAtt l a b hnl hm
      exact absurd hg.matches h

/-! ### the hypothesis "no line feed" is necessary

On `arg(a)` followed by a line feed the scanner answers `a`, the pattern does not match (the `.`
would have to match `\n`).  Such a line is never produced by `BufRead::lines` (`Readers.lines`
splits at every `\n`). -/

theorem lf_disagreement :
    matchArg [97, 114, 103, 40, 97, 41, 10] = some [97] ∧
    ¬ Matches Gen.argLineName [97, 114, 103, 40, 97, 41, 10] ∧
    ¬ Matches Gen.argLine [97, 114, 103, 40, 97, 41, 10] := by
  have hs : StrictArg [97, 114, 103, 40, 97, 41, 10] [97] 10 [97] :=
    ⟨[], [], rfl, rfl, ⟨[], 97, [], [], rfl, rfl, by decide, rfl, rfl, rfl⟩, rfl⟩
  have hno : ¬ Matches Gen.argLineName [97, 114, 103, 40, 97, 41, 10] := by
    intro hm
    obtain ⟨gs, hg⟩ := hm.exists_groups
    obtain ⟨g, x, id, _, hs', hx⟩ := (argLineName_nf _ _).1 hg
    exact hx (hs'.unique hs).2.1
  refine ⟨(matchArg_nf _ _).2 ⟨_, _, hs⟩, hno, ?_⟩
  intro hm
  obtain ⟨w1, m, x, w2, e, hw1, _, hm', hx, _⟩ := (argLine_nf _).1 hm
  have e1 := ws_prefix_unique (w := []) rfl hw1 e
  simp only [List.cons.injEq, true_and] at e1
  have e2 := (until_unique (u := [97]) (by decide) hm' e1).2
  exact hx (List.cons.inj e2).1.symm

/-- in general the scanner accepts the lines of the pattern and those where `.` faces a line feed -/
theorem matchArg_iff_general (l lab : Str) :
    matchArg l = some lab ↔
      (∃ g, MatchesG Gen.argLineName l [g] ∧ lab = trimWs g) ∨ (∃ g, StrictArg l g 10 lab) := by
  constructor
  · intro h
    obtain ⟨g, x, hs⟩ := (matchArg_nf l lab).1 h
    by_cases hx : x = 10
    · subst hx; exact .inr ⟨g, hs⟩
    · exact .inl ⟨g, (argLineName_nf l _).2 ⟨g, x, lab, rfl, hs, hx⟩, hs.trim.symm⟩
  · rintro (⟨g, h, rfl⟩ | ⟨g, hs⟩)
    · exact matchArg_of_matchesG l g h
    · exact (matchArg_nf _ _).2 ⟨g, 10, hs⟩

theorem strictArg_loose {l g : Str} {x : Nat} {id : Str} (h : StrictArg l g x id) (hx : x ≠ 10) :
    LooseArg l := by
  obtain ⟨w1, w2, rfl, hw1, hid, hw2⟩ := h
  exact ⟨w1, g, x, w2, rfl, hw1, hid.ne_nil, hid.all_ne 41 isWs_41 isIdChar_41, hx, hw2⟩

theorem strictAtt_loose {l g1 g2 : Str} {x : Nat} {a b : Str} (h : StrictAtt l g1 g2 x a b)
    (hx : x ≠ 10) : LooseAtt l := by
  obtain ⟨w1, w2, rfl, hw1, ha, hb, hw2⟩ := h
  exact ⟨w1, g1, g2, x, w2, rfl, hw1, ha.ne_nil, ha.all_ne 44 isWs_44 isIdChar_44, hb.ne_nil,
    hb.all_ne 41 isWs_41 isIdChar_41, hx, hw2⟩

theorem strict_sub_loose_arg (l : Str) (h : Matches Gen.argLineName l) : Matches Gen.argLine l := by
  obtain ⟨gs, hg⟩ := h.exists_groups
  obtain ⟨g, x, id, _, hs, hx⟩ := (argLineName_nf l gs).1 hg
  exact (argLine_nf l).2 (strictArg_loose hs hx)

theorem strict_sub_loose_att (l : Str) (h : Matches Gen.attLineNames l) : Matches Gen.attLine l := by
  obtain ⟨gs, hg⟩ := h.exists_groups
  obtain ⟨g1, g2, x, a, b, _, hs, hx⟩ := (attLineNames_nf l gs).1 hg
  exact (attLine_nf l).2 (strictAtt_loose hs hx)

theorem arg_att_exclusive (l : Str) : ¬ (Matches Gen.argLine l ∧ Matches Gen.attLine l) := by
  rintro ⟨ha, ht⟩
  obtain ⟨w1, m, x, w2, rfl, hw1, _⟩ := (argLine_nf l).1 ha
  obtain ⟨w1', m1, m2, x', w2', e, hw1', _⟩ := (attLine_nf _).1 ht
  exact absurd (List.cons.inj (ws_prefix_unique hw1 hw1' e)).1 (by decide)

theorem blank_matches_none (l : Str) (hb : l.all isWs = true) :
    ¬ Matches Gen.argLine l ∧ ¬ Matches Gen.attLine l := by
  have h97 : ∀ (w r : Str), l = w ++ 97 :: r → False := by
    rintro w r rfl
    simp only [List.all_append, List.all_cons, Bool.and_eq_true] at hb
    rw [isWs_97] at hb; exact absurd hb.2.1 (by decide)
  constructor
  · intro h
    obtain ⟨w1, m, x, w2, e, _⟩ := (argLine_nf l).1 h
    exact h97 _ _ e
  · intro h
    obtain ⟨w1, m1, m2, x, w2, e, _⟩ := (attLine_nf l).1 h
    exact h97 _ _ e

theorem strict_sub_loose (l : Str) :
    (Matches Gen.argLineName l → Matches Gen.argLine l) ∧
    (Matches Gen.attLineNames l → Matches Gen.attLine l) :=
  ⟨strict_sub_loose_arg l, strict_sub_loose_att l⟩

/-! ## non-vacuity: the strict patterns do match, with the expected captures -/

theorem example_arg :
    MatchesG Gen.argLineName (strOf "  arg( a1 ). ") [strOf " a1 "] ∧
    matchArg (strOf "  arg( a1 ). ") = some (strOf "a1") := by
  have hs : StrictArg (strOf "  arg( a1 ). ") (strOf " a1 ") 46 (strOf "a1") :=
    ⟨[32, 32], [32], by decide +kernel, by decide +kernel,
      ⟨[32], 97, [49], [32], by decide +kernel, by decide +kernel, by decide +kernel, by decide +kernel, by decide +kernel, by decide +kernel⟩, by decide +kernel⟩
  exact ⟨(argLineName_nf _ _).2 ⟨_, 46, _, rfl, hs, by decide +kernel⟩, (matchArg_nf _ _).2 ⟨_, _, hs⟩⟩

theorem example_att :
    MatchesG Gen.attLineNames (strOf "att(a , _b)x") [strOf "a ", strOf " _b"] ∧
    matchAtt (strOf "att(a , _b)x") = some (strOf "a", strOf "_b") := by
  have hs : StrictAtt (strOf "att(a , _b)x") (strOf "a ") (strOf " _b") 120 (strOf "a") (strOf "_b") :=
    ⟨[], [], by decide +kernel, by decide +kernel,
      ⟨[], 97, [], [32], by decide +kernel, by decide +kernel, by decide +kernel, by decide +kernel, by decide +kernel, by decide +kernel⟩,
      ⟨[32], 95, [98], [], by decide +kernel, by decide +kernel, by decide +kernel, by decide +kernel, by decide +kernel, by decide +kernel⟩, by decide +kernel⟩
  exact ⟨(attLineNames_nf _ _).2 ⟨_, _, 120, _, _, rfl, hs, by decide +kernel⟩, (matchAtt_nf _ _ _).2 ⟨_, _, _, hs⟩⟩

def ExactlyOne : List Prop → Prop
  | [] => False
  | p :: ps => (p ∧ ∀ q ∈ ps, ¬ q) ∨ (¬ p ∧ ExactlyOne ps)

/-- a decision tree whose leaves are the five classes: blank; strict argument (hence loose argument,
hence not loose attack); strict attack; loose only; none -/
theorem exactlyOne_five (B NB A T LA LT : Prop) (hNB : NB ↔ ¬ B) (hAL : A → LA) (hTL : T → LT)
    (hex : ¬ (LA ∧ LT)) (hbl : B → ¬ LA ∧ ¬ LT) :
    ExactlyOne [B, A, T, (LA ∧ ¬ A) ∨ (LT ∧ ¬ T), NB ∧ ¬ LA ∧ ¬ LT] := by
  simp only [ExactlyOne, List.mem_cons, List.not_mem_nil, or_false, forall_eq_or_imp, forall_eq,
    false_implies, implies_true, and_true]
  by_cases hB : B
  · have h := hbl hB
    exact .inl ⟨hB, fun hA => h.1 (hAL hA), fun hT => h.2 (hTL hT),
      fun hl => hl.elim (fun x => h.1 x.1) (fun x => h.2 x.1), fun hn => hNB.1 hn.1 hB⟩
  refine .inr ⟨hB, ?_⟩
  by_cases hA : A
  · have hLT : ¬ LT := fun x => hex ⟨hAL hA, x⟩
    exact .inl ⟨hA, fun hT => hLT (hTL hT), fun hl => hl.elim (fun x => x.2 hA) (fun x => hLT x.1),
      fun hn => hn.2.1 (hAL hA)⟩
  refine .inr ⟨hA, ?_⟩
  by_cases hT : T
  · have hLA : ¬ LA := fun x => hex ⟨x, hTL hT⟩
    exact .inl ⟨hT, fun hl => hl.elim (fun x => hLA x.1) (fun x => x.2 hT), fun hn => hn.2.2 (hTL hT)⟩
  refine .inr ⟨hT, ?_⟩
  by_cases hL : LA ∨ LT
  · exact .inl ⟨hL.imp (fun x => ⟨x, hA⟩) (fun x => ⟨x, hT⟩), fun hn => hL.elim hn.2.1 hn.2.2⟩
  · exact .inr ⟨fun hl => hL (hl.imp And.left And.left),
      .inl ⟨hNB.2 hB, fun x => hL (.inl x), fun x => hL (.inr x)⟩⟩

/-- **Classification of a line (without line feed) by the four patterns, and what the reader
model does in each case.**

Rust (`AspartixReader::read`): blank → skipped; else `ARG_LINE_PATTERN` → (`ARG_LINE_ARG_NAME_PATTERN`
→ argument `trim(group 1)` | error "invalid argument name"); else `ATT_LINE_PATTERN` →
(`ATT_LINE_ARG_NAMES_PATTERN` → attack `(trim(group 1), trim(group 2))` | error "invalid argument
names"); else error "syntax error".  By `strict_sub_loose_*`, `arg_att_exclusive` and
`blank_matches_none` this is the five-way partition below, and the model takes the same branch
(the two error classes are both `.error "syntax error"` in the model). -/
theorem apx_line_classification (l : Str) (hnl : ∀ c ∈ l, c ≠ 10) (st : ApxSt) :
    ExactlyOne [
      l.all isWs = true,
      Matches Gen.argLineName l,
      Matches Gen.attLineNames l,
      (Matches Gen.argLine l ∧ ¬ Matches Gen.argLineName l) ∨
        (Matches Gen.attLine l ∧ ¬ Matches Gen.attLineNames l),
      l.all isWs = false ∧ ¬ Matches Gen.argLine l ∧ ¬ Matches Gen.attLine l ] ∧
    (l.all isWs = true → apxLine st (some l) = .ok st) ∧
    (Matches Gen.argLineName l →
      ∃ g, MatchesG Gen.argLineName l [g] ∧ l.all isWs = false ∧ matchArg l = some (trimWs g)) ∧
    (Matches Gen.attLineNames l →
      ∃ g1 g2, MatchesG Gen.attLineNames l [g1, g2] ∧ l.all isWs = false ∧ matchArg l = none ∧
        matchAtt l = some (trimWs g1, trimWs g2)) ∧
    ((Matches Gen.argLine l ∧ ¬ Matches Gen.argLineName l) ∨
        (Matches Gen.attLine l ∧ ¬ Matches Gen.attLineNames l) →
      l.all isWs = false ∧ matchArg l = none ∧ matchAtt l = none ∧
        apxLine st (some l) = .error "syntax error") ∧
    (l.all isWs = false ∧ ¬ Matches Gen.argLine l ∧ ¬ Matches Gen.attLine l →
      matchArg l = none ∧ matchAtt l = none ∧ apxLine st (some l) = .error "syntax error") := by
  have hAL := strict_sub_loose_arg l
  have hTL := strict_sub_loose_att l
  have hex := arg_att_exclusive l
  have hbl := blank_matches_none l
  have hnb : ∀ {p : Prop}, (l.all isWs = true → ¬ p) → p → l.all isWs = false := by
    intro p h hp
    cases hb : l.all isWs with
    | false => rfl
    | true => exact absurd hp (h hb)
  have hAn := matchArg_eq_none_iff l hnl
  have hTn := matchAtt_eq_none_iff l hnl
  have herr : l.all isWs = false → matchArg l = none → matchAtt l = none →
      apxLine st (some l) = .error "syntax error" := by
    intro h1 h2 h3
    show (if l.all isWs = true then _ else _) = _
    rw [if_neg (by rw [h1]; exact Bool.false_ne_true), h2, h3]
  refine ⟨?_, ?_, ?_, ?_, ?_, ?_⟩
  · exact exactlyOne_five _ _ _ _ _ _ (by simp) hAL hTL hex hbl
  · exact fun hb => if_pos hb
  · intro hA
    obtain ⟨gs, hg⟩ := hA.exists_groups
    obtain ⟨g, rfl⟩ := argLineName_groups hg
    exact ⟨g, hg, hnb (fun hb => (hbl hb).1) (hAL hA), matchArg_of_matchesG l g hg⟩
  · intro hT
    obtain ⟨gs, hg⟩ := hT.exists_groups
    obtain ⟨g1, g2, rfl⟩ := attLineNames_groups hg
    exact ⟨g1, g2, hg, hnb (fun hb => (hbl hb).2) (hTL hT),
      hAn.2 (fun hA => hex ⟨hAL hA, hTL hT⟩), matchAtt_of_matchesG l g1 g2 hg⟩
  · intro h
    have h1 : l.all isWs = false := by
      rcases h with h | h
      · exact hnb (fun hb => (hbl hb).1) h.1
      · exact hnb (fun hb => (hbl hb).2) h.1
    have h2 : matchArg l = none := by
      rcases h with h | h
      · exact hAn.2 h.2
      · exact hAn.2 (fun hA => hex ⟨hAL hA, h.1⟩)
    have h3 : matchAtt l = none := by
      rcases h with h | h
      · exact hTn.2 (fun hT => hex ⟨h.1, hTL hT⟩)
      · exact hTn.2 h.2
    exact ⟨h1, h2, h3, herr h1 h2 h3⟩
  · rintro ⟨h1, hA, hT⟩
    have h2 := hAn.2 (fun h => hA (hAL h))
    have h3 := hTn.2 (fun h => hT (hTL h))
    exact ⟨h2, h3, herr h1 h2 h3⟩

end Crusta.RxApx
