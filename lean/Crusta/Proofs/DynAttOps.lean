import Crusta.Proofs.DynAttInv

/-!
# The invariant holds right after a re-encoding

What `arg_id_to_solver_var` (`freshArgVar`) and `solver_vars` (`freshVars`) are after an encoding: the
live argument at position `p` of `liveArgs` gets the variable `p + 1`; with that, and with no clause of an
encoding being a unit clause (`encSpec_len`, for `AInv.unit_lt`), `ainv_reencoded`.
-/

namespace Crusta.DynAtt
open Crusta Crusta.Dyn

theorem auxLits_length : ∀ (m N : Nat), (auxLits m N).length = m := by
  intro m
  induction m with
  | zero => intro N; rfl
  | succ m ih => intro N; simp [auxLits, ih]

theorem passSpec_len {n N : Nat} {pre : Nat → Cnf} {head : Nat → Lit} {cell : Nat → Nat → Nat → Cnf}
    (hpre : ∀ x, ∀ c ∈ pre x, 2 ≤ c.length) (hcell : ∀ x a u, ∀ c ∈ cell x a u, 2 ≤ c.length)
    {c : Clause} (h : PassSpec n N pre head cell c) : 2 ≤ c.length := by
  obtain ⟨i, hi, h | ⟨j, _, h⟩ | rfl⟩ := h
  · exact hpre _ c h
  · exact hcell _ _ _ c h
  · simp [auxLits_length]; omega

theorem encSpec_len {sem : DSem} {n : Nat} {c : Clause} (h : EncSpec sem n c) : 2 ≤ c.length := by
  have hcell : ∀ x a u, (∀ c ∈ stCell n x a u, 2 ≤ c.length) ∧ (∀ c ∈ coCell1 n x a u, 2 ≤ c.length) ∧
      ∀ c ∈ coCell2 n x a u, 2 ≤ c.length := fun x a u => by
    simp only [stCell, coCell1, coCell2, List.forall_mem_cons, List.length_cons, List.length_nil,
      List.not_mem_nil, false_imp_iff, implies_true, and_true]
    decide
  have hp0 : ∀ x : Nat, ∀ c ∈ (fun _ : Nat => ([] : Cnf)) x, 2 ≤ c.length := fun _ _ hc => nomatch hc
  have hp1 : ∀ x : Nat, ∀ c ∈ (fun x : Nat => ([[nl x, nl (disjVar n x)]] : Cnf)) x, 2 ≤ c.length :=
    fun x => by simp
  cases sem with
  | ST => exact passSpec_len hp0 (fun x a u => (hcell x a u).1) h
  | _ =>
    exact h.elim (passSpec_len hp1 fun x a u => (hcell x a u).2.1) (passSpec_len hp0 fun x a u => (hcell x a u).2.2)

theorem foldl_set_spec : ∀ (ps : List ((Nat × Nat) × Nat)) (t : List (Option Nat)),
    (ps.map (·.1.1)).Nodup → (∀ p ∈ ps, p.1.1 < t.length) →
    (ps.foldl (fun t p => t.set p.1.1 (some (p.2 + 1))) t).length = t.length ∧
    (∀ p ∈ ps, (ps.foldl (fun t p => t.set p.1.1 (some (p.2 + 1))) t).getD p.1.1 none = some (p.2 + 1)) ∧
    ∀ i, i ∉ ps.map (·.1.1) →
      (ps.foldl (fun t p => t.set p.1.1 (some (p.2 + 1))) t).getD i none = t.getD i none := by
  intro ps
  induction ps with
  | nil => intro t _ _; exact ⟨rfl, nofun, fun _ _ => rfl⟩
  | cons q rest ih =>
    intro t hnd hlt
    obtain ⟨hq, hnd⟩ := List.nodup_cons.1 hnd
    obtain ⟨hlen, hin, hout⟩ := ih (t.set q.1.1 (some (q.2 + 1))) hnd fun p hp =>
      (List.length_set ..).symm ▸ hlt p (List.mem_cons_of_mem _ hp)
    refine ⟨hlen.trans (List.length_set ..), fun p hp => ?_, fun i hi => ?_⟩
    · rcases List.mem_cons.1 hp with rfl | hp
      · exact (hout _ hq).trans (getD_set_eq _ _ _ _ (hlt p List.mem_cons_self))
      · exact hin p hp
    · rw [List.map_cons, List.mem_cons, not_or] at hi
      exact (hout i hi.2).trans (getD_set_ne _ _ _ _ _ (Ne.symm hi.1))

theorem liveArgs_length_aux : ∀ (l : List (Option Nat)) (k : Nat),
    ((l.zipIdx k).filterMap (fun p => p.1.map (fun x => (p.2, x)))).length = (l.filterMap id).length := by
  intro l
  induction l with
  | nil => intro k; rfl
  | cons a t ih =>
    intro k
    cases a with
    | none => simp [List.zipIdx_cons, ih]
    | some x => simp [List.zipIdx_cons, ih]

theorem liveArgs_length {st : Store} (hinv : st.Inv) : st.liveArgs.length = st.nArguments := by
  have h1 := Store.nArguments_eq hinv
  have h2 := Store.filterMap_id_length st.labels
  have h3 : st.liveArgs.length = (st.labels.filterMap id).length := liveArgs_length_aux st.labels 0
  omega

theorem hasId_lt {st : Store} {i : Nat} (h : st.hasId i = true) : i < st.labels.length := by
  obtain ⟨l, hl⟩ := Store.hasId_iff.1 h
  exact Store.live_lt hl

theorem table_len {st : Store} (h : st.labels ≠ []) : 1 + st.maxId.getD 0 = st.labels.length := by
  unfold Store.maxId
  cases hl : st.labels with
  | nil => exact absurd hl h
  | cons a t => simp; omega

theorem freshArgVar_spec (st : Store) :
    (st.labels ≠ [] → (freshArgVar st).length = st.labels.length) ∧
    ∀ i v, (freshArgVar st).getD i none = some v ↔
      ∃ p l, st.liveArgs[p]? = some (i, l) ∧ v = p + 1 := by
  unfold freshArgVar
  have hmap : (st.liveArgs.zipIdx.map (·.1.1)) = st.liveArgs.map (·.1) := by
    rw [show (fun p : (Nat × Nat) × Nat => p.1.1) = (fun q : Nat × Nat => q.1) ∘ Prod.fst from rfl,
      ← List.map_map, List.zipIdx_map_fst]
  obtain ⟨hlen, hin, hout⟩ := foldl_set_spec st.liveArgs.zipIdx (List.replicate (1 + st.maxId.getD 0) none)
    (by rw [hmap]; exact Store.liveArgs_nodup st)
    (by
      intro p hp
      have hm : p.1.1 ∈ st.liveArgs.map (·.1) := by
        rw [← hmap]; exact List.mem_map_of_mem (f := fun p : (Nat × Nat) × Nat => p.1.1) hp
      have hl := hasId_lt ((Store.mem_liveArgs st _).1 hm)
      have hne : st.labels ≠ [] := by intro h; rw [h] at hl; cases hl
      rw [List.length_replicate, table_len hne]; exact hl)
  refine ⟨fun hne => by rw [hlen, List.length_replicate, table_len hne], fun i v => ⟨fun h => ?_, ?_⟩⟩
  · by_cases hi : i ∈ st.liveArgs.zipIdx.map (·.1.1)
    · obtain ⟨q, hq, rfl⟩ := List.mem_map.1 hi
      rw [hin q hq] at h
      exact ⟨q.2, q.1.2, List.mem_zipIdx_iff_getElem?.1 hq, (Option.some.inj h).symm⟩
    · rw [hout i hi, List.getD_eq_getElem?_getD, List.getElem?_replicate] at h
      split at h <;> cases h
  · rintro ⟨p, l, hp, rfl⟩
    exact hin ((i, l), p) (List.mem_zipIdx_iff_getElem?.2 hp)

theorem getD_arg {l : List AVarType} {v i : Nat} : l.getD v .ignored = .arg i ↔ l[v]? = some (.arg i) := by
  rw [List.getD_eq_getElem?_getD]
  cases l[v]? with
  | none => exact ⟨nofun, nofun⟩
  | some x => exact ⟨congrArg some, Option.some.inj⟩

theorem getElem?_append_noArg {A T : List AVarType} (hT : ∀ x ∈ T, ∀ i, x ≠ .arg i) (p i : Nat) :
    (A ++ T)[p]? = some (.arg i) ↔ A[p]? = some (.arg i) := by
  rw [List.getElem?_append]
  by_cases hp : p < A.length
  · simp [hp]
  · simp only [hp, if_false]
    constructor
    · intro h; exact absurd rfl (hT _ (List.mem_of_getElem? h) i)
    · intro h
      have : A[p]? = none := List.getElem?_eq_none (by omega)
      rw [this] at h; cases h

theorem freshVars_spec (sem : DSem) (st : Store) (n v i : Nat) :
    (freshVars sem st n).getD v .ignored = .arg i ↔ ∃ p l, st.liveArgs[p]? = some (i, l) ∧ v = p + 1 := by
  have key : ∃ T : List AVarType, (∀ x ∈ T, ∀ i, x ≠ .arg i) ∧
      freshVars sem st n = AVarType.ignored :: (st.liveArgs.map (fun p => AVarType.arg p.1) ++ T) := by
    cases sem with
    | CO =>
      refine ⟨List.replicate (n - st.nArguments) .ignored ++ (List.replicate (n * n) .attack ++
        (st.liveArgs.map (fun p => AVarType.disj p.1) ++ List.replicate (n - st.nArguments) .ignored)), ?_, ?_⟩
      · intro x hx i
        simp only [List.mem_append, List.mem_replicate, List.mem_map] at hx
        rcases hx with ⟨_, rfl⟩ | ⟨_, rfl⟩ | ⟨_, _, rfl⟩ | ⟨_, rfl⟩ <;> simp
      · simp [freshVars]
    | _ =>
      refine ⟨List.replicate (n - st.nArguments) .ignored ++ List.replicate (n * n) .attack, ?_, ?_⟩
      · intro x hx i
        simp only [List.mem_append, List.mem_replicate] at hx
        rcases hx with ⟨_, rfl⟩ | ⟨_, rfl⟩ <;> simp
      · simp [freshVars]
  obtain ⟨T, hT, hfv⟩ := key
  rw [getD_arg, hfv]
  cases v with
  | zero =>
    rw [List.getElem?_cons_zero]
    exact ⟨nofun, fun ⟨p, l, _, h⟩ => nomatch h⟩
  | succ p =>
    rw [List.getElem?_cons_succ, getElem?_append_noArg hT, List.getElem?_map]
    constructor
    · intro h
      cases hl : st.liveArgs[p]? with
      | none => rw [hl] at h; cases h
      | some q =>
        rw [hl] at h
        obtain rfl := AVarType.arg.inj (Option.some.inj h)
        exact ⟨p, q.2, hl, rfl⟩
    · rintro ⟨p', l, hp', h⟩
      obtain rfl := Nat.succ.inj h
      rw [hp']; rfl

theorem freshVars_length (sem : DSem) (st : Store) (n : Nat) (hlen : st.liveArgs.length = st.nArguments)
    (hle : st.nArguments ≤ n) :
    n + n * n < (freshVars sem st n).length ∧ (sem = .CO → 2 * n + n * n < (freshVars sem st n).length) := by
  cases sem with
  | CO =>
    simp only [freshVars, List.length_append, List.length_cons, List.length_nil, List.length_map,
      List.length_replicate, hlen, true_imp_iff]
    omega
  | _ =>
    simp only [freshVars, List.length_append, List.length_cons, List.length_nil, List.length_map,
      List.length_replicate, hlen, reduceCtorEq, false_imp_iff, and_true]
    omega

theorem liveArgs_get_of_hasId {st : Store} {i : Nat} (h : st.hasId i = true) :
    ∃ (p : Nat) (l : Nat), st.liveArgs[p]? = some (i, l) := by
  have := (Store.mem_liveArgs st i).2 h
  obtain ⟨q, hq, rfl⟩ := List.mem_map.1 this
  obtain ⟨p, hp⟩ := List.mem_iff_getElem?.1 hq
  exact ⟨p, q.2, hp⟩

theorem nArguments_pos_labels {st : Store} (h : 0 < st.nArguments) : st.labels ≠ [] := by
  intro hl
  unfold Store.nArguments Store.len at h
  rw [hl] at h
  simp at h

theorem ainv_reencoded {st : Store} (hinv : st.Inv) (e : AEnc) (k : Nat) {Γ : Cnf}
    (hfac : st.nArguments ≤ e.scaled st.nArguments)
    (hΓ : ∀ c, c ∈ Γ ↔ EncSpec e.sem (e.scaled st.nArguments) c) :
    AInv st (e.reencoded st k) Γ := by
  have hlen := liveArgs_length hinv
  have hav : ∀ i v, (e.reencoded st k).av i = some v ↔ ∃ p l, st.liveArgs[p]? = some (i, l) ∧ v = p + 1 :=
    (freshArgVar_spec st).2
  have hty : ∀ v i, (e.reencoded st k).ty v = .arg i ↔ ∃ p l, st.liveArgs[p]? = some (i, l) ∧ v = p + 1 :=
    fun v i => freshVars_spec e.sem st _ v i
  have hplt : ∀ {p : Nat} {x : Nat × Nat}, st.liveArgs[p]? = some x → p < st.nArguments := by
    intro p x hp
    rw [← hlen]
    exact (List.getElem?_eq_some_iff.1 hp).1
  refine ⟨fun c hc => (hΓ c).2 hc, fun c hc => Or.inl ((hΓ c).1 hc), fun i hi => ?_, fun v i h => ?_,
    fun v i h => ?_, fun v hv => ?_, Nat.succ_pos _, Nat.succ_le_succ hfac, fun hpos => ?_, ?_⟩
  · obtain ⟨p, l, hp⟩ := liveArgs_get_of_hasId hi
    exact ⟨p + 1, (hav i _).2 ⟨p, l, hp, rfl⟩, Nat.succ_pos _, Nat.le_trans (hplt hp) hfac,
      (hty _ i).2 ⟨p, l, hp, rfl⟩⟩
  · obtain ⟨p, l, hp, rfl⟩ := (hty v i).1 h
    exact ⟨(Store.mem_liveArgs st i).1 (List.mem_map.2 ⟨(i, l), List.mem_of_getElem? hp, rfl⟩),
      (hav i _).2 ⟨p, l, hp, rfl⟩⟩
  · obtain ⟨p, l, hp, rfl⟩ := (hty v i).1 h
    exact Nat.succ_lt_succ (hplt hp)
  · exact absurd (encSpec_len ((hΓ _).1 hv)) (Nat.lt_irrefl 1)
  · -- a positive number of reserved variables means a framework with arguments: `0 * num / den = 0`
    have : 0 < st.nArguments := Nat.pos_of_ne_zero fun h0 => by
      have hpos' : 0 < e.scaled st.nArguments := hpos
      rw [h0, AEnc.scaled, Nat.zero_mul, Nat.zero_div] at hpos'
      exact Nat.lt_irrefl _ hpos'
    exact (freshArgVar_spec st).1 (nArguments_pos_labels this)
  · exact freshVars_length e.sem st _ hlen hfac

end Crusta.DynAtt
