import Crusta.Proofs.RunCheck
import Crusta.Props.C05
import Crusta.Props.C08
import Crusta.Props.C09
import Crusta.Props.C13
import Crusta.Props.C14
import Crusta.Props.C16

/-!
# Non-vacuity witnesses, part 2: dynamic solvers, command line, readers and writers

Same purpose and technique as `Proofs/NonVacuity.lean`, for the theorems of C08 and C09 on histories of the
three kinds of dynamic solver, `C05.cli_on_readable_file` on the bytes of an ICCMA'23 file, and readers and
writers (C14, C13, C16, whose witnesses are also stated together as `io_hyps` / `io_concl`).

Every `*_hyps` theorem is an existential over the universally quantified variables of the property
theorem, whose body is the conjunction of exactly the hypotheses of that theorem followed by
equations that pin the witnesses down; every `*_concl` theorem is obtained by *applying* the
property theorem to these witnesses.  (One exception: the C09 half of `dyn_concl_PR_no` speaks of the
concrete run, which the existential witnesses do not name; it applies the theorem to `stepPR1` and
`evalPR`, from which `dyn_hyps_PR_no` is built too.)

Technical notes.  The states reached through earlier queries are defined from the interpreter's
result (`QRun.d`, `QRun.a`); these definitions are marked `@[irreducible]` so that the elaborator
never tries to evaluate the model itself: all evaluation is done by the kernel (`decide +kernel`)
(the static witness files, whose programs must unfold for `entryProg … = some p`, seal `RunSound` to the same end).
The kernel shares the evaluation of a run between the conjuncts of one proposition,
not between declarations: so everything that is evaluated about a history (`QueryOK` of each of its
queries, the answers, the counters) is stated as one conjunction and closed by one `decide +kernel`;
`step` turns it into the hypotheses of the theorems.
-/

namespace Crusta.NonVacuity
open Crusta Crusta.Dyn

-- `QRun.d` needs some state to return for a run that did not finish; none of the witnesses reads it
instance : Inhabited DState := ⟨DState.init .CO⟩
instance : Inhabited DynAtt.ADState := ⟨DynAtt.ADState.init .CO 2 1⟩

/-- result of a query of a dynamic solver with states `σ`; `.d`, `.a`: the state and the answer it
returned (arbitrary if it did not return) -/
abbrev QRun (σ : Type) := Outcome (σ × AccAns) × World
def QRun.d {σ : Type} [Inhabited σ] (x : QRun σ) : σ := (doneD x (default, ⟨false, none⟩)).1
def QRun.a {σ : Type} [Inhabited σ] (x : QRun σ) : AccAns := (doneD x (default, ⟨false, none⟩)).2

theorem of_done {α : Type} {x : Outcome α × World} {a : α} {w' : World} (hrun : x = (.done a, w')) {P : Prop}
    (h : P ∨ (∃ w', x = (.abort, w')) ∨ (∃ w', x = (.starved, w'))) : P := by
  subst hrun
  rcases h with h | ⟨_, h⟩ | ⟨_, h⟩
  · exact h
  · cases h
  · cases h

def updates (d : DState) (ops : List StoreOp) : DState := ops.foldl (fun d op => (d.update op).1) d

def aupdates (d : DynAtt.ADState) (ops : List StoreOp) : DynAtt.ADState :=
  ops.foldl (fun d op => (d.update op).1) d

/-- what is left to evaluation about the run of a query about the argument `id`, labelled `l` -/
def QueryOK {α : Type} (st : Store) (id l : Nat) (p : Prog α) (rs : List Reply) (w : World) : Prop :=
  st.labelOf id = some l ∧ runSoundB p rs w = true ∧ isDoneB (interp p rs w) = true

instance {α : Type} (st : Store) (id l : Nat) (p : Prog α) (rs : List Reply) (w : World) :
    Decidable (QueryOK st id l p rs w) := inferInstanceAs (Decidable (_ ∧ _ ∧ _))

/- The two kinds of dynamic solver have their own `Reach`, of the same shape: `R` stands for either,
`hu` for its constructor `update`, `hq` for its constructor `query`. -/
section step
variable {σ : Type} {R : List StoreOp → σ → World → Prop} {upd : σ → StoreOp → σ}
  {qry : σ → DQuery → Nat → Prog (σ × AccAns)} {pend : σ → Store}
  (hu : ∀ {ops : List StoreOp} {d : σ} {w : World} (op : StoreOp), R ops d w → R (ops ++ [op]) (upd d op) w)
  (hq : ∀ {ops : List StoreOp} {d : σ} {w : World} (q : DQuery) (l id : Nat) (rs : List Reply) (d' : σ)
    (a : AccAns) (w' : World), R ops d w → (pend d).Live id l → RunSound (qry d q l) rs w →
    interp (qry d q l) rs w = (.done (d', a), w') → R ops d' w')
include hu

theorem reach_foldl (ops' : List StoreOp) {ops : List StoreOp} {d : σ} {w : World} (h : R ops d w) :
    R (ops ++ ops') (ops'.foldl upd d) w := by
  induction ops' generalizing ops d with
  | nil => rwa [List.append_nil]
  | cons op rest ih =>
    have := ih (hu op h)
    rwa [List.append_assoc] at this

include hq

/-- one more stretch of a history, update calls and then a query: the hypotheses of the C08 / C09
theorems about this query, and the state it returns is reachable again -/
theorem step [Inhabited σ] {ops ops' : List StoreOp} {d d' : σ} {w : World} {q : DQuery} {l id : Nat}
    {rs : List Reply} {x : QRun σ} (h : R ops d w) (hd : d' = ops'.foldl upd d) (hx : x = interp (qry d' q l) rs w)
    (he : QueryOK (pend d') id l (qry d' q l) rs w) :
    R (ops ++ ops') d' w ∧ (pend d').Live id l ∧ RunSound (qry d' q l) rs w ∧
      interp (qry d' q l) rs w = (.done (x.d, x.a), x.2) ∧ R (ops ++ ops') x.d x.2 := by
  subst hd hx
  have hr := reach_foldl hu ops' h
  have hs := runSoundB_sound _ _ _ he.2.1
  have hrun : interp (qry _ q l) rs w = (.done (QRun.d _, QRun.a _), _) := done_eq _ _ he.2.2
  exact ⟨hr, he.1, hs, hrun, hq q l id rs _ _ _ hr he.1 hs hrun⟩

end step

/-- the world in which a dynamic solver starts: its SAT solver has been created -/
def w0 : World := ({} : World).onNew

/-! The buffered dynamic stable solver.
History: `A1; A2; +1>2; -A7` (rejected) `;` **query DC 2** (NO, `unsat`) `; A3; +2>3; A4; +4>1; -A4`
(a removal: the id 3 is retired, with its attack), then the query **DC 3**: YES with the
certificate `{0, 2}` (ids of the labels 1 and 3), after a second SAT call on the same solver, the
buffered updates having been replayed on top of the encoding of the first query. -/

def opsST1 : List StoreOp := [.newArg 1, .newArg 2, .newAtt 1 2, .remArg 7]
@[irreducible] def dST1 : DState := updates (DState.init .ST) opsST1
@[irreducible] def runST1 : QRun DState := interp (query 0 dST1 .cred 2) [.unsat] w0
def opsST2 : List StoreOp := [.newArg 3, .newAtt 2 3, .newArg 4, .newAtt 4 1, .remArg 4]
@[irreducible] def dST3 : DState := updates runST1.d opsST2
/-- variables: `x0 x1` (1, 2), the retired selector 3, selector 4, `x2` (5), the variable 6 of the
removed argument, the selectors 7 and 8 -/
def mST3 : Model := modelOf 8 [1, 4, 5, 6, 7, 8]
@[irreducible] def runST3 : QRun DState := interp (query 0 dST3 .cred 3) [.sat mST3] runST1.2

/-- all hypotheses of `C08.dynamic_answers_for_current_framework` and of `C09.usable_after_any_history`
(with `fuel' = fuel`), for the stable solver -/
theorem dyn_hyps_ST :
    ∃ (fuel : Nat) (ops : List StoreOp) (d : DState) (w : World) (q : DQuery) (l id : Nat)
      (rs : List Reply) (d' : DState) (a : AccAns) (w' : World),
      Reach .ST fuel ops d w ∧
      d.pending.Live id l ∧
      RunSound (query fuel d q l) rs w ∧
      interp (query fuel d q l) rs w = (.done (d', a), w') ∧
      Supported .ST q ∧ FuelOK .ST d.pending fuel ∧
      ops = [.newArg 1, .newArg 2, .newAtt 1 2, .remArg 7, .newArg 3, .newAtt 2 3, .newArg 4, .newAtt 4 1,
        .remArg 4] ∧
      q = .cred ∧ l = 3 ∧ id = 2 ∧ rs = [.sat mST3] ∧
      a.status = true ∧ a.cert = some [0, 2] ∧ w.calls = 1 ∧ w'.calls = 2 := by
  -- `_`: the evaluated pins at the end of the statement, found by unification from the `exact` below, so that
  -- all that is evaluated about the history is the one conjunction `e` (see the header)
  suffices e : QueryOK dST1.pending 1 2 (query 0 dST1 .cred 2) [.unsat] w0 ∧
      QueryOK dST3.pending 2 3 (query 0 dST3 .cred 3) [.sat mST3] runST1.2 ∧ _ by
    obtain ⟨_, _, _, _, h1⟩ := step Reach.update Reach.query Reach.init dST1.eq_1 runST1.eq_1 e.1
    obtain ⟨h3, hl, hs, hrun, _⟩ := step Reach.update Reach.query h1 dST3.eq_1 runST3.eq_1 e.2.1
    exact ⟨0, _, dST3, runST1.2, .cred, 3, 2, [.sat mST3], runST3.d, runST3.a, runST3.2, h3, hl, hs, hrun, trivial,
      (by unfold FuelOK; intro h; cases h), rfl, rfl, rfl, rfl, rfl, e.2.2⟩
  decide +kernel

theorem dyn_concl_ST :
    ∃ st : Store,
      Store.runOps Store.empty [.newArg 1, .newArg 2, .newAtt 1 2, .remArg 7, .newArg 3, .newAtt 2 3, .newArg 4,
        .newAtt 4 1, .remArg 4] = some st ∧
      st.Live 2 3 ∧ st.g.Stable (ofList [0, 2]) ∧
      ∃ d' w', QInv .ST d' w' ∧ d'.pending = st := by
  obtain ⟨fuel, ops, d, w, q, l, id, rs, d', a, w', hreach, hl, hs, hrun, hq, hfuel, hops, hqe, hle, hid, hrs,
    hst, hcert, _⟩ := dyn_hyps_ST
  obtain ⟨h1, h2⟩ := C08.dynamic_answers_for_current_framework hreach q hl hs hrun
  subst hops hqe hle hid
  obtain ⟨e, he, hext, _⟩ := (C08.credulous_answer_meaning .ST d.pending 3 2 a h2 hl).1 hst
  cases hcert.symm.trans he
  obtain ⟨d'', a'', w'', _, hinv, hp, _⟩ := of_done hrun (C09.usable_after_any_history hreach .cred hq hl hfuel hs)
  exact ⟨d.pending, h1, hl, hext, d'', w'', hinv, hp⟩

/-! The buffered dynamic preferred solver.
History: `A1; A2; A3; +1>2; +2>1; +3>9` (rejected) `; +2>3; A6; +6>2; -A6` (a removal); the framework
`1 ↔ 2 → 3` has the preferred extensions `{1, 3}` and `{2}`.  **Query DS 3**: the SAT solver offers
`{1, 3}` (contains 3: discarded), then `{2}`, then proves that `{2}` has no complete proper
superset (`unsat`): NO with the counter-example `{1}` (id of label 2).  Then `A4; +1>4; +2>4; A5; +4>5`
(argument 5 is defended by both preferred extensions) and the **query DS 5**: both preferred
extensions are enumerated (each contains 5), the third call is `unsat`: YES.  The fuel is 200
(`prFuel` is 50 at the first query and 194 at the second one). -/

def opsPR1 : List StoreOp :=
  [.newArg 1, .newArg 2, .newArg 3, .newAtt 1 2, .newAtt 2 1, .newAtt 3 9, .newAtt 2 3, .newArg 6, .newAtt 6 2,
   .remArg 6]
@[irreducible] def dPR1 : DState := updates (DState.init .PR) opsPR1
/-- variables: `x0 d0 x1 d1 x2 d2` (1–6), `x d` of the removed argument (7, 8), the selectors 9 10 11
of the attack constraints, 12 the selector of the search; the complete extension `{0, 2}` -/
def mPR1a : Model :=
  [some true, some false, some false, some true, some true, some false, some true, some false, some true,
   some true, some true, some false]
/-- the complete extension `{1}` -/
def mPR1b : Model :=
  [some false, some true, some true, some false, some false, some true, some true, some false, some true,
   some true, some true, some false]
def rsPR1 : List Reply := [.sat mPR1a, .sat mPR1b, .unsat]
@[irreducible] def runPR1 : QRun DState := interp (query 200 dPR1 .skep 3) rsPR1 w0
def opsPR2 : List StoreOp := [.newArg 4, .newAtt 1 4, .newAtt 2 4, .newArg 5, .newAtt 4 5]
@[irreducible] def dPR2 : DState := updates runPR1.d opsPR2
/-- 19 variables (13–16: `x d` of the arguments 4 and 5; 17, 18 their selectors; 19 the selector of
the second search); the complete extension `{0, 2, 5}` -/
def mPR2a : Model := modelOf 19 [1, 4, 5, 7, 9, 10, 11, 12, 14, 15, 17, 18]
/-- the complete extension `{1, 5}` -/
def mPR2b : Model := modelOf 19 [2, 3, 6, 7, 9, 10, 11, 12, 14, 15, 17, 18]
def rsPR2 : List Reply := [.sat mPR2a, .sat mPR2b, .unsat]
@[irreducible] def runPR2 : QRun DState := interp (query 200 dPR2 .skep 5) rsPR2 runPR1.2

theorem evalPR :
    (QueryOK dPR1.pending 2 3 (query 200 dPR1 .skep 3) rsPR1 w0 ∧ prFuel dPR1.pending ≤ 200 ∧
      runPR1.a.status = false ∧ runPR1.a.cert = some [1] ∧ runPR1.2.calls = 3) ∧
    QueryOK dPR2.pending 5 5 (query 200 dPR2 .skep 5) rsPR2 runPR1.2 ∧ prFuel dPR2.pending = 194 ∧
      runPR2.a.status = true ∧ runPR2.a.cert = none ∧ runPR1.2.calls = 3 ∧ runPR2.2.calls = 6 := by
  decide +kernel

theorem stepPR1 :
    Reach .PR 200 opsPR1 dPR1 w0 ∧ dPR1.pending.Live 2 3 ∧ RunSound (query 200 dPR1 .skep 3) rsPR1 w0 ∧
      interp (query 200 dPR1 .skep 3) rsPR1 w0 = (.done (runPR1.d, runPR1.a), runPR1.2) ∧
      Reach .PR 200 opsPR1 runPR1.d runPR1.2 :=
  step Reach.update Reach.query Reach.init dPR1.eq_1 runPR1.eq_1 evalPR.1.1

/-- first query: all hypotheses of `C08.dynamic_answers_for_current_framework`,
`C09.preferred_solver_stays_usable` and `C09.usable_after_any_history` for the preferred solver -/
theorem dyn_hyps_PR_no :
    ∃ (fuel : Nat) (ops : List StoreOp) (d : DState) (w : World) (q : DQuery) (l id : Nat)
      (rs : List Reply) (d' : DState) (a : AccAns) (w' : World),
      Reach .PR fuel ops d w ∧
      d.pending.Live id l ∧
      RunSound (query fuel d q l) rs w ∧
      interp (query fuel d q l) rs w = (.done (d', a), w') ∧
      Supported .PR q ∧ FuelOK .PR d.pending fuel ∧ prFuel d.pending ≤ fuel ∧
      ops = [.newArg 1, .newArg 2, .newArg 3, .newAtt 1 2, .newAtt 2 1, .newAtt 3 9, .newAtt 2 3, .newArg 6,
        .newAtt 6 2, .remArg 6] ∧
      q = .skep ∧ l = 3 ∧ id = 2 ∧ rs = [.sat mPR1a, .sat mPR1b, .unsat] ∧
      a.status = false ∧ a.cert = some [1] ∧ w'.calls = 3 := by
  obtain ⟨h, hl, hs, hrun, _⟩ := stepPR1
  have hf := evalPR.1.2.1
  exact ⟨200, _, dPR1, w0, .skep, 3, 2, rsPR1, runPR1.d, runPR1.a, runPR1.2, h, hl, hs, hrun, trivial, fun _ => hf, hf,
    rfl, rfl, rfl, rfl, rfl, evalPR.1.2.2⟩

/-- second query, in the state reached through the first one (`Reach.query`) and five more updates -/
theorem dyn_hyps_PR :
    ∃ (fuel : Nat) (ops : List StoreOp) (d : DState) (w : World) (q : DQuery) (l id : Nat)
      (rs : List Reply) (d' : DState) (a : AccAns) (w' : World),
      Reach .PR fuel ops d w ∧
      d.pending.Live id l ∧
      RunSound (query fuel d q l) rs w ∧
      interp (query fuel d q l) rs w = (.done (d', a), w') ∧
      Supported .PR q ∧ FuelOK .PR d.pending fuel ∧ prFuel d.pending ≤ fuel ∧
      ops = [.newArg 1, .newArg 2, .newArg 3, .newAtt 1 2, .newAtt 2 1, .newAtt 3 9, .newAtt 2 3, .newArg 6,
        .newAtt 6 2, .remArg 6, .newArg 4, .newAtt 1 4, .newAtt 2 4, .newArg 5, .newAtt 4 5] ∧
      q = .skep ∧ l = 5 ∧ id = 5 ∧ rs = [.sat mPR2a, .sat mPR2b, .unsat] ∧
      a.status = true ∧ a.cert = none ∧ w.calls = 3 ∧ w'.calls = 6 ∧ prFuel d.pending = 194 := by
  obtain ⟨h, hl, hs, hrun, _⟩ := step Reach.update Reach.query stepPR1.2.2.2.2 dPR2.eq_1 runPR2.eq_1 evalPR.2.1
  obtain ⟨hf, e⟩ := evalPR.2.2
  have hf' : prFuel dPR2.pending ≤ 200 := by rw [hf]; decide
  exact ⟨200, _, dPR2, runPR1.2, .skep, 5, 5, rsPR2, runPR2.d, runPR2.a, runPR2.2, h, hl, hs, hrun, trivial,
    fun _ => hf', hf', rfl, rfl, rfl, rfl, rfl, e.1, e.2.1, e.2.2.1, e.2.2.2, hf⟩

theorem dyn_concl_PR_no :
    ∃ st : Store,
      Store.runOps Store.empty [.newArg 1, .newArg 2, .newArg 3, .newAtt 1 2, .newAtt 2 1, .newAtt 3 9,
        .newAtt 2 3, .newArg 6, .newAtt 6 2, .remArg 6] = some st ∧
      st.Live 2 3 ∧ st.g.Preferred (ofList [1]) ∧ 2 ∉ [1] ∧
      ∀ msg w', interp (query 200 dPR1 .skep 3) rsPR1 w0 ≠ (.crashed msg, w') := by
  obtain ⟨fuel, ops, d, w, q, l, id, rs, d', a, w', hreach, hl, hs, hrun, _, _, _, hops, hqe, hle, hid,
    _, hst, hcert, _⟩ := dyn_hyps_PR_no
  obtain ⟨h1, h2⟩ := C08.dynamic_answers_for_current_framework hreach q hl hs hrun
  subst hops hqe hle hid
  obtain ⟨e, he, hext, hne⟩ := (C08.skeptical_answer_meaning .PR d.pending 3 2 a h2 hl).2 hst
  cases hcert.symm.trans he
  exact ⟨d.pending, h1, hl, hext, hne,
    C09.preferred_solver_stays_usable stepPR1.1 stepPR1.2.1 evalPR.1.2.1 stepPR1.2.2.1⟩

theorem dyn_concl_PR :
    ∃ st : Store,
      Store.runOps Store.empty [.newArg 1, .newArg 2, .newArg 3, .newAtt 1 2, .newAtt 2 1, .newAtt 3 9,
        .newAtt 2 3, .newArg 6, .newAtt 6 2, .remArg 6, .newArg 4, .newAtt 1 4, .newAtt 2 4, .newArg 5,
        .newAtt 4 5] = some st ∧
      st.Live 5 5 ∧ (∀ S, st.g.Preferred S → S 5 = true) ∧
      ∃ d' w', QInv .PR d' w' ∧ d'.pending = st := by
  obtain ⟨fuel, ops, d, w, q, l, id, rs, d', a, w', hreach, hl, hs, hrun, hq, hfuel, hfuel', hops, hqe, hle, hid,
    hrs, hst, hcert, _⟩ := dyn_hyps_PR
  obtain ⟨h1, h2⟩ := C08.dynamic_answers_for_current_framework hreach q hl hs hrun
  subst hops hqe hle hid
  obtain ⟨d'', a'', w'', _, hinv, hp, _⟩ := of_done hrun (C09.usable_after_any_history hreach .skep hq hl hfuel hs)
  exact ⟨d.pending, h1, hl, ((C08.skeptical_answer_meaning .PR d.pending 5 5 a h2 hl).1 hst).2, d'', w'', hinv, hp⟩

/-! An attack-assumption solver (stable semantics, reservation factor 2/1).
History: `A1; A2; +1>2; -2>1` (rejected) `;` **query DC 1** — first encoding, in a fresh SAT solver
(index 1) with `2 * 2 = 4` argument slots, 16 attack variables and 16 auxiliary ones: YES `{0}`;
`A3; +2>3` — the new argument takes the reserved slot 3, no re-encoding; **query DC 3** on the same
solver: YES `{0, 2}`; `-A1; A4; +4>3` — the slots are used up (`next_dummy_arg_var = 4 = n_arg_vars`):
the next query re-encodes in a new solver (index 2, `2 * 3 = 6` slots, 78 variables);
**query DS 3**: NO with the stable extension `{1, 3}` (labels 2 and 4). -/

def opsA1 : List StoreOp := [.newArg 1, .newArg 2, .newAtt 1 2, .remAtt 2 1]
@[irreducible] def dA1 : DynAtt.ADState := aupdates (DynAtt.ADState.init .ST 2 1) opsA1
/-- argument slots 1–4 (3 and 4 are unused slots: unattacked, hence true), attack variables 5–20
(`1 → 2` is variable 9), auxiliary variables 21–36 -/
def mA1 : Model := modelOf 36 [1, 3, 4, 9, 25]
@[irreducible] def runA1 : QRun DynAtt.ADState := interp (DynAtt.query dA1 .cred 1) [.sat mA1] w0
def opsA2 : List StoreOp := [.newArg 3, .newAtt 2 3]
@[irreducible] def dA2 : DynAtt.ADState := aupdates runA1.d opsA2
/-- as `mA1`, with the attack `2 → 3` (variable 14) -/
def mA2 : Model := modelOf 36 [1, 3, 4, 9, 14, 25]
@[irreducible] def runA2 : QRun DynAtt.ADState := interp (DynAtt.query dA2 .cred 3) [.sat mA2] runA1.2
def opsA3 : List StoreOp := [.remArg 1, .newArg 4, .newAtt 4 3]
@[irreducible] def dA3 : DynAtt.ADState := aupdates runA2.d opsA3
/-- second encoding: argument slots 1–6 (labels 2, 3, 4, then three unused slots), attack variables
7–42, auxiliary variables 43–78 -/
def mA3 : Model := modelOf 78 [1, 3, 4, 5, 6, 13, 15, 49, 51]
@[irreducible] def runA3 : QRun DynAtt.ADState := interp (DynAtt.query dA3 .skep 3) [.sat mA3] runA2.2

/-- all hypotheses of `C08.attack_assumption_solvers_answer` and of
`C09.attack_assumption_solvers_stay_usable`, on the third query of the history; the evaluated facts
show that the first two queries (YES `{0}`, YES `{0, 2}`) shared one SAT solver and that the third one
re-encoded in a new one -/
theorem dynatt_hyps :
    ∃ (sem : DSem) (num den : Nat) (ops : List StoreOp) (d : DynAtt.ADState) (w : World) (q : DQuery)
      (l id : Nat) (rs : List Reply) (d' : DynAtt.ADState) (a : AccAns) (w' : World),
      sem ≠ .PR ∧ (0 < den ∧ den ≤ num) ∧
      DynAtt.Reach sem num den ops d w ∧
      d.pending.Live id l ∧
      RunSound (DynAtt.query d q l) rs w ∧
      interp (DynAtt.query d q l) rs w = (.done (d', a), w') ∧
      DynAtt.AttSupported sem q ∧
      sem = .ST ∧ num = 2 ∧ den = 1 ∧
      ops = [.newArg 1, .newArg 2, .newAtt 1 2, .remAtt 2 1, .newArg 3, .newAtt 2 3, .remArg 1, .newArg 4,
        .newAtt 4 3] ∧
      q = .skep ∧ l = 3 ∧ id = 2 ∧ rs = [.sat mA3] ∧
      a.status = false ∧ a.cert = some [1, 3] ∧
      runA1.a.status = true ∧ runA1.a.cert = some [0] ∧ runA2.a.status = true ∧ runA2.a.cert = some [0, 2] ∧
      runA1.d.enc.solver = 1 ∧ runA2.d.enc.solver = 1 ∧ runA2.d.enc.nArgVars = 4 ∧
      d'.enc.solver = 2 ∧ d'.enc.nArgVars = 6 ∧ w.solvers.length = 2 ∧ w'.solvers.length = 3 ∧
      w'.calls = 3 := by
  suffices e : QueryOK dA1.pending 0 1 (DynAtt.query dA1 .cred 1) [.sat mA1] w0 ∧
      QueryOK dA2.pending 2 3 (DynAtt.query dA2 .cred 3) [.sat mA2] runA1.2 ∧
      QueryOK dA3.pending 2 3 (DynAtt.query dA3 .skep 3) [.sat mA3] runA2.2 ∧ _ by
    obtain ⟨_, _, _, _, h1⟩ := step DynAtt.Reach.update DynAtt.Reach.query DynAtt.Reach.init dA1.eq_1 runA1.eq_1 e.1
    obtain ⟨_, _, _, _, h2⟩ := step DynAtt.Reach.update DynAtt.Reach.query h1 dA2.eq_1 runA2.eq_1 e.2.1
    obtain ⟨h3, hl, hs, hrun, _⟩ := step DynAtt.Reach.update DynAtt.Reach.query h2 dA3.eq_1 runA3.eq_1 e.2.2.1
    exact ⟨.ST, 2, 1, _, dA3, runA2.2, .skep, 3, 2, [.sat mA3], runA3.d, runA3.a, runA3.2, (by intro h; cases h),
      ⟨by decide, by decide⟩, h3, hl, hs, hrun, trivial, rfl, rfl, rfl, rfl, rfl, rfl, rfl, rfl, e.2.2.2⟩
  decide +kernel

theorem dynatt_concl :
    ∃ st : Store,
      Store.runOps Store.empty [.newArg 1, .newArg 2, .newAtt 1 2, .remAtt 2 1, .newArg 3, .newAtt 2 3, .remArg 1,
        .newArg 4, .newAtt 4 3] = some st ∧
      st.Live 2 3 ∧ st.g.Stable (ofList [1, 3]) ∧ 2 ∉ [1, 3] ∧
      ∃ d' w', DynAtt.AQInv .ST d' w' ∧ d'.pending = st := by
  obtain ⟨sem, num, den, ops, d, w, q, l, id, rs, d', a, w', hsem, hfac, hreach, hl, hs, hrun, hq, hse, _, _, hops,
    hqe, hle, hid, _, hst, hcert, _⟩ := dynatt_hyps
  obtain ⟨st, h1, h2, h3⟩ := C08.attack_assumption_solvers_answer hsem hfac hreach q hl hs hrun
  subst hse hops hqe hle hid h2
  obtain ⟨e, he, hext, hne⟩ := (C08.skeptical_answer_meaning .ST d.pending 3 2 a h3 hl).2 hst
  cases hcert.symm.trans he
  obtain ⟨d'', a'', w'', _, _, hinv, hp, _⟩ :=
    of_done hrun (C09.attack_assumption_solvers_stay_usable hfac hreach .skep hq hl hs).2
  exact ⟨d.pending, h1, hl, hext, hne, d'', w'', hinv, hp⟩

section cli
open Crusta.Cli

/-- `p af 3\n1 2\n2 1\n2 3\n` -/
def bytesA : List UInt8 :=
  [112, 32, 97, 102, 32, 51, 10, 49, 32, 50, 10, 50, 32, 49, 10, 50, 32, 51, 10]
def fwA : IO.IccmaFw := ⟨3, [(0, 1), (1, 0), (1, 2)]⟩
/-- `DC-PR` -/
def sDCPR : Cli.Str := [68, 67, 45, 80, 82]
def storeA : Store := Store.ofIccma 3 [(0, 1), (1, 0), (1, 2)]
/-- the program the command line dispatches DC-PR to: the complete solver's credulous query.  Irreducible
for the reason given in the header: `cli_concl` identifies the dispatched program with it once
(`unfold pCli; rfl`), everywhere else the elaborator must not evaluate `coDCcert` on the store -/
@[irreducible] def pCli : Prog Ans := certOnly true (coDCcert cfgA storeA.view [2])

-- `cli_hyps` compares the result of `IO.readIccma` with the expected framework by evaluation
deriving instance DecidableEq for Except

/-- all hypotheses of `C05.cli_on_readable_file`: the file `bytesA`, the problem string `DC-PR`, the default
encoding, `-a 3` (the string `3`), certificate requested -/
theorem cli_hyps :
    ∃ (bs : List UInt8) (fw : IO.IccmaFw) (s : Cli.Str) (t : Task) (σ : Sem) (enc : Option String) (cfg : Cfg)
      (cert : Bool) (argStr : Cli.Str) (a : Nat) (w : World),
      IO.readIccma bs = .ok fw ∧
      readProblem s = some (t, σ) ∧
      (∀ k, dispatchEncoder σ enc (decide (s = s_SEPR)) = some k → cfg.enc = k) ∧
      (t ≠ .SE → IO.iccmaArgOfStr fw.n argStr = some a) ∧
      w.Bounded ∧
      cfg.fuel ≥ fuelFor (1 + (Store.ofIccma fw.n fw.atts).view.maxId.getD 0) ∧
      bs = [112, 32, 97, 102, 32, 51, 10, 49, 32, 50, 10, 50, 32, 49, 10, 50, 32, 51, 10] ∧
      fw = ⟨3, [(0, 1), (1, 0), (1, 2)]⟩ ∧ s = [68, 67, 45, 80, 82] ∧ t = .DC ∧ σ = .PR ∧ enc = none ∧
      cfg = cfgA ∧ cert = true ∧ argStr = [51] ∧ a = 2 ∧ w = {} := by
  refine ⟨bytesA, fwA, sDCPR, .DC, .PR, none, cfgA, true, [51], 2, {}, by decide +kernel, by decide +kernel, ?_,
    fun _ => by decide +kernel, Bounded_empty, by decide +kernel, rfl, rfl, rfl, rfl, rfl, rfl, rfl, rfl, rfl, rfl,
    rfl⟩
  intro k hk
  have h : dispatchEncoder .PR none (decide (sDCPR = s_SEPR)) = some .auxCO := by decide +kernel
  rw [h] at hk
  injection hk

/-- the conclusion of `C05.cli_on_readable_file` by applying it, and then read on a run: the program is
`pCli`, run on the sound reply list `[sat mCO]` (the model of `static_hyps_CO_dc`) -/
theorem cli_concl :
    ∃ (p : Prog Ans) (rs : List Reply) (w' : World),
      entryProg (dispatchSolver .DC .PR) cfgA storeA.view (entryOf .DC true [2]) = some p ∧
      rs = [.sat mCO] ∧ RunSound p rs {} ∧
      interp p rs {} = (.done (.acc ⟨true, some [2, 0]⟩ true), w') ∧
      (∀ x, storeA.g.live x = true ↔ x < 3) ∧
      (∀ x y, storeA.g.att x y ↔ (x, y) ∈ [(0, 1), (1, 0), (1, 2)]) ∧
      (∃ S, Sem.PR.GExt storeA.g S ∧ HitsL [2] S) ∧
      Sem.CO.GExt storeA.g (ofList [2, 0]) ∧ HitsL [2] (ofList [2, 0]) := by
  obtain ⟨bs, fw, s, t, σ, enc, cfg, cert, argStr, a, w, hfile, hread, henc, harg, hb, hfuel, _, hfw, _, ht, hσ, _,
    hcfg, hcert, _, ha, hw⟩ := cli_hyps
  subst hfw ht hσ hcfg hcert ha hw
  obtain ⟨hlive, hatt, p, hp, hwp⟩ := C05.cli_on_readable_file bs _ hfile s .DC .PR hread enc cfgA henc true
    argStr 2 (fun h => harg h) {} hb hfuel
  have hp' : p = pCli := by
    have : entryProg (dispatchSolver .DC .PR) cfgA storeA.view (entryOf .DC true [2]) = some pCli := by
      unfold pCli; rfl
    exact Option.some.inj (hp.symm.trans this)
  subst hp'
  have h : RunsTo pCli [.sat mCO] {} (.acc ⟨true, some [2, 0]⟩ true) 1 := by decide +kernel
  have hs := h.sound
  have hrun := h.eq
  obtain ⟨_, hdc, _⟩ := wp_sound _ _ _ _ _ _ hwp hs hrun
  obtain ⟨hS, hc⟩ := hdc.1 rfl
  obtain ⟨e, he, hext, hhit⟩ := hc rfl
  cases he
  exact ⟨pCli, _, _, hp, rfl, hs, hrun, hlive, hatt, hS, hext, hhit⟩

end cli

section io
open Crusta.IO Crusta.Sat

def opsIO : List StoreOp :=
  [.newArg 1, .newArg 2, .newArg 3, .newAtt 1 2, .newAtt 2 3, .newAtt 3 1, .remAtt 9 9, .remArg 2, .newArg 2,
   .newAtt 2 1]
def storeIO : Store :=
  opsIO.foldl (fun s o => match s.step o with | .ok s' => s' | .err s' => s' | .panic => s) Store.empty
def nameIO : Nat → IO.Str := fun l : Nat => strOf "a" ++ natToStr l
def labelsIO : List IO.Str := storeIO.liveArgs.map (fun p => nameIO p.2)
def attsIO : List (IO.Str × IO.Str) :=
  storeIO.iterAttacks.map (fun p => (nameIO ((storeIO.labelOf p.1).getD 0), nameIO ((storeIO.labelOf p.2).getD 0)))
/-- `arg(a1).\narg(a3).\narg(a2).\natt(a3,a1).\natt(a2,a1).\n` -/
def textIO : IO.Str :=
  [97, 114, 103, 40, 97, 49, 41, 46, 10, 97, 114, 103, 40, 97, 51, 41, 46, 10, 97, 114, 103, 40, 97, 50, 41, 46, 10,
   97, 116, 116, 40, 97, 51, 44, 97, 49, 41, 46, 10, 97, 116, 116, 40, 97, 50, 44, 97, 49, 41, 46, 10]

/-- `C14.store_framework_roundtrip_default` (no hypothesis) instantiated on `opsIO`, a history with a rejected
update, a removal and a re-addition; `labelsIO` / `attsIO` are its `labels` / `atts` -/
theorem io_store_concl :
    storeIO.liveArgs = [(0, 1), (2, 3), (3, 2)] ∧ storeIO.iterAttacks = [(2, 0), (3, 0)] ∧
    writeApx labelsIO attsIO = textIO ∧
    readApx (encodeUtf8 textIO) = .ok ⟨[[97, 49], [97, 51], [97, 50]], [(1, 0), (2, 0)]⟩ := by
  have h : readApx (encodeUtf8 (writeApx labelsIO attsIO)) =
      .ok ⟨labelsIO, attsIO.map (fun p => ((idxOf labelsIO p.1).getD 9999, (idxOf labelsIO p.2).getD 9999))⟩ :=
    C14.store_framework_roundtrip_default opsIO
  suffices e : _ ∧ _ ∧ writeApx labelsIO attsIO = textIO ∧
      (⟨labelsIO, attsIO.map (fun p => ((idxOf labelsIO p.1).getD 9999, (idxOf labelsIO p.2).getD 9999))⟩ :
        ApxFw) = ⟨[[97, 49], [97, 51], [97, 50]], [(1, 0), (2, 0)]⟩ by
    rw [e.2.2.1, e.2.2.2] at h
    exact ⟨e.1, e.2.1, e.2.2.1, h⟩
  decide +kernel

/-- `#hi\np af 2\n#x\n1 2\n\n#end` — a comment before the header, one between the attack lines, a
blank line and a comment after them, no final newline -/
def bytesB : List UInt8 :=
  [35, 104, 105, 10, 112, 32, 97, 102, 32, 50, 10, 35, 120, 10, 49, 32, 50, 10, 10, 35, 101, 110, 100]

/-- all hypotheses of `C13.iccma_wellformed_accepted_general` -/
theorem io_hyps_iccma :
    ∃ (n : Nat) (pre : List IO.Str) (items : List IccmaItem) (post : List IO.Str) (finalNl : Bool),
      n ≤ 9223372036854775807 ∧
      (∀ t ∈ pre, LineOk (35 :: t)) ∧ (∀ it ∈ items, it.Ok n) ∧
      (∀ t ∈ post, TrailOk t) ∧ (finalNl = false → post.getLast? ≠ some []) ∧
      n = 2 ∧ pre = [[104, 105]] ∧ items = [.comment [120], .att (0, 1)] ∧ post = [[], [35, 101, 110, 100]] ∧
      finalNl = false ∧
      encodeUtf8 (joinLines
        (pre.map (fun t => 35 :: t) ++ (iccmaHeader n :: (items.map IccmaItem.line ++ post))) finalNl) = bytesB := by
  refine ⟨2, [[104, 105]], [.comment [120], .att (0, 1)], [[], [35, 101, 110, 100]], false, by decide, ?_, ?_, ?_,
    fun _ => by decide, rfl, rfl, rfl, rfl, rfl, by decide +kernel⟩
  · rw [List.forall_mem_singleton]
    exact LineOk.of_small _
  · rw [List.forall_mem_cons, List.forall_mem_singleton]
    exact ⟨LineOk.of_small _, by decide, by decide⟩
  · rw [List.forall_mem_cons, List.forall_mem_singleton]
    exact ⟨Or.inl rfl, Or.inr ⟨_, rfl, LineOk.of_small _⟩⟩

theorem io_concl_iccma : readIccma bytesB = .ok ⟨2, [(0, 1)]⟩ := by
  obtain ⟨n, pre, items, post, finalNl, hn, hpre, hit, hpost, hlast, _, _, hitems, _, _, hb⟩ := io_hyps_iccma
  have h := C13.iccma_wellformed_accepted_general n pre items post finalNl hn hpre hit hpost hlast
  rw [hb] at h
  subst_vars
  exact h

/-- `s UNSATISFIABLE\ns SATISFIABLE\nv 1 0\n` -/
def bytesC : List UInt8 :=
  [115, 32, 85, 78, 83, 65, 84, 73, 83, 70, 73, 65, 66, 76, 69, 10, 115, 32, 83, 65, 84, 73, 83, 70, 73, 65, 66, 76, 69,
   10, 118, 32, 49, 32, 48, 10]

/-- the hypotheses of `C16.malformed_reply_aborts`, part 3 -/
theorem io_hyps_reply :
    ∃ (nv : Nat) (out : List UInt8) (a b : List (Option IO.Str)),
      IO.lines out = a ++ some sUnsat :: b ∧
      (∃ l ∈ b, BadLine nv l ∨ StatusLine l) ∧
      nv = 1 ∧ out = bytesC ∧ a = [] ∧ b = [some sSat, some [118, 32, 49, 32, 48]] := by
  refine ⟨1, bytesC, [], [some sSat, some [118, 32, 49, 32, 48]], by decide +kernel,
    ⟨some sSat, by simp, Or.inr (Or.inl rfl)⟩, rfl, rfl, rfl, rfl⟩

/-- parts 3 and 2 of `C16.malformed_reply_aborts` (part 2: two status lines, the call aborts) -/
theorem io_concl_reply : parseReply 1 bytesC ≠ .unsat ∧ ∃ e, parseReply 1 bytesC = .abort e := by
  obtain ⟨nv, out, a, b, hl, hb, hnv, hout, ha, hb'⟩ := io_hyps_reply
  subst hnv hout ha hb'
  have h := C16.malformed_reply_aborts 1 bytesC
  exact ⟨h.2.2.1 _ _ hl hb, h.2.1 [] [] _ _ _ (Or.inr rfl) (Or.inl rfl) hl⟩

theorem io_hyps :
    (∃ (n : Nat) (pre : List IO.Str) (items : List IccmaItem) (post : List IO.Str) (finalNl : Bool),
      n ≤ 9223372036854775807 ∧
      (∀ t ∈ pre, LineOk (35 :: t)) ∧ (∀ it ∈ items, it.Ok n) ∧
      (∀ t ∈ post, TrailOk t) ∧ (finalNl = false → post.getLast? ≠ some []) ∧
      encodeUtf8 (joinLines
        (pre.map (fun t => 35 :: t) ++ (iccmaHeader n :: (items.map IccmaItem.line ++ post))) finalNl) = bytesB) ∧
    (∃ (nv : Nat) (out : List UInt8) (a b : List (Option IO.Str)),
      IO.lines out = a ++ some sUnsat :: b ∧ (∃ l ∈ b, BadLine nv l ∨ StatusLine l) ∧ nv = 1 ∧ out = bytesC) := by
  obtain ⟨n, pre, items, post, finalNl, h1, h2, h3, h4, h5, _, _, _, _, _, h6⟩ := io_hyps_iccma
  obtain ⟨nv, out, a, b, g1, g2, g3, g4, _⟩ := io_hyps_reply
  exact ⟨⟨n, pre, items, post, finalNl, h1, h2, h3, h4, h5, h6⟩, ⟨nv, out, a, b, g1, g2, g3, g4⟩⟩

theorem io_concl :
    readApx (encodeUtf8 textIO) = .ok ⟨[[97, 49], [97, 51], [97, 50]], [(1, 0), (2, 0)]⟩ ∧
    readIccma bytesB = .ok ⟨2, [(0, 1)]⟩ ∧
    parseReply 1 bytesC ≠ .unsat :=
  ⟨io_store_concl.2.2.2, io_concl_iccma, io_concl_reply.1⟩

end io

end Crusta.NonVacuity
