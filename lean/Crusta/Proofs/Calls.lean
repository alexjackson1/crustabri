import Crusta.Proofs.Prog
import Crusta.Proofs.Wp
import Crusta.Model.Solvers

/-!
# Counting SAT calls of `Prog` programs (C18)

`Bounded p n`: whatever the replies, running `p` makes at most `n` SAT calls.  Rules for the
constructors of `Prog`, then the bounds for the complete and stable solvers, and the passage to the
calculus (`wp_calls_le`), in which the other solvers' bounds are stated.
-/

namespace Crusta

def Bounded {α : Type} (p : Prog α) (n : Nat) : Prop :=
  ∀ (rs : List Reply) (w : World), (interp p rs w).2.calls ≤ w.calls + n

theorem Bounded.mono {α : Type} {p : Prog α} {n m : Nat} (h : Bounded p n) (hnm : n ≤ m) : Bounded p m :=
  fun rs w => Nat.le_trans (h rs w) (Nat.add_le_add_left hnm _)

theorem bounded_pure {α : Type} (a : α) (n : Nat) : Bounded (Prog.pure a) n :=
  fun _ _ => Nat.le_add_right _ _

theorem bounded_crash {α : Type} (m : String) (n : Nat) : Bounded (Prog.crash m : Prog α) n :=
  fun _ _ => Nat.le_add_right _ _

theorem bounded_newSolver {α : Type} {k : Nat → Prog α} {n : Nat} (h : ∀ i, Bounded (k i) n) :
    Bounded (Prog.newSolver k) n :=
  fun rs w => h w.solvers.length rs w.onNew

theorem bounded_reserve {α : Type} {s m : Nat} {k : Prog α} {n : Nat} (h : Bounded k n) :
    Bounded (Prog.reserve s m k) n :=
  fun rs w => h rs (w.onReserve s m)

theorem bounded_clause {α : Type} {s : Nat} {c : Clause} {k : Prog α} {n : Nat} (h : Bounded k n) :
    Bounded (Prog.clause s c k) n :=
  fun rs w => h rs (w.onClause s c)

theorem bounded_nVars {α : Type} {s : Nat} {k : Nat → Prog α} {n : Nat} (h : ∀ v, Bounded (k v) n) :
    Bounded (Prog.nVars s k) n :=
  fun rs w => h (w.nVarsOf s) rs (w.onNVars s)

theorem bounded_solve {α : Type} {s : Nat} {a : List Lit} {k : Option Model → Prog α} {n : Nat}
    (h : ∀ r, Bounded (k r) n) : Bounded (Prog.solve s a k) (n + 1) := by
  intro rs w
  have h1 : w.calls + 1 ≤ w.calls + (n + 1) := Nat.add_le_add_left (Nat.le_add_left 1 n) _
  cases rs with
  | nil => exact h1
  | cons r rs' =>
    cases r with
    | unknown => exact h1
    | unsat | sat m => exact Nat.le_trans (h _ rs' ((w.onSolve s a).onReply s _)) (Nat.le_of_eq (Nat.add_right_comm _ 1 n))

theorem bounded_bind {α β : Type} {p : Prog α} {f : α → Prog β} {n m : Nat}
    (hp : Bounded p n) (hf : ∀ a, Bounded (f a) m) : Bounded (p.bind f) (n + m) := by
  intro rs w
  rw [interp_bind]
  have h1 := hp rs w
  generalize interp p rs w = res at h1 ⊢
  obtain ⟨oc, w'⟩ := res
  have h2 : w'.calls ≤ w.calls + (n + m) := Nat.le_trans h1 (Nat.add_le_add_left (Nat.le_add_right n m) _)
  cases oc with
  | done a =>
    exact Nat.le_trans (hf a _ w') (Nat.le_trans (Nat.add_le_add_right h1 m) (Nat.le_of_eq (Nat.add_assoc ..)))
  | _ => exact h2

theorem bounded_bind_free {α β : Type} {p : Prog α} {f : α → Prog β} {m : Nat}
    (hp : Bounded p 0) (hf : ∀ a, Bounded (f a) m) : Bounded (p.bind f) m :=
  Nat.zero_add m ▸ bounded_bind hp hf

theorem Bounded.ite {α : Type} {c : Prop} [Decidable c] {p q : Prog α} {n : Nat} (hp : Bounded p n)
    (hq : Bounded q n) : Bounded (if c then p else q) n := by
  split
  · exact hp
  · exact hq

theorem bounded_solve_le {α : Type} {s : Nat} {a : List Lit} {k : Option Model → Prog α} (n : Nat) {N : Nat}
    (h : ∀ r, Bounded (k r) n) (hle : n + 1 ≤ N) : Bounded (Prog.solve s a k) N :=
  (bounded_solve h).mono hle

theorem bounded_addClauses (s : Nat) (f : Cnf) : Bounded (Prog.addClauses s f) 0 := by
  induction f with
  | nil => exact bounded_pure _ _
  | cons c cs ih => exact bounded_clause ih

theorem bounded_encodeInto (k : EncKind) (af : AF) (s : Nat) (r : Bool) : Bounded (encodeInto k af s r) 0 := by
  unfold encodeInto
  simp only [Prog.bind_eq, Prog.doReserve]
  split
  · simp only [Prog.bind]; exact bounded_reserve (bounded_addClauses _ _)
  · exact bounded_addClauses _ _

theorem bounded_needComp (x : Option (Option Comp × CC)) : Bounded (needComp x) 0 := by
  unfold needComp
  split
  · exact bounded_crash _ _
  · exact bounded_crash _ _
  · exact bounded_pure _ _

theorem bounded_needComp' (x : Option Comp) : Bounded (needComp' x) 0 := by
  unfold needComp'
  split
  · exact bounded_crash _ _
  · exact bounded_pure _ _

theorem bounded_ccArgs (c : Comp) (args : List Nat) : Bounded (ccArgs c args) 0 := by
  unfold ccArgs
  induction args with
  | nil => exact bounded_pure _ _
  | cons a as ih =>
    simp only [List.foldr_cons, Prog.bind_eq]
    apply bounded_bind_free ih
    intro rest
    split
    · exact bounded_pure _ _
    · exact bounded_crash _ _

theorem coDC_bounded (cfg : Cfg) (v : FwView) (args : List Nat) : Bounded (coDC cfg v args) 1 := by
  unfold coDC
  simp only [Prog.bind_eq, Prog.mkSolver, Prog.getNVars, Prog.addClause, Prog.doSolve, Prog.bind]
  apply bounded_newSolver; intro s
  apply bounded_bind_free (bounded_needComp _); intro x
  apply bounded_bind_free (bounded_encodeInto _ _ _ _); intro _
  apply bounded_nVars; intro nv
  apply bounded_bind_free (bounded_ccArgs _ _); intro pos
  apply bounded_clause
  apply bounded_solve; intro r
  exact bounded_clause (bounded_pure _ _)

theorem bounded_otherCompsWith (v : FwView) (f : Comp → Prog (List Nat)) (hf : ∀ c, Bounded (f c) 0) :
    ∀ (fuel : Nat) (cc : CC) (acc : List Nat), Bounded (otherCompsWith v f fuel cc acc) 0 := by
  intro fuel
  induction fuel with
  | zero => intro cc acc; exact bounded_crash _ _
  | succ fuel ih =>
    intro cc acc
    unfold otherCompsWith
    split
    · exact bounded_pure _ _
    · simp only [Prog.bind_eq]
      apply bounded_bind_free (bounded_needComp' _); intro c
      apply bounded_bind_free (hf c); intro e
      exact ih _ _

/-- the other components are completed with their grounded extensions, without SAT -/
theorem coDCcert_bounded (cfg : Cfg) (v : FwView) (args : List Nat) : Bounded (coDCcert cfg v args) 1 := by
  unfold coDCcert
  simp only [Prog.bind_eq, Prog.mkSolver, Prog.getNVars, Prog.addClause, Prog.doSolve, Prog.bind]
  apply bounded_bind_free (bounded_needComp _); intro x
  apply bounded_newSolver; intro s
  apply bounded_bind_free (bounded_encodeInto _ _ _ _); intro _
  apply bounded_nVars; intro nv
  apply bounded_bind_free (bounded_ccArgs _ _); intro pos
  apply bounded_clause
  apply bounded_solve; intro r
  cases r
  · exact bounded_pure _ _
  · apply bounded_bind_free
    · exact bounded_otherCompsWith v _ (fun c => bounded_pure _ _) _ _ _
    · intro _; exact bounded_pure _ _

theorem stSE_go_bounded : ∀ (comps : List (Option Comp)) (acc : List Nat),
    Bounded (stSE.go comps acc) comps.length := by
  intro comps
  induction comps with
  | nil => intro acc; unfold stSE.go; exact bounded_pure _ _
  | cons oc rest ih =>
    intro acc
    unfold stSE.go
    simp only [Prog.bind_eq, Prog.mkSolver, Prog.doSolve, Prog.bind, List.length_cons]
    apply bounded_bind_free (bounded_needComp' _); intro c
    apply bounded_newSolver; intro s
    apply bounded_bind_free (bounded_encodeInto _ _ _ _); intro _
    apply bounded_solve; intro r
    cases r
    · exact bounded_pure _ _
    · exact ih _

theorem stSE_bounded (v : FwView) : Bounded (stSE v) (allComps v).length := stSE_go_bounded _ _

theorem stAcc_go_bounded (args : List Nat) (pol sou : Bool) : ∀ (comps : List (Option Comp)) (acc : List Nat) (found : Bool),
    Bounded (stAcc.go args pol sou comps acc found) (2 * comps.length) := by
  intro comps
  induction comps with
  | nil => intro acc found; unfold stAcc.go; exact (bounded_pure _ _).ite (bounded_pure _ _)
  | cons oc rest ih =>
    intro acc found
    unfold stAcc.go
    simp only [Prog.bind_eq, Prog.mkSolver, Prog.doSolve, Prog.getNVars, Prog.addClause, Prog.bind, List.length_cons]
    -- two single calls on top of the budget of `rest`: each `bounded_solve` below takes one
    show Bounded _ (2 * rest.length + 1 + 1)
    apply bounded_bind_free (bounded_needComp' _); intro c
    apply bounded_newSolver; intro s
    apply bounded_bind_free (bounded_encodeInto _ _ _ _); intro _
    apply Bounded.ite
    · apply Bounded.ite
      · apply bounded_nVars; intro nv
        apply bounded_clause
        apply bounded_solve; intro r
        apply bounded_clause
        cases r
        · apply bounded_solve; intro r2
          cases r2
          · exact bounded_pure _ _
          · exact ih _ _
        · exact (ih _ _).mono (Nat.le_succ _)
      · apply bounded_solve; intro r
        cases r
        · exact bounded_pure _ _
        · exact (ih _ _).mono (Nat.le_succ _)
    · apply bounded_solve; intro r
      cases r
      · exact bounded_pure _ _
      · exact (ih _ _).mono (Nat.le_succ _)

theorem stAcc_bounded (v : FwView) (args : List Nat) (pol sou : Bool) :
    Bounded (stAcc v args pol sou) (2 * (allComps v).length) := stAcc_go_bounded args pol sou _ _ _

theorem wp_calls_of_interp {α : Type} (p : Prog α) : ∀ (w : World) (c : Nat),
    (∀ rs, (interp p rs w).2.calls ≤ c) → wp True p w (fun _ w' => w'.calls ≤ c) := by
  induction p with
  | pure a => intro w c h; exact h []
  | crash m => intro w c h; trivial
  | newSolver k ih => intro w c h; exact ih _ _ _ (fun rs => h rs)
  | reserve s n k ih => intro w c h; exact ih _ _ (fun rs => h rs)
  | clause s cl k ih => intro w c h; exact ih _ _ (fun rs => h rs)
  | nVars s k ih => intro w c h; exact ih _ _ _ (fun rs => h rs)
  | solve s a k ih =>
    intro w c h
    exact ⟨fun m _ => ih (some m) _ _ (fun rs => h (.sat m :: rs)),
           fun _ => ih none _ _ (fun rs => h (.unsat :: rs))⟩

theorem wp_calls_le {α : Type} {p : Prog α} {n : Nat} (h : Bounded p n) (w : World) :
    wp True p w (fun _ w' => w'.calls ≤ w.calls + n) :=
  wp_calls_of_interp p w _ (fun rs => h rs w)

end Crusta
