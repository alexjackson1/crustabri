import Crusta.Proofs.SolveCO

/-!
# Stable semantics solver: the queries on one component

`stSE` / `stAcc` iterate over the connected components, solving the stable encoding of each.  Here:
what the stable encoding in a solver with a fresh selector says (`StbBase`, which is `SelBase .stb`
with the argument variable `a + 1` written out), the meaning of the four kinds of SAT call made on a
component (plain, under the selector, after the selector is retired, avoiding the queried positions),
and the common prefix of a round (`wp_stInit`: take the component, create a solver, encode).  The loops
over the components are in `StaticST`.
-/

namespace Crusta
open Prog (mkSolver doReserve addClause addClauses getNVars doSolve)

/-- the pieces `es` of the components `cs`, mapped back to original ids and concatenated; the loops of
`StaticST` keep the pieces zipped with their components (`backAll`) and do not use this form -/
def backZip (cs : List Comp) (es : List (List Nat)) : List Nat := (List.zipWith Comp.back cs es).flatten

@[simp] theorem backZip_nil : backZip [] [] = [] := rfl

/-- `SelBase .stb af base sel` with `EncKind.argVar` and `EncKind.clauses` evaluated (`StbBase.toSel`).  A
structure of its own because the lemmas below read a model through the concrete stable encoding
(`Stb.enc`, `Stb.decode`, the variable `a + 1`): on `SelBase .stb` each of them would start by rewriting
`EncKind.clauses`, `argVar` and `S` to these; `toSel` serves the two facts that need nothing concrete
(`lift`, `hit_*`) -/
structure StbBase (af : AF) (base : Cnf) (sel : Nat) : Prop where
  wf : af.WF
  eqv : ∀ ν, cnfTrue ν base = cnfTrue ν (Stb.enc af)
  fresh_db : ∀ c ∈ base, ∀ l ∈ c, l.var ≠ sel
  fresh_arg : ∀ a, a < af.n → a + 1 ≠ sel

theorem Encoded.stbBase {af : AF} {s : Nat} {w : World} (h : Encoded .stb af s false w) (hwf : af.WF) :
    StbBase af (w.db s) (w.nVarsOf s + 1) where
  wf := hwf
  eqv := h.cnfTrue_db
  fresh_db := h.db_fresh
  fresh_arg := fun _ ha => h.argVar_fresh ha

theorem StbBase.decode {af : AF} {base : Cnf} {sel : Nat} (H : StbBase af base sel) (m : Model)
    (h : cnfTrue (asgOfModel m) base = true) :
    Stable af (ofList (Stb.decode af.n m)) ∧ (∀ i ∈ Stb.decode af.n m, i < af.n) ∧
      ∀ i, i < af.n → (i ∈ Stb.decode af.n m ↔ asgOfModel m (i + 1) = true) := by
  rw [H.eqv] at h
  have hs : Stable af (EncKind.stb.S af (asgOfModel m)) := EncKind.sound .stb af H.wf _ h
  have hd : ∀ a, a ∈ Stb.decode af.n m ↔ EncKind.stb.S af (asgOfModel m) a = true :=
    fun a => EncKind.decode_spec .stb af m a
  have ho : ofList (Stb.decode af.n m) = EncKind.stb.S af (asgOfModel m) := EncKind.ofList_decode .stb af m
  refine ⟨ho ▸ hs, ?_, ?_⟩
  · intro i hi
    exact EncKind.S_sub .stb af _ i ((hd i).1 hi)
  · intro i hi
    rw [hd i, EncKind.S_lt .stb hi]
    rfl

theorem StbBase.toSel {af : AF} {base : Cnf} {sel : Nat} (H : StbBase af base sel) : SelBase .stb af base sel :=
  ⟨H.wf, H.eqv, H.fresh_db, H.fresh_arg⟩

theorem StbBase.lift {af : AF} {base : Cnf} {sel : Nat} (H : StbBase af base sel) (T : ASet)
    (hT : Stable af T) (b : Bool) :
    ∃ ν, cnfTrue ν base = true ∧ ν sel = b ∧ ∀ i, i < af.n → ν (i + 1) = T i := by
  obtain ⟨ν, hν, hsel, hS⟩ := H.toSel.lift hT b
  exact ⟨ν, hν, hsel, fun i hi => by rw [← hS, EncKind.S_lt .stb hi]; rfl⟩

section solveFacts
variable {af : AF} {base : Cnf} {sel : Nat} (H : StbBase af base sel)
include H

theorem StbBase.plain_sat {db : Cnf} {a : List Lit} {m : Model}
    (hsub : ∀ ν, cnfTrue ν db = true → cnfTrue ν base = true) (h : ReplySound db a (.sat m)) :
    Stable af (ofList (Stb.decode af.n m)) ∧ ∀ i ∈ Stb.decode af.n m, i < af.n :=
  let r := H.decode m (hsub _ h.2.1); ⟨r.1, r.2.1⟩

theorem StbBase.plain_unsat (h : ReplySound base [] .unsat) : ∀ T, ¬ Stable af T := by
  intro T hT
  obtain ⟨ν, hν, _, _⟩ := H.lift T hT true
  exact h ν ⟨hν, rfl⟩

theorem StbBase.hit_sat {L : List Nat} (hL : ∀ p ∈ L, p < af.n) {m : Model}
    (h : ReplySound (hitClause .stb L sel :: base) [pl sel] (.sat m)) :
    (Stable af (ofList (Stb.decode af.n m)) ∧ ∀ i ∈ Stb.decode af.n m, i < af.n) ∧
      ∃ p ∈ L, p ∈ Stb.decode af.n m := by
  obtain ⟨_, p, hp, hSp⟩ := H.toSel.hit_sat hL h
  obtain ⟨hst, hlt, _⟩ := H.decode m ((cnfTrue_cons_iff _ _ _).1 h.2.1).2
  exact ⟨⟨hst, hlt⟩, p, hp, (EncKind.decode_spec .stb af m p).2 hSp⟩

theorem StbBase.hit_unsat {L : List Nat} (hL : ∀ p ∈ L, p < af.n)
    (h : ReplySound (hitClause .stb L sel :: base) [pl sel] .unsat) :
    ∀ T, Stable af T → ∀ p ∈ L, T p = false :=
  fun _ hT => H.toSel.hit_unsat hL h hT

theorem StbBase.retired_unsat {L : List Nat}
    (h : ReplySound ([nl sel] :: hitClause .stb L sel :: base) [] .unsat) : ∀ T, ¬ Stable af T := by
  intro T hT
  obtain ⟨ν, hν, hsel, _⟩ := H.lift T hT false
  apply h ν
  refine ⟨(cnfTrue_cons_iff _ _ _).2 ⟨?_, (cnfTrue_cons_iff _ _ _).2 ⟨(clauseTrue_hit _ _ _ _).2 (Or.inr hsel), hν⟩⟩, rfl⟩
  rw [clauseTrue_singleton, litTrue_nl, hsel]; rfl

theorem StbBase.avoid_sat {L : List Nat} (hL : ∀ p ∈ L, p < af.n) {m : Model}
    (h : ReplySound base (L.map (fun a => (argLit .stb a).neg)) (.sat m)) :
    (Stable af (ofList (Stb.decode af.n m)) ∧ ∀ i ∈ Stb.decode af.n m, i < af.n) ∧
      ∀ p ∈ L, p ∉ Stb.decode af.n m := by
  obtain ⟨_, hΓ, hA⟩ := h
  obtain ⟨hst, hlt, hiff⟩ := H.decode m hΓ
  refine ⟨⟨hst, hlt⟩, ?_⟩
  intro p hp hmem
  have h1 := (hiff p (hL p hp)).1 hmem
  have h2 : litTrue (asgOfModel m) (argLit .stb p).neg = true := (assumpsTrue_map _ _ _).1 hA p hp
  simp [argLit, EncKind.argVar, h1] at h2

theorem StbBase.avoid_unsat {L : List Nat} (hL : ∀ p ∈ L, p < af.n)
    (h : ReplySound base (L.map (fun a => (argLit .stb a).neg)) .unsat) :
    ∀ T, Stable af T → ∃ p ∈ L, T p = true := by
  intro T hT
  apply Classical.byContradiction
  intro hno
  obtain ⟨ν, hν, _, harg⟩ := H.lift T hT true
  apply h ν
  refine ⟨hν, (assumpsTrue_map _ _ _).2 fun p hp => ?_⟩
  have : T p = false := by
    cases hTp : T p with
    | false => rfl
    | true => exact (hno ⟨p, hp, hTp⟩).elim
  simp [argLit, EncKind.argVar, harg p (hL p hp), this]

end solveFacts

theorem wp_stInit {C : Prop} {β : Type} (c : Comp) (w : World) (hb : w.Bounded) (hwf : c.af.WF) (k : Comp → Nat → Prog β) (Q : β → World → Prop)
    (h : ∀ w1, w1.Bounded → StbBase c.af (w1.db w.solvers.length) (w1.nVarsOf w.solvers.length + 1) →
      wp C (k c w.solvers.length) w1 Q) :
    wp C ((needComp' (some c)).bind fun c => mkSolver.bind fun s =>
      (encodeInto .stb c.af s false).bind fun _ => k c s) w Q := by
  -- `needComp' (some c)` is `pure c`; `wp` is still transparent here, the rules are used all the same
  show wp C (mkSolver.bind _) w Q
  rw [wp_bind, wp_mkSolver, wp_bind]
  apply wp_encodeInto _ _ _ _ _ (Bounded_onNew hb) (lt_len_onNew w) (db_onNew_self w)
  intro w1 henc
  exact h w1 henc.bounded (henc.stbBase hwf)

/-- `inCc` is the name `stAcc.go` gives to `args.filterMap c.pos`, the queried positions in the component -/
theorem inCc_lt {c : Comp} (hn : c.af.n = c.ids.length) (args : List Nat) : ∀ p ∈ args.filterMap c.pos, p < c.af.n := by
  intro p hp
  obtain ⟨x, _, hx⟩ := List.mem_filterMap.1 hp
  exact Comp.pos_lt hn hx

/-- the hypothesis has the shape the test `!inCc.isEmpty` of `stAcc.go` leaves in its `else` branch -/
theorem inCc_empty {c : Comp} {args : List Nat} (h : ¬ (!(args.filterMap c.pos).isEmpty) = true) :
    args.filterMap c.pos = [] := by
  cases he : args.filterMap c.pos with
  | nil => rfl
  | cons a t => rw [he] at h; exact absurd rfl h

end Crusta
