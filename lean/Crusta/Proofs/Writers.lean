import Crusta.Proofs.Lexical

/-!
# Written extensions parse back (C14), at the level of code points

Also the lemmas on the two tokenizers the parsers use (`splitOnComma`, `splitWs`): `splitWs_join`
is what `RoundTrip` evaluates the written ICCMA lines with.
-/

namespace Crusta.IO

/-- a non-empty label without comma or blank: every Aspartix identifier and every decimal number -/
def NoSep (l : Str) : Prop := l ≠ [] ∧ ∀ c ∈ l, c ≠ 44 ∧ isWs c = false

theorem splitOnComma_go_append (x : Str) (hx : ∀ c ∈ x, c ≠ 44) (rest cur : Str) (acc : List Str) :
    splitOnComma.go (x ++ rest) cur acc = splitOnComma.go rest (x.reverse ++ cur) acc := by
  induction x generalizing cur with
  | nil => simp
  | cons c cs ih =>
    have hc : (c == 44) = false := by
      have := hx c (List.mem_cons_self ..); simpa using this
    simp only [List.cons_append, splitOnComma.go, hc]
    rw [ih (fun d hd => hx d (List.mem_cons_of_mem _ hd))]
    simp

theorem intercalate_cons (c : Nat) (x : Str) (xs : List Str) :
    intercalate [c] (x :: xs) = x ++ xs.flatMap (fun l => c :: l) := by
  induction xs generalizing x with
  | nil => exact (List.append_nil x).symm
  | cons y ys ih =>
    show x ++ [c] ++ intercalate [c] (y :: ys) = _
    rw [ih, List.flatMap_cons, List.append_assoc, List.singleton_append, List.cons_append]

theorem splitOnComma_words (xs : List Str) (h : ∀ l ∈ xs, ∀ c ∈ l, c ≠ 44) (cur : Str) (acc : List Str) :
    splitOnComma.go (xs.flatMap (fun l => 44 :: l)) cur acc = acc.reverse ++ cur.reverse :: xs := by
  induction xs generalizing cur acc with
  | nil => rw [List.flatMap_nil, splitOnComma.go, List.reverse_cons]
  | cons x xs ih =>
    rw [List.flatMap_cons, List.cons_append, splitOnComma.go, if_pos (beq_self_eq_true 44),
      splitOnComma_go_append x (h x (List.mem_cons_self ..)), List.append_nil,
      ih (fun l hl => h l (List.mem_cons_of_mem _ hl)), List.reverse_cons, List.reverse_reverse,
      List.append_assoc, List.singleton_append]

/-- **Aspartix extension line**: `[l1,…,lk]\n` reads back to exactly the labels (empty list included) -/
theorem parseExtApx_write (ext : List Str) (h : ∀ l ∈ ext, ∀ c ∈ l, c ≠ 44) (hne : ∀ l ∈ ext, l ≠ []) :
    parseExtApx (writeExtApx ext) = some ext := by
  cases ext with
  | nil => rfl
  | cons x xs =>
    have hx : (x ++ xs.flatMap (fun l => 44 :: l)).isEmpty = false :=
      List.isEmpty_eq_false_iff.2 (List.append_ne_nil_of_left_ne_nil (hne x (List.mem_cons_self ..)) _)
    rw [writeExtApx, intercalate_cons, List.append_assoc, List.singleton_append, parseExtApx]
    simp only [List.reverse_append, List.reverse_cons, List.reverse_nil, List.nil_append, List.cons_append,
      List.reverse_reverse, hx, Bool.false_eq_true, if_false]
    rw [splitOnComma, splitOnComma_go_append x (h x (List.mem_cons_self ..)), List.append_nil,
      splitOnComma_words xs (fun l hl => h l (List.mem_cons_of_mem _ hl)), List.reverse_reverse,
      List.reverse_nil, List.nil_append]

theorem splitWs_go_word (x : Str) (hx : ∀ c ∈ x, isWs c = false) (rest cur : Str) (acc : List Str) :
    splitWs.go (x ++ rest) cur acc = splitWs.go rest (x.reverse ++ cur) acc := by
  induction x generalizing cur with
  | nil => simp
  | cons c cs ih =>
    have hc := hx c (List.mem_cons_self ..)
    simp only [List.cons_append, splitWs.go, hc]
    rw [ih (fun d hd => hx d (List.mem_cons_of_mem _ hd))]
    simp

/-- stated for any scanner state: the leading space flushes the word in progress -/
theorem splitWs_words (ext : List Str) (h : ∀ l ∈ ext, l ≠ [] ∧ ∀ c ∈ l, isWs c = false) (cur : Str)
    (acc : List Str) :
    splitWs.go (ext.flatMap (fun l => 32 :: l)) cur acc =
      (if cur.isEmpty then acc else cur.reverse :: acc).reverse ++ ext := by
  induction ext generalizing cur acc with
  | nil => rw [List.flatMap_nil, splitWs.go, List.append_nil]
  | cons x xs ih =>
    obtain ⟨hne, hx⟩ := h x (List.mem_cons_self ..)
    have hxe : x.reverse.isEmpty = false := by rw [List.isEmpty_reverse, List.isEmpty_eq_false_iff]; exact hne
    rw [List.flatMap_cons, List.cons_append, splitWs.go, isWs_space, if_pos rfl, splitWs_go_word x hx,
      List.append_nil, ih (fun l hl => h l (List.mem_cons_of_mem _ hl)), hxe, if_neg Bool.false_ne_true,
      List.reverse_reverse, List.reverse_cons, List.append_assoc, List.singleton_append]

theorem splitWs_join (w : Str) (ws : List Str) (h : ∀ l ∈ w :: ws, l ≠ [] ∧ ∀ c ∈ l, isWs c = false) :
    splitWs (w ++ ws.flatMap (fun l => 32 :: l)) = w :: ws := by
  obtain ⟨hne, hw⟩ := h w (List.mem_cons_self ..)
  have hwe : w.reverse.isEmpty = false := by rw [List.isEmpty_reverse, List.isEmpty_eq_false_iff]; exact hne
  rw [splitWs, splitWs_go_word w hw, List.append_nil,
    splitWs_words ws (fun l hl => h l (List.mem_cons_of_mem _ hl)), hwe, if_neg Bool.false_ne_true,
    List.reverse_reverse, List.reverse_singleton, List.singleton_append]

theorem writeExtIccma_eq (ext : List Str) :
    writeExtIccma ext = (119 :: ext.flatMap (fun l => 32 :: l)) ++ [10] := rfl

theorem extIccma_body_no_lf (ext : List Str) (h : ∀ l ∈ ext, ∀ c ∈ l, c ≠ 10) :
    ∀ c ∈ 119 :: ext.flatMap (fun l => 32 :: l), c ≠ 10 := by
  intro c hc
  rcases List.mem_cons.1 hc with rfl | hc
  · decide
  · obtain ⟨l, hl, hcl⟩ := List.mem_flatMap.1 hc
    rcases List.mem_cons.1 hcl with rfl | hcl
    · decide
    · exact h l hl c hcl

/-- **ICCMA extension line**: `w l1 … lk\n` reads back to exactly the labels (empty list included) -/
theorem parseExtIccma_write (ext : List Str) (h : ∀ l ∈ ext, l ≠ [] ∧ ∀ c ∈ l, isWs c = false) :
    parseExtIccma (writeExtIccma ext) = some ext := by
  rw [writeExtIccma, List.append_assoc, List.singleton_append, parseExtIccma]
  simp only [List.getLast?_concat, List.dropLast_concat]
  rw [splitWs, splitWs_words ext h]; rfl

end Crusta.IO
