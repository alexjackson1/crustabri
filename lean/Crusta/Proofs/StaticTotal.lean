import Crusta.Proofs.StaticAll

/-!
# Total correctness of every entry point of every static solver

`static_entry_spec` (`StaticAll.lean`) has the crash condition "the fuel is short".  Here: with a fuel
of at least `fuelFor (1 + maxId)` no `crash` node of the model is reached on sound replies — neither a
modelled Rust panic (`unwrap` on `None`, "unreachable", "no more extensions", "already computed", …)
nor the exhaustion of the artificial fuel of the model's loops — and the answer is right
(`static_entry_total`, `static_never_panics`, `static_run_total`).
-/

namespace Crusta

theorem static_entry_total (sk : SolverKind) (cfg : Cfg) (hcfg : CfgOK sk cfg) (v : FwView) (g : G) (hv : v.Ok g)
    (e : Entry) (hargs : ∀ a, a ∈ e.argsList → g.live a = true)
    (p : Prog Ans) (hp : entryProg sk cfg v e = some p) (w : World) (hb : w.Bounded)
    (hfuel : cfg.fuel ≥ fuelFor (1 + v.maxId.getD 0)) :
    wp False p w (fun ans _ => EntryOK sk.sem g e ans) :=
  wp_conseq (fun h => absurd hfuel (Nat.not_le_of_lt h)) _ _ _ _ (fun _ _ h => h)
    (static_entry_spec sk cfg hcfg v g hv e hargs p hp w hb)

theorem static_never_panics (sk : SolverKind) (cfg : Cfg) (hcfg : CfgOK sk cfg) (v : FwView) (g : G) (hv : v.Ok g)
    (e : Entry) (hargs : ∀ a, a ∈ e.argsList → g.live a = true)
    (p : Prog Ans) (hp : entryProg sk cfg v e = some p) (w : World) (hb : w.Bounded)
    (hfuel : cfg.fuel ≥ fuelFor (1 + v.maxId.getD 0)) (rs : List Reply) (hs : RunSound p rs w) :
    ∀ msg w', interp p rs w ≠ (.crashed msg, w') :=
  wp_no_crash p rs w _ (static_entry_total sk cfg hcfg v g hv e hargs p hp w hb hfuel) hs

theorem static_run_total (sk : SolverKind) (cfg : Cfg) (hcfg : CfgOK sk cfg) (v : FwView) (g : G) (hv : v.Ok g)
    (e : Entry) (hargs : ∀ a, a ∈ e.argsList → g.live a = true)
    (p : Prog Ans) (hp : entryProg sk cfg v e = some p) (w : World) (hb : w.Bounded)
    (hfuel : cfg.fuel ≥ fuelFor (1 + v.maxId.getD 0)) (rs : List Reply) (hs : RunSound p rs w) :
    (∃ ans w', interp p rs w = (.done ans, w') ∧ EntryOK sk.sem g e ans) ∨
    (∃ w', interp p rs w = (.abort, w')) ∨ (∃ w', interp p rs w = (.starved, w')) :=
  wp_run_total p rs w _ (static_entry_total sk cfg hcfg v g hv e hargs p hp w hb hfuel) hs

end Crusta
