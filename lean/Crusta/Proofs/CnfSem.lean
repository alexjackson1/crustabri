import Crusta.Model.Cnf

/-!
# Truth of literals, clauses, formulas and assumption lists under an assignment

`clauseTrue`, `cnfTrue` (`Model/Cnf`) and `assumpsTrue` (defined here: the assumptions of a `solve`
call are a list of literals that all hold) are Boolean folds of `litTrue` over lists.  The proofs read
them through the lemmas of this file and do not unfold them: as a quantifier over the members, along
the list operations the encoders and solvers build their clauses with, and under a change of the
assignment on variables that do not occur (`Asg.set` with the `_set_fresh` lemmas: a selector variable
gets its value without disturbing the clauses already there).
-/

namespace Crusta

def assumpsTrue (ν : Asg) (a : List Lit) : Bool := a.all (litTrue ν)

@[simp] theorem litTrue_pl (ν : Asg) (v : Nat) : litTrue ν (pl v) = ν v := rfl
@[simp] theorem litTrue_nl (ν : Asg) (v : Nat) : litTrue ν (nl v) = !(ν v) := rfl
@[simp] theorem litTrue_neg (ν : Asg) (l : Lit) : litTrue ν l.neg = !(litTrue ν l) := by
  cases l with | mk v p => cases p <;> simp [Lit.neg, litTrue]

theorem litTrue_agree {ν ν' : Asg} {l : Lit} (h : ν l.var = ν' l.var) : litTrue ν l = litTrue ν' l := by
  rw [litTrue, litTrue, h]

theorem clauseTrue_iff (ν : Asg) (c : Clause) : clauseTrue ν c = true ↔ ∃ l ∈ c, litTrue ν l = true :=
  List.any_eq_true

@[simp] theorem clauseTrue_nil (ν : Asg) : clauseTrue ν [] = false := rfl

@[simp] theorem clauseTrue_cons (ν : Asg) (l : Lit) (c : Clause) :
    clauseTrue ν (l :: c) = (litTrue ν l || clauseTrue ν c) := List.any_cons

theorem clauseTrue_singleton (ν : Asg) (l : Lit) : clauseTrue ν [l] = litTrue ν l := by
  rw [clauseTrue_cons, clauseTrue_nil, Bool.or_false]

theorem clauseTrue_nl_cons (ν : Asg) (u : Nat) (c : Clause) :
    clauseTrue ν (nl u :: c) = true ↔ (ν u = true → clauseTrue ν c = true) := by
  simp only [clauseTrue_cons, litTrue_nl, Bool.or_eq_true, Bool.not_eq_true',
    Classical.or_iff_not_imp_left, Bool.not_eq_false]

theorem clauseTrue_append (ν : Asg) (c d : Clause) :
    clauseTrue ν (c ++ d) = (clauseTrue ν c || clauseTrue ν d) := List.any_append

theorem clauseTrue_map {α : Type} (ν : Asg) (l : List α) (g : α → Lit) :
    clauseTrue ν (l.map g) = true ↔ ∃ a ∈ l, litTrue ν (g a) = true := by
  rw [clauseTrue, List.any_map, List.any_eq_true]; rfl

theorem clauseTrue_agree {ν ν' : Asg} {c : Clause} (h : ∀ l ∈ c, ν l.var = ν' l.var) :
    clauseTrue ν c = clauseTrue ν' c := by
  induction c with
  | nil => rfl
  | cons a t ih =>
    rw [clauseTrue_cons, clauseTrue_cons, litTrue_agree (h a List.mem_cons_self),
      ih fun l hl => h l (List.mem_cons_of_mem _ hl)]

theorem cnfTrue_iff (ν : Asg) (f : Cnf) : cnfTrue ν f = true ↔ ∀ c ∈ f, clauseTrue ν c = true :=
  List.all_eq_true

@[simp] theorem cnfTrue_nil (ν : Asg) : cnfTrue ν [] = true := rfl

@[simp] theorem cnfTrue_cons (ν : Asg) (c : Clause) (f : Cnf) :
    cnfTrue ν (c :: f) = (clauseTrue ν c && cnfTrue ν f) := List.all_cons

theorem cnfTrue_cons_iff (ν : Asg) (c : Clause) (f : Cnf) :
    cnfTrue ν (c :: f) = true ↔ clauseTrue ν c = true ∧ cnfTrue ν f = true := by
  rw [cnfTrue_cons, Bool.and_eq_true]

@[simp] theorem cnfTrue_append (ν : Asg) (f g : Cnf) :
    cnfTrue ν (f ++ g) = (cnfTrue ν f && cnfTrue ν g) := List.all_append

theorem cnfTrue_append_iff (ν : Asg) (f g : Cnf) :
    cnfTrue ν (f ++ g) = true ↔ (cnfTrue ν f = true ∧ cnfTrue ν g = true) := by
  rw [cnfTrue_append, Bool.and_eq_true]

theorem cnfTrue_reverse (ν : Asg) (f : Cnf) : cnfTrue ν f.reverse = cnfTrue ν f := List.all_reverse

theorem cnfTrue_flatMap {α : Type} (ν : Asg) (l : List α) (g : α → Cnf) :
    cnfTrue ν (l.flatMap g) = true ↔ ∀ a ∈ l, cnfTrue ν (g a) = true := by
  rw [cnfTrue, List.all_flatMap, List.all_eq_true]; rfl

theorem cnfTrue_flatMap_range (ν : Asg) (n : Nat) (g : Nat → Cnf) :
    cnfTrue ν ((List.range n).flatMap g) = true ↔ ∀ a, a < n → cnfTrue ν (g a) = true := by
  simp only [cnfTrue_flatMap, List.mem_range]

theorem cnfTrue_map {α : Type} (ν : Asg) (l : List α) (g : α → Clause) :
    cnfTrue ν (l.map g) = true ↔ ∀ a ∈ l, clauseTrue ν (g a) = true := by
  rw [cnfTrue, List.all_map, List.all_eq_true]; rfl

theorem cnfTrue_agree {ν ν' : Asg} {f : Cnf} (h : ∀ c ∈ f, ∀ l ∈ c, ν l.var = ν' l.var) :
    cnfTrue ν f = cnfTrue ν' f := by
  induction f with
  | nil => rfl
  | cons c t ih =>
    rw [cnfTrue_cons, cnfTrue_cons, clauseTrue_agree (h c List.mem_cons_self),
      ih fun c' hc' => h c' (List.mem_cons_of_mem _ hc')]

theorem assumpsTrue_iff (ν : Asg) (a : List Lit) : assumpsTrue ν a = true ↔ ∀ l ∈ a, litTrue ν l = true :=
  List.all_eq_true

theorem assumpsTrue_nil (ν : Asg) : assumpsTrue ν [] = true := rfl

theorem assumpsTrue_cons (ν : Asg) (l : Lit) (a : List Lit) :
    assumpsTrue ν (l :: a) = (litTrue ν l && assumpsTrue ν a) := List.all_cons

theorem assumpsTrue_singleton (ν : Asg) (l : Lit) : assumpsTrue ν [l] = litTrue ν l := by
  rw [assumpsTrue_cons, assumpsTrue_nil, Bool.and_true]

theorem assumpsTrue_append (ν : Asg) (a b : List Lit) :
    assumpsTrue ν (a ++ b) = (assumpsTrue ν a && assumpsTrue ν b) := List.all_append

theorem assumpsTrue_append_iff (ν : Asg) (a b : List Lit) :
    assumpsTrue ν (a ++ b) = true ↔ (assumpsTrue ν a = true ∧ assumpsTrue ν b = true) := by
  rw [assumpsTrue_append, Bool.and_eq_true]

theorem assumpsTrue_map {α : Type} (ν : Asg) (l : List α) (g : α → Lit) :
    assumpsTrue ν (l.map g) = true ↔ ∀ a ∈ l, litTrue ν (g a) = true := by
  rw [assumpsTrue, List.all_map, List.all_eq_true]; rfl

theorem assumpsTrue_agree {ν ν' : Asg} {a : List Lit} (h : ∀ l ∈ a, ν l.var = ν' l.var) :
    assumpsTrue ν a = assumpsTrue ν' a := by
  induction a with
  | nil => rfl
  | cons l t ih =>
    rw [assumpsTrue_cons, assumpsTrue_cons, litTrue_agree (h l List.mem_cons_self),
      ih fun l' hl' => h l' (List.mem_cons_of_mem _ hl')]

theorem all_filter_map {α : Type} (ν : Asg) (f : α → Lit) (l : List α) (R : α → Bool) :
    (∀ x ∈ (l.filter R).map f, litTrue ν x = true) ↔ ∀ a ∈ l, R a = true → litTrue ν (f a) = true := by
  simp only [List.forall_mem_map, List.mem_filter, and_imp]

theorem any_filter_map {α : Type} (ν : Asg) (f : α → Lit) (l : List α) (R : α → Bool) :
    (∃ x ∈ (l.filter R).map f, litTrue ν x = true) ↔ ∃ a ∈ l, R a = true ∧ litTrue ν (f a) = true := by
  simp only [List.mem_map, List.mem_filter, and_assoc]
  exact ⟨fun ⟨_, ⟨a, ha, hR, e⟩, ht⟩ => ⟨a, ha, hR, e ▸ ht⟩, fun ⟨a, ha, hR, ht⟩ => ⟨_, ⟨a, ha, hR, rfl⟩, ht⟩⟩

def Asg.set (ν : Asg) (v : Nat) (b : Bool) : Asg := fun x => if x = v then b else ν x

@[simp] theorem Asg.set_self (ν : Asg) (v : Nat) (b : Bool) : ν.set v b v = b := by simp [Asg.set]
theorem Asg.set_ne (ν : Asg) {v x : Nat} (b : Bool) (h : x ≠ v) : ν.set v b x = ν x := by simp [Asg.set, h]

theorem clauseTrue_set_fresh (ν : Asg) (v : Nat) (b : Bool) {c : Clause} (h : ∀ l ∈ c, l.var ≠ v) :
    clauseTrue (ν.set v b) c = clauseTrue ν c :=
  clauseTrue_agree fun l hl => Asg.set_ne ν b (h l hl)

theorem cnfTrue_set_fresh (ν : Asg) (v : Nat) (b : Bool) {f : Cnf} (h : ∀ c ∈ f, ∀ l ∈ c, l.var ≠ v) :
    cnfTrue (ν.set v b) f = cnfTrue ν f :=
  cnfTrue_agree fun c hc l hl => Asg.set_ne ν b (h c hc l hl)

theorem assumpsTrue_set_fresh (ν : Asg) (v : Nat) (b : Bool) {a : List Lit} (h : ∀ l ∈ a, l.var ≠ v) :
    assumpsTrue (ν.set v b) a = assumpsTrue ν a :=
  assumpsTrue_agree fun l hl => Asg.set_ne ν b (h l hl)

theorem asgOfModel_iff (m : List (Option Bool)) (v : Nat) :
    asgOfModel m v = true ↔ (1 ≤ v ∧ m[v - 1]? = some (some true)) := by
  simp only [asgOfModel, Bool.and_eq_true, decide_eq_true_eq, beq_iff_eq, ge_iff_le,
    List.getD_eq_getElem?_getD]
  cases m[v - 1]? <;> simp

end Crusta
