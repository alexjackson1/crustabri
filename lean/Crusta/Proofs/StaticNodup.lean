import Crusta.Proofs.StaticAll
import Crusta.Proofs.Oracle

/-!
# Every list returned by a static solver is duplicate-free; the run-time judge accepts the answers

`EntryOK` (`StaticSpec`) speaks of the *set* `ofList e` of a returned list.  The property text
(C01–C04, C07) and the run-time judge `checkAnswer` also demand that the list has no duplicates.

`Leaves P p`: every `pure` leaf of the program tree `p` satisfies `P` — whatever the SAT solver
replies (sound or not).  Duplicate-freeness does not depend on the replies: every returned list is
a concatenation over pairwise disjoint components of `c.back e`, `e` duplicate-free.  This is why
the programs are traversed once more here, apart from the `wp` proofs of `Static*`: the searches
on one component (`Solve*`) say nothing of the order or multiplicity of what they return, and a
statement about all leaves needs no invariant of the SAT interface.
-/

namespace Crusta
open Prog (mkSolver doReserve addClause addClauses getNVars doSolve)

/-- every value the program can return (on any replies at all) satisfies `P`.  (An inductive
predicate, so that a goal `Leaves P p` never invites Lean to unfold the program `p`.) -/
inductive Leaves {α : Type} (P : α → Prop) : Prog α → Prop
  | pure {a : α} (h : P a) : Leaves P (.pure a)
  | crash {msg : String} : Leaves P (.crash msg)
  | newSolver {k : Nat → Prog α} (h : ∀ i, Leaves P (k i)) : Leaves P (.newSolver k)
  | reserve {s n : Nat} {k : Prog α} (h : Leaves P k) : Leaves P (.reserve s n k)
  | clause {s : Nat} {c : Clause} {k : Prog α} (h : Leaves P k) : Leaves P (.clause s c k)
  | nVars {s : Nat} {k : Nat → Prog α} (h : ∀ n, Leaves P (k n)) : Leaves P (.nVars s k)
  | solve {s : Nat} {as : List Lit} {k : Option Model → Prog α} (h : ∀ r, Leaves P (k r)) : Leaves P (.solve s as k)

theorem Leaves.wp {α : Type} {P : α → Prop} (p : Prog α) (w : World) :
    Leaves P p → wp True p w (fun a _ => P a) := by
  intro h
  induction h generalizing w with
  | pure h => exact h
  | crash => trivial
  | newSolver _ ih => exact ih _ _
  | reserve _ ih => exact ih _
  | clause _ ih => exact ih _
  | nVars _ ih => exact ih _ _
  | solve _ ih => exact ⟨fun _ _ => ih _ _, fun _ => ih _ _⟩

theorem Leaves.bind {α β : Type} {R : α → Prop} {Q : β → Prop} {p : Prog α} {f : α → Prog β}
    (hp : Leaves R p) (hf : ∀ a, R a → Leaves Q (f a)) : Leaves Q (p >>= f) := by
  induction hp with
  | pure h => exact hf _ h
  | crash => exact .crash
  | newSolver _ ih => exact .newSolver ih
  | reserve _ ih => exact .reserve ih
  | clause _ ih => exact .clause ih
  | nVars _ ih => exact .nVars ih
  | solve _ ih => exact .solve ih

theorem Leaves.bind_all {α β : Type} {Q : β → Prop} {p : Prog α} {f : α → Prog β}
    (hf : ∀ a, Leaves Q (f a)) : Leaves Q (p >>= f) := by
  induction p with
  | pure a => exact hf a
  | crash m => exact .crash
  | newSolver k ih => exact .newSolver ih
  | reserve s n k ih => exact .reserve ih
  | clause s c k ih => exact .clause ih
  | nVars s k ih => exact .nVars ih
  | solve s as k ih => exact .solve ih

/-- `p`, `q` are variables here; on a program term `split` would rewrite all of it -/
theorem Leaves.ite {α : Type} {P : α → Prop} {c : Prop} [Decidable c] {p q : Prog α} (hp : c → Leaves P p)
    (hq : ¬ c → Leaves P q) : Leaves P (if c then p else q) := by
  split
  · exact hp ‹_›
  · exact hq ‹_›

theorem back_nodup {c : Comp} (hnd : c.ids.Nodup) {e : List Nat} (he : e.Nodup) : (c.back e).Nodup := by
  unfold Comp.back
  refine List.Pairwise.filterMap _ ?_ he
  intro i j hij a ha b hb hab
  subst hab
  have h1 := posOf_nodup c.ids a i hnd ha
  have h2 := posOf_nodup c.ids a j hnd hb
  rw [h1] at h2
  exact hij (Option.some.inj h2)

/-- what the per-component program of a loop over components contributes: a duplicate-free list inside `c` -/
def Piece (c : Comp) (r : List Nat) : Prop := r.Nodup ∧ ∀ a ∈ r, a ∈ c.ids

theorem piece_back {g : G} {c : Comp} (hc : GoodComp g c) {e : List Nat} (he : e.Nodup) : Piece c (c.back e) :=
  ⟨back_nodup hc.nodup he, Comp.back_mem c e⟩

theorem nodup_append_piece {acc r : List Nat} (hacc : acc.Nodup) (hr : r.Nodup) (hd : ∀ a ∈ acc, a ∉ r) :
    (acc ++ r).Nodup :=
  List.nodup_append.2 ⟨hacc, hr, fun a ha _ hb hab => hd a ha (hab ▸ hb)⟩

theorem grounded_nodup_of_good {g : G} {c : Comp} (hc : GoodComp g c) : (groundedV c.af.view).Nodup :=
  (groundedV_spec _ _ (AF.view_ok c.af (Comp.af_wf hc))).2.1

/-- the grounded extension is part of it because the first `computeNext` sets `cur` to it -/
def MEC.ND (m : MEC) : Prop := m.cur.Nodup ∧ (groundedV m.af.view).Nodup

theorem leaves_MEC_new (af : AF) (enc : EncKind) (s : Nat) (kind : MKind) (hgr : (groundedV af.view).Nodup) :
    Leaves MEC.ND (MEC.new af enc s kind) :=
  Leaves.bind_all fun _ => .pure ⟨List.nodup_nil, hgr⟩

theorem leaves_MEC_solve (m : MEC) (as : List Lit) :
    Leaves (fun r => ∀ p, r = some p → p.2.Nodup) (m.solve as) :=
  Leaves.bind_all fun r => .pure fun p h => by
    cases r with
    | none => cases h
    | some m0 => cases h; exact EncKind.decode_nodup _ _ _

theorem leaves_solve_upd (m : MEC) (h : m.ND) (as : List Lit) (f : Model → List Nat → MEC) (m0 : MEC)
    (hf : ∀ mdl ext, (f mdl ext).cur = ext ∧ (f mdl ext).af = m.af) (h0 : m0.ND) :
    Leaves MEC.ND (m.solve as >>= fun r => match r with
      | some (mdl, ext) => pure (f mdl ext)
      | none => pure m0) := by
  refine Leaves.bind (leaves_MEC_solve m as) fun r hr => ?_
  cases r with
  | none => exact .pure h0
  | some p =>
    obtain ⟨mdl, ext⟩ := p
    exact .pure ⟨by rw [(hf mdl ext).1]; exact hr _ rfl, by rw [(hf mdl ext).2]; exact h.2⟩

theorem leaves_newSearch (m : MEC) (h : m.ND) : Leaves MEC.ND m.newSearch :=
  leaves_solve_upd m h _ _ _ (fun _ _ => ⟨rfl, rfl⟩) h

theorem leaves_computeNext (m : MEC) (h : m.ND) : Leaves MEC.ND m.computeNext := by
  unfold MEC.computeNext
  split
  · exact .pure ⟨h.2, h.2⟩
  · exact Leaves.bind_all fun _ => leaves_solve_upd m h _ _ _ (fun _ _ => ⟨rfl, rfl⟩) h
  · exact Leaves.bind_all fun _ => leaves_newSearch m h
  · exact leaves_newSearch m h
  · exact .crash

theorem leaves_drop_ret {α : Type} {Q : α → Prop} (m : MEC) {x : α} (h : Q x) :
    Leaves Q (m.drop >>= fun _ => (pure x : Prog α)) :=
  Leaves.bind_all fun _ => .pure h

theorem leaves_computeMaximal (fuel : Nat) : ∀ m : MEC, m.ND → Leaves List.Nodup (MEC.computeMaximal fuel m) := by
  induction fuel with
  | zero => exact fun _ _ => .crash
  | succ fuel ih =>
    intro m h
    unfold MEC.computeMaximal
    exact Leaves.ite (fun _ => leaves_drop_ret m h.1) (fun _ => Leaves.bind (leaves_computeNext m h) ih)

/-- an optional list without duplicates: what the searches, the `se` entry points and the certificate
slot of an answer carry -/
def OptL (r : Option (List Nat)) : Prop := ∀ e, r = some e → e.Nodup

theorem optL_some {e : List Nat} (h : e.Nodup) : OptL (some e) := fun _ he => by cases he; exact h

theorem optL_none : OptL none := fun _ h => by cases h

theorem leaves_prSkeptLoop (sc : Bool) (pos : List Nat) (fuel : Nat) : ∀ m : MEC, m.ND →
    Leaves (fun r => OptL r.2) (prSkeptLoop sc pos fuel m) := by
  induction fuel with
  | zero => exact fun _ _ => .crash
  | succ fuel ih =>
    intro m h
    unfold prSkeptLoop
    refine Leaves.bind (leaves_computeNext m h) fun m1 h1 => ?_
    split
    · exact Leaves.ite (fun _ => leaves_drop_ret m1 (optL_some h1.1)) (fun _ => ih m1 h1)
    · exact Leaves.ite (fun _ => Leaves.bind (Leaves.bind_all fun _ => .pure h1) ih)
        (fun _ => Leaves.ite (fun _ => leaves_drop_ret m1 (optL_some h1.1)) (fun _ => ih m1 h1))
    · exact leaves_drop_ret m1 optL_none
    · exact ih m1 h1

theorem leaves_rgAccLoop (cred : Bool) (pos : List Nat) (fuel : Nat) : ∀ m : MEC, m.ND →
    Leaves (fun r => OptL r.2) (rgAccLoop cred pos fuel m) := by
  induction fuel with
  | zero => exact fun _ _ => .crash
  | succ fuel ih =>
    intro m h
    unfold rgAccLoop
    refine Leaves.bind (leaves_computeNext m h) fun m1 h1 => ?_
    have hrec := ih m1 h1
    -- after a SAT call: a decoded model is returned, or the loop goes on
    have hdec : ∀ r : Option Model, Leaves (fun r => OptL r.2) (match r with
        | some mdl => m1.drop >>= fun _ => pure (cred, some (m1.enc.decode m1.af.n mdl))
        | none => rgAccLoop cred pos fuel m1) := fun r => by
      cases r with
      | none => exact hrec
      | some mdl => exact leaves_drop_ret m1 (optL_some (EncKind.decode_nodup _ _ _))
    split
    · refine Leaves.ite (fun _ => leaves_drop_ret m1 (optL_some h1.1)) fun _ => ?_
      generalize splitInRange m1 = sp
      obtain ⟨inR, notR⟩ := sp
      exact Leaves.ite
        (fun _ => Leaves.bind_all fun _ => Leaves.bind_all fun _ => Leaves.bind_all fun r => Leaves.bind_all fun _ => hdec r)
        (fun _ => Leaves.bind_all hdec)
    · exact leaves_drop_ret m1 optL_none
    · exact hrec

/-- invariant of the loops over the list of components: the accumulated answer has no duplicates and
lies in what is marked, the components still to come (`Comps`) lie outside -/
structure AccInv (g : G) (marked : Nat → Prop) (cs : List Comp) (acc : List Nat) : Prop where
  comps : Comps g marked cs
  nodup : acc.Nodup
  sub : ∀ a ∈ acc, marked a

theorem AccInv.init {v : FwView} {g : G} (hv : v.Ok g) :
    ∃ cs, allComps v = cs.map some ∧ AccInv g (fun _ => False) cs [] :=
  have ⟨cs, hcs, H⟩ := Comps.of_view hv
  ⟨cs, hcs, H, List.nodup_nil, nofun⟩

theorem AccInv.head {g : G} {marked : Nat → Prop} {c : Comp} {cs : List Comp} {acc : List Nat}
    (h : AccInv g marked (c :: cs) acc) : GoodComp g c := h.comps.good c List.mem_cons_self

theorem AccInv.step {g : G} {marked : Nat → Prop} {c : Comp} {cs : List Comp} {acc r : List Nat}
    (h : AccInv g marked (c :: cs) acc) (hr : Piece c r) : AccInv g (fun a => marked a ∨ a ∈ c.ids) cs (acc ++ r) :=
  ⟨h.comps.tail,
    nodup_append_piece h.nodup hr.1 fun a ha har => h.comps.fresh c List.mem_cons_self a (hr.2 a har) (h.sub a ha),
    fun a ha => (List.mem_append.1 ha).imp (h.sub a) (hr.2 a)⟩

/-- `needComp' (some c)` is `pure c`, and `pure c >>= k` is `k c`, both by evaluation -/
theorem leaves_needComp' {β : Type} {Q : β → Prop} (c : Comp) (k : Comp → Prog β) (h : Leaves Q (k c)) :
    Leaves Q (needComp' (some c) >>= k) := h

theorem leaves_forEachComp (g : G) (f : Comp → Prog (List Nat))
    (hf : ∀ c, GoodComp g c → Leaves (Piece c) (f c)) (cs : List Comp) :
    ∀ (marked : Nat → Prop) (acc : List Nat), AccInv g marked cs acc →
      Leaves List.Nodup (forEachComp f (cs.map some) acc) := by
  induction cs with
  | nil => exact fun _ _ h => .pure h.nodup
  | cons c cs ih =>
    intro marked acc h
    rw [List.map_cons]
    unfold forEachComp
    exact leaves_needComp' c _ (Leaves.bind (hf c h.head) fun r hr => ih _ (acc ++ r) (h.step hr))

theorem leaves_otherCompsWith (v : FwView) (g : G) (hv : v.Ok g) (f : Comp → Prog (List Nat))
    (hf : ∀ c, GoodComp g c → Leaves (Piece c) (f c)) (fuel : Nat) :
    ∀ (cc : CC) (marked : Nat → Prop) (acc : List Nat), CCInv v g cc marked → acc.Nodup →
      (∀ a ∈ acc, marked a) → Leaves List.Nodup (otherCompsWith v f fuel cc acc) := by
  induction fuel with
  | zero => exact fun _ _ _ _ _ _ => .crash
  | succ fuel ih =>
    intro cc marked acc hI hnd hm
    obtain ⟨_, hsome⟩ := CC.nextComp_spec v g hv cc marked hI
    unfold otherCompsWith
    cases hnc : CC.nextComp v cc with
    | none => exact .pure hnd
    | some p =>
      obtain ⟨oc, cc'⟩ := p
      obtain ⟨c, rfl, hgood, _, hnm, hI'⟩ := hsome oc cc' hnc
      refine leaves_needComp' c _ (Leaves.bind (hf c hgood) fun r hr => ?_)
      refine ih cc' _ (acc ++ r) hI'
        (nodup_append_piece hnd hr.1 (fun a ha har => hnm a (hr.2 a har) (hm a ha))) ?_
      intro a ha
      exact (List.mem_append.1 ha).imp (hm a) (hr.2 a)

theorem leaves_needMerged (v : FwView) (g : G) (hv : v.Ok g) (args : List Nat)
    (hargs : ∀ a ∈ args, g.live a = true) {β : Type} {Q : β → Prop} (k : Comp × CC → Prog β)
    (hk : ∀ c cc, GoodComp g c → CCInv v g cc (fun a => a ∈ c.ids) → Leaves Q (k (c, cc))) :
    Leaves Q (needComp (CC.mergedOf v (CC.new v) args) >>= k) := by
  cases hm : CC.mergedOf v (CC.new v) args with
  | none => exact .crash
  | some p =>
    obtain ⟨oc, cc⟩ := p
    obtain ⟨c, rfl, hgood, _, hI⟩ := CC.mergedOf_spec v g hv args hargs oc cc hm
    exact hk c cc hgood hI

theorem leaves_certificate (v : FwView) (g : G) (hv : v.Ok g) (f : Comp → Prog (List Nat))
    (hf : ∀ c, GoodComp g c → Leaves (Piece c) (f c)) {c : Comp} (hgood : GoodComp g c) {cc : CC}
    (hI : CCInv v g cc (fun a => a ∈ c.ids)) {e : List Nat} (he : e.Nodup) (fuel : Nat) (st : Bool) :
    Leaves (fun a => OptL a.cert) (otherCompsWith v f fuel cc (c.back e) >>= fun all => (pure ⟨st, some all⟩ : Prog AccAns)) :=
  Leaves.bind (leaves_otherCompsWith v g hv f hf fuel cc _ _ hI (back_nodup hgood.nodup he) (Comp.back_mem c e))
    fun _ hall => .pure (optL_some hall)

theorem leaves_maximalOfComp (cfg : Cfg) {g : G} {c : Comp} (hc : GoodComp g c) (wr : Bool) (kind : MKind) :
    Leaves (Piece c) (do
      let s ← mkSolver
      encodeInto cfg.enc c.af s wr
      let m ← MEC.new c.af cfg.enc s kind
      let e ← MEC.computeMaximal cfg.fuel m
      pure (c.back e)) :=
  Leaves.bind_all fun _ => Leaves.bind_all fun _ =>
    Leaves.bind (leaves_MEC_new _ _ _ _ (grounded_nodup_of_good hc)) fun m hm =>
      Leaves.bind (leaves_computeMaximal _ m hm) fun _ he => .pure (piece_back hc he)

theorem leaves_inCc (cfg : Cfg) {g : G} {c : Comp} (hc : GoodComp g c) (args : List Nat) (wr : Bool) (kind : MKind)
    (loop : List Nat → MEC → Prog (Bool × Option (List Nat))) (hloop : ∀ pos m, m.ND → Leaves (fun r => OptL r.2) (loop pos m)) :
    Leaves (fun r => OptL r.2) (do
      let pos ← ccArgs c args
      let s ← mkSolver
      encodeInto cfg.enc c.af s wr
      let m ← MEC.new c.af cfg.enc s kind
      loop pos m) :=
  Leaves.bind_all fun pos => Leaves.bind_all fun _ => Leaves.bind_all fun _ =>
    Leaves.bind (leaves_MEC_new _ _ _ _ (grounded_nodup_of_good hc)) (hloop pos)

theorem leaves_idFinish (cfg : Cfg) (c : Comp) (s : Nat) (ia : InAll) (hgc : (groundedV c.af.view).Nodup) :
    Leaves List.Nodup (idFinish cfg c s (groundedV c.af.view) ia) := by
  unfold idFinish
  exact Leaves.ite (fun _ => .pure hgc) fun _ =>
    Leaves.ite (fun _ => .pure (List.Pairwise.filter _ List.nodup_range))
      (fun _ => Leaves.bind (leaves_MEC_new _ _ _ _ hgc) (leaves_computeMaximal _))

theorem leaves_idPiece (cfg : Cfg) {g : G} {c : Comp} (hc : GoodComp g c) :
    Leaves (Piece c) (idOneForCc cfg c >>= fun e => (pure (c.back e) : Prog _)) :=
  Leaves.bind (Leaves.bind_all fun s => Leaves.bind_all fun ia =>
    leaves_idFinish cfg c s ia (grounded_nodup_of_good hc)) fun _ he => .pure (piece_back hc he)

theorem leaves_idCredForCc (cfg : Cfg) {g : G} {c : Comp} (hc : GoodComp g c) (pos : List Nat) :
    Leaves (fun r => OptL r.2) (idCredForCc cfg c pos) := by
  unfold idCredForCc
  refine Leaves.bind_all fun s => Leaves.bind_all fun ia => Leaves.ite (fun _ => .pure optL_none) fun _ => ?_
  refine Leaves.bind (leaves_idFinish cfg c s ia (grounded_nodup_of_good hc))
    fun ext hext => Leaves.ite (fun _ => .pure (optL_some hext)) (fun _ => .pure optL_none)

theorem leaves_seByComp (v : FwView) (g : G) (hv : v.Ok g) (f : Comp → Prog (List Nat))
    (hf : ∀ c, GoodComp g c → Leaves (Piece c) (f c)) :
    Leaves OptL (forEachComp f (allComps v) [] >>= fun e => (pure (some e) : Prog _)) := by
  obtain ⟨cs, hcs, hI⟩ := AccInv.init hv
  rw [hcs]
  exact Leaves.bind (leaves_forEachComp g f hf cs _ [] hI) fun _ hr => .pure (optL_some hr)

theorem leaves_idSE (cfg : Cfg) (v : FwView) (g : G) (hv : v.Ok g) : Leaves OptL (idSE cfg v) :=
  leaves_seByComp v g hv _ fun _ hc => Leaves.bind_all fun _ => Leaves.bind_all fun _ => leaves_idPiece cfg hc

theorem piece_stb {g : G} {c : Comp} (hc : GoodComp g c) (mdl : Model) :
    Piece c (c.back (Stb.decode c.af.n mdl)) :=
  piece_back hc (EncKind.decode_nodup .stb _ _)

theorem leaves_stSE_go (g : G) (cs : List Comp) : ∀ (marked : Nat → Prop) (acc : List Nat), AccInv g marked cs acc →
    Leaves OptL (stSE.go (cs.map some) acc) := by
  induction cs with
  | nil => exact fun _ _ h => .pure (optL_some h.nodup)
  | cons c cs ih =>
    intro marked acc h
    rw [List.map_cons]
    unfold stSE.go
    refine leaves_needComp' c _ (Leaves.bind_all fun s => Leaves.bind_all fun _ => Leaves.bind_all fun r => ?_)
    cases r with
    | none => exact .pure fun _ he => by cases he
    | some mdl => exact ih _ _ (h.step (piece_stb h.head mdl))

theorem leaves_stSE (v : FwView) (g : G) (hv : v.Ok g) : Leaves OptL (stSE v) := by
  obtain ⟨cs, hcs, hI⟩ := AccInv.init hv
  unfold stSE
  rw [hcs]
  exact leaves_stSE_go g cs _ _ hI

theorem leaves_stAcc_go (g : G) (args : List Nat) (pol st : Bool) (cs : List Comp) :
    ∀ (marked : Nat → Prop) (acc : List Nat) (found : Bool), AccInv g marked cs acc →
      Leaves (fun a => OptL a.cert) (stAcc.go args pol st (cs.map some) acc found) := by
  induction cs with
  | nil =>
    intro marked acc found h
    rw [List.map_nil]
    unfold stAcc.go
    exact Leaves.ite (fun _ => .pure optL_none) (fun _ => .pure (optL_some h.nodup))
  | cons c cs ih =>
    intro marked acc found h
    rw [List.map_cons]
    unfold stAcc.go
    -- after a SAT call on this component: its piece is appended, or the answer has no certificate
    have hgo : ∀ (fd : Bool) (r : Option Model), Leaves (fun a => OptL a.cert) (match r with
        | some mdl => stAcc.go args pol st (cs.map some) (acc ++ c.back (Stb.decode c.af.n mdl)) fd
        | none => pure ⟨st, none⟩) := fun fd r => by
      cases r with
      | none => exact .pure optL_none
      | some mdl => exact ih _ _ fd (h.step (piece_stb h.head mdl))
    refine leaves_needComp' c _ (Leaves.bind_all fun s => Leaves.bind_all fun _ =>
      Leaves.ite (fun _ => Leaves.ite (fun _ => ?_) fun _ => Leaves.bind_all (hgo found))
        fun _ => Leaves.bind_all (hgo found))
    refine Leaves.bind_all fun nv => Leaves.bind_all fun _ => Leaves.bind_all fun r => Leaves.bind_all fun _ => ?_
    cases r with
    | some mdl => exact hgo true (some mdl)
    | none => exact Leaves.bind_all (hgo found)

theorem leaves_stAcc (v : FwView) (g : G) (hv : v.Ok g) (args : List Nat) (pol st : Bool) :
    Leaves (fun a => OptL a.cert) (stAcc v args pol st) := by
  obtain ⟨cs, hcs, hI⟩ := AccInv.init hv
  unfold stAcc
  rw [hcs]
  exact leaves_stAcc_go g args pol st cs _ _ _ hI

theorem leaves_grDC (v : FwView) (g : G) (hv : v.Ok g) (args : List Nat) (cert : Bool) :
    Leaves (fun a => OptL a.cert) (grDC v args cert) := by
  unfold grDC
  exact Leaves.ite (fun _ => .pure (optL_some (groundedV_spec v g hv).2.1)) (fun _ => .pure optL_none)

theorem leaves_grDS (v : FwView) (g : G) (hv : v.Ok g) (args : List Nat) (cert : Bool) :
    Leaves (fun a => OptL a.cert) (grDS v args cert) := by
  unfold grDS
  exact Leaves.ite (fun _ => .pure optL_none) (fun _ => .pure (optL_some (groundedV_spec v g hv).2.1))

theorem leaves_coDCcert (cfg : Cfg) (v : FwView) (g : G) (hv : v.Ok g) (args : List Nat)
    (hargs : ∀ a ∈ args, g.live a = true) : Leaves (fun a => OptL a.cert) (coDCcert cfg v args) := by
  unfold coDCcert
  refine leaves_needMerged v g hv args hargs _ fun c cc hgood hI => ?_
  refine Leaves.bind_all fun s => Leaves.bind_all fun _ => Leaves.bind_all fun nv => Leaves.bind_all fun pos =>
    Leaves.bind_all fun _ => Leaves.bind_all fun r => ?_
  cases r with
  | none => exact .pure optL_none
  | some mdl =>
    exact leaves_certificate v g hv _ (fun oc hoc => .pure (piece_back hoc (grounded_nodup_of_good hoc))) hgood hI
      (EncKind.decode_nodup _ _ _) _ _

theorem leaves_prDScert (cfg : Cfg) (v : FwView) (g : G) (hv : v.Ok g) (args : List Nat)
    (hargs : ∀ a ∈ args, g.live a = true) : Leaves (fun a => OptL a.cert) (prDScert cfg v args) := by
  unfold prDScert
  refine leaves_needMerged v g hv args hargs _ fun c cc hgood hI => ?_
  refine Leaves.bind (leaves_inCc cfg hgood args false .preferred _ (fun pos => leaves_prSkeptLoop false pos _)) ?_
  rintro ⟨st, oe⟩ hr
  cases st with
  | true => exact .pure optL_none
  | false =>
    cases oe with
    | none => exact .crash
    | some e =>
      exact leaves_certificate v g hv _ (fun oc hoc => leaves_maximalOfComp cfg hoc false .preferred) hgood hI
        (hr e rfl) _ _

theorem leaves_rgAccCert (cfg : Cfg) (v : FwView) (g : G) (hv : v.Ok g) (args : List Nat)
    (hargs : ∀ a ∈ args, g.live a = true) (cred : Bool) : Leaves (fun a => OptL a.cert) (rgAccCert cfg v args cred) := by
  unfold rgAccCert
  refine leaves_needMerged v g hv args hargs _ fun c cc hgood hI => ?_
  refine Leaves.bind (leaves_inCc cfg hgood args true .range _ (fun pos => leaves_rgAccLoop cred pos _)) ?_
  rintro ⟨st, oe⟩ hr
  cases oe with
  | none => exact .pure optL_none
  | some e =>
    exact leaves_certificate v g hv _ (fun oc hoc => leaves_maximalOfComp cfg hoc true .range) hgood hI
      (hr e rfl) _ _

theorem leaves_idDCcert (cfg : Cfg) (v : FwView) (g : G) (hv : v.Ok g) (args : List Nat)
    (hargs : ∀ a ∈ args, g.live a = true) : Leaves (fun a => OptL a.cert) (idDCcert cfg v args) := by
  unfold idDCcert
  refine leaves_needMerged v g hv args hargs _ fun c cc hgood hI => ?_
  refine Leaves.bind_all fun pos => Leaves.bind (leaves_idCredForCc cfg hgood pos) ?_
  rintro ⟨st, oe⟩ hr
  cases st with
  | false => exact .pure optL_none
  | true =>
    cases oe with
    | none => exact .pure optL_none
    | some e => exact leaves_certificate v g hv _ (fun oc hoc => leaves_idPiece cfg hoc) hgood hI (hr e rfl) _ _

theorem leaves_idDScert (cfg : Cfg) (v : FwView) (g : G) (hv : v.Ok g) (args : List Nat) :
    Leaves (fun a => OptL a.cert) (idDScert cfg v args) := by
  unfold idDScert
  refine Leaves.bind (leaves_idSE cfg v g hv) fun r hr => ?_
  cases r with
  | none => exact .crash
  | some ext => exact Leaves.ite (fun _ => .pure optL_none) (fun _ => .pure (optL_some (hr ext rfl)))

def AnsNodup : Ans → Prop
  | .ext (some e) => e.Nodup
  | .ext none => True
  | .acc a _ => ∀ e, a.cert = some e → e.Nodup

theorem leaves_ext {p : Prog (Option (List Nat))} (h : Leaves OptL p) :
    Leaves AnsNodup (p >>= fun r => (Pure.pure (Ans.ext r) : Prog Ans)) := by
  refine Leaves.bind h fun r hr => .pure ?_
  cases r with
  | none => trivial
  | some e => exact hr e rfl

theorem leaves_certOnly (cv : Bool) {p : Prog AccAns} (h : Leaves (fun a => OptL a.cert) p) :
    Leaves AnsNodup (certOnly cv p) := by
  refine Leaves.bind h fun a ha => .pure ?_
  cases cv with
  | true => exact ha
  | false => exact fun e he => by cases he

/-- the status-only procedure of a solver type is irrelevant here: its answer carries no list -/
theorem leaves_certOnly_ite (cv : Bool) {p q : Prog AccAns} (h : Leaves (fun a => OptL a.cert) p) :
    Leaves AnsNodup (certOnly cv (if cv then p else q)) := by
  cases cv with
  | true => exact leaves_certOnly true h
  | false => exact Leaves.bind_all fun _ => .pure fun e he => by cases he

/-- the syntactic form of `static_answers_nodup`: whatever the SAT solver replies -/
theorem static_leaves_nodup (sk : SolverKind) (cfg : Cfg) (v : FwView) (g : G) (hv : v.Ok g)
    (e : Entry) (hargs : ∀ a, a ∈ e.argsList → g.live a = true) (p : Prog Ans)
    (hp : entryProg sk cfg v e = some p) : Leaves AnsNodup p := by
  have hmax := fun wr kind c (hc : GoodComp g c) => leaves_maximalOfComp cfg hc wr kind
  cases e with
  | se =>
    -- `hp` names the program of an entry point that is offered, or is absurd
    cases sk <;> first | obtain rfl := Option.some.inj hp | cases hp
    · exact leaves_ext (.pure (optL_some (groundedV_spec v g hv).2.1))
    · exact leaves_ext (leaves_seByComp v g hv _ (hmax false .preferred))
    · exact leaves_ext (leaves_stSE v g hv)
    · exact leaves_ext (leaves_seByComp v g hv _ (hmax true .range))
    · exact leaves_ext (leaves_seByComp v g hv _ (hmax true .range))
    · exact leaves_ext (leaves_idSE cfg v g hv)
  | dc cert args =>
    cases sk <;> first | obtain rfl := Option.some.inj hp | cases hp
    · exact leaves_certOnly _ (leaves_grDC v g hv args cert)
    · exact leaves_certOnly_ite _ (leaves_coDCcert cfg v g hv args hargs)
    · exact leaves_certOnly _ (leaves_stAcc v g hv args _ _)
    · exact leaves_certOnly_ite _ (leaves_rgAccCert cfg v g hv args hargs true)
    · exact leaves_certOnly_ite _ (leaves_rgAccCert cfg v g hv args hargs true)
    · exact leaves_certOnly_ite _ (leaves_idDCcert cfg v g hv args hargs)
  | ds cert args =>
    cases sk <;> first | obtain rfl := Option.some.inj hp | cases hp
    · exact leaves_certOnly _ (leaves_grDS v g hv args cert)
    · exact leaves_certOnly_ite _ (leaves_prDScert cfg v g hv args hargs)
    · exact leaves_certOnly _ (leaves_stAcc v g hv args _ _)
    · exact leaves_certOnly_ite _ (leaves_rgAccCert cfg v g hv args hargs false)
    · exact leaves_certOnly_ite _ (leaves_rgAccCert cfg v g hv args hargs false)
    · exact leaves_certOnly_ite _ (leaves_idDScert cfg v g hv args)

theorem static_answers_nodup (sk : SolverKind) (cfg : Cfg) (_hcfg : CfgOK sk cfg) (v : FwView) (g : G) (hv : v.Ok g)
    (e : Entry) (hargs : ∀ a, a ∈ e.argsList → g.live a = true) (p : Prog Ans)
    (hp : entryProg sk cfg v e = some p) (w : World) (_hb : w.Bounded) :
    wp True p w (fun ans _ => AnsNodup ans) :=
  Leaves.wp p w (static_leaves_nodup sk cfg v g hv e hargs p hp)

/-- **every list returned by every static solver is duplicate-free** -/
theorem static_answers_nodup_run (sk : SolverKind) (cfg : Cfg) (v : FwView) (g : G)
    (hv : v.Ok g) (e : Entry) (hargs : ∀ a, a ∈ e.argsList → g.live a = true) (p : Prog Ans)
    (hp : entryProg sk cfg v e = some p) (w : World) (rs : List Reply)
    (hs : RunSound p rs w) (ans : Ans) (w' : World) (hrun : interp p rs w = (.done ans, w')) :
    AnsNodup ans :=
  wp_sound p rs w w' ans _ (Leaves.wp p w (static_leaves_nodup sk cfg v g hv e hargs p hp)) hs hrun

def queryOf (sk : SolverKind) : Entry → Query
  | .se => ⟨sk.sem, .SE, false, []⟩
  | .dc cert args => ⟨sk.sem, .DC, cert, args⟩
  | .ds cert args => ⟨sk.sem, .DS, cert, args⟩

/-- the answer the judge is given: the certificate slot exists exactly for the certificate variants -/
def answerOf : Ans → Answer
  | .ext r => .se r
  | .acc a cv => .acc a.status (if cv then some a.cert else none)

/-- the certificate part of `Conforms`, from `cert_slot`; `want` is the flag that says whether a
witness is due (the status for DC, its negation for DS) -/
theorem certConforms_of_slot {σ : Sem} {af : AF} {cv y want : Bool} {a : AccAns} {P : List Nat → Prop}
    (hwant : want = true ↔ a.status = y) (hslot : a.cert ≠ none ↔ cv = true ∧ a.status = y)
    (hwit : ∀ e, a.cert = some e → e.Nodup ∧ σ.Ext af (ofList e) ∧ P e) :
    CertConforms σ af cv want P (if cv then some a.cert else none) := by
  cases cv with
  | false => rfl
  | true =>
    show CertConforms σ af true want P (some a.cert)
    cases hce : a.cert with
    | none => exact ⟨rfl, Bool.eq_false_iff.2 fun h => hslot.2 ⟨rfl, hwant.1 h⟩ hce⟩
    | some l => exact ⟨rfl, hwant.2 (hslot.1 (hce ▸ Option.some_ne_none l)).2, hwit l hce⟩

/-- **an answer that meets `EntryOK` and carries duplicate-free lists conforms** (C01–C04, C07) -/
theorem entryOK_conforms (sk : SolverKind) (af : AF) (e : Entry) (ans : Ans)
    (h : EntryOK sk.sem af.g e ans) (hn : AnsNodup ans) : Conforms af (queryOf sk e) (answerOf ans) := by
  have hx : ∀ S, sk.sem.GExt af.g S ↔ sk.sem.Ext af S := gext_compact sk.sem af
  cases e with
  | se =>
    cases ans with
    | acc a cv => exact h.elim
    | ext r =>
      cases r with
      | none => exact ⟨rfl, fun ⟨S, hS⟩ => h.2 rfl ⟨S, (hx S).2 hS⟩⟩
      | some l => exact ⟨rfl, hn, (hx _).1 (h.1 l rfl)⟩
  | dc cert args =>
    cases ans with
    | ext r => exact h.elim
    | acc a cv =>
      obtain ⟨rfl, hd, hc⟩ := h
      obtain ⟨hslot, hwit⟩ := cert_slot (y := true) (fun hs => (hd.1 hs).2) (fun hs => (hd.2 hs).2) hc
      exact ⟨hd.status_iff.trans (exists_congr fun S => and_congr_left' (hx S)),
        certConforms_of_slot Iff.rfl hslot fun l hl =>
          ⟨hn l hl, (hx _).1 (hwit l hl).1, (hitsL_ofList args l).1 (hwit l hl).2⟩⟩
  | ds cert args =>
    cases ans with
    | ext r => exact h.elim
    | acc a cv =>
      obtain ⟨rfl, hd, hc⟩ := h
      obtain ⟨hslot, hwit⟩ := cert_slot (y := false) (fun hs => (hd.2 hs).2) (fun hs => (hd.1 hs).2) hc
      exact ⟨hd.status_iff.trans (forall_congr' fun S => imp_congr_left (hx S)),
        certConforms_of_slot (by cases a.status <;> simp) hslot fun l hl =>
          ⟨hn l hl, (hx _).1 (hwit l hl).1, fun hh => (hwit l hl).2 ((hitsL_ofList args l).2 hh)⟩⟩

/-- **the judge accepts every answer of every static solver**, for every run on sound replies, on
every compact well-formed framework -/
theorem static_answers_accepted_by_judge (sk : SolverKind) (cfg : Cfg) (hcfg : CfgOK sk cfg) (af : AF)
    (hwf : af.WF) (e : Entry) (hargs : ∀ a, a ∈ e.argsList → af.g.live a = true) (p : Prog Ans)
    (hp : entryProg sk cfg af.view e = some p) (w : World) (hb : w.Bounded) (rs : List Reply)
    (hs : RunSound p rs w) (ans : Ans) (w' : World) (hrun : interp p rs w = (.done ans, w')) :
    checkAnswer af (queryOf sk e) (answerOf ans) = .ok () := by
  have hv := AF.view_ok af hwf
  exact (checkAnswer_iff af hwf _ _).2 (entryOK_conforms sk af e ans
    (static_answers_conform sk cfg hcfg af.view af.g hv e hargs p hp w hb rs hs ans w' hrun)
    (static_answers_nodup_run sk cfg af.view af.g hv e hargs p hp w rs hs ans w' hrun))

end Crusta
