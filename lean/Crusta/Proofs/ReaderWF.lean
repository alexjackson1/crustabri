import Crusta.Model.Readers

/-!
# `foldLines`, and what the ICCMA'23 reader accepts

The lemmas on `foldLines` hold for any line function; the Aspartix reader and the reply parser of
the SAT interface use them too.  `iccmaLine_ok` reads off an accepted content line all that the
reader has tested; that an accepted framework is well formed (`WFA`: every attack between declared
arguments) follows from it.
-/

namespace Crusta.IO

theorem foldLines_append {σ : Type} (f : σ → Option Str → Except String σ) (s : σ) (a b : List (Option Str)) :
    foldLines f s (a ++ b) =
      (match foldLines f s a with | .ok s' => foldLines f s' b | .error e => .error e) := by
  induction a generalizing s with
  | nil => simp [foldLines]
  | cons x xs ih =>
    simp only [List.cons_append, foldLines]
    cases f s x with
    | ok s' => exact ih s'
    | error e => rfl

theorem foldLines_cons_ok {σ : Type} {f : σ → Option Str → Except String σ} {s s' : σ} {l : Option Str}
    {ls : List (Option Str)} (h : foldLines f s (l :: ls) = .ok s') :
    ∃ s1, f s l = .ok s1 ∧ foldLines f s1 ls = .ok s' := by
  simp only [foldLines] at h
  cases hl : f s l with
  | error e => rw [hl] at h; cases h
  | ok s1 => rw [hl] at h; exact ⟨s1, rfl, h⟩

theorem foldLines_cons_of_ok {σ : Type} {f : σ → Option Str → Except String σ} {s s1 : σ} {l : Option Str}
    (ls : List (Option Str)) (h : f s l = .ok s1) : foldLines f s (l :: ls) = foldLines f s1 ls := by
  simp only [foldLines, h]

theorem foldLines_append_of_ok {σ : Type} {f : σ → Option Str → Except String σ} {s s1 : σ}
    {a : List (Option Str)} (b : List (Option Str)) (h : foldLines f s a = .ok s1) :
    foldLines f s (a ++ b) = foldLines f s1 b := by
  rw [foldLines_append, h]

theorem foldLines_split_ok {σ : Type} {f : σ → Option Str → Except String σ} {a b : List (Option Str)}
    {l : Option Str} {s s' : σ} (h : foldLines f s (a ++ l :: b) = .ok s') :
    ∃ s1 s2, foldLines f s a = .ok s1 ∧ f s1 l = .ok s2 ∧ foldLines f s2 b = .ok s' := by
  rw [foldLines_append] at h
  cases h1 : foldLines f s a with
  | error e => rw [h1] at h; cases h
  | ok s1 =>
    rw [h1] at h
    obtain ⟨s2, h2, h3⟩ := foldLines_cons_ok h
    exact ⟨s1, s2, rfl, h2, h3⟩

theorem foldLines_inv {σ : Type} {f : σ → Option Str → Except String σ} {P : σ → Prop}
    (hf : ∀ s s' l, P s → f s l = .ok s' → P s') (ls : List (Option Str)) (s s' : σ) (h : P s)
    (hr : foldLines f s ls = .ok s') : P s' := by
  induction ls generalizing s with
  | nil => cases hr; exact h
  | cons l ls ih =>
    rw [foldLines] at hr
    split at hr
    · rename_i s1 hs1
      exact ih s1 (hf s s1 l h hs1) hr
    · cases hr

theorem error_of_not_ok {ε α : Type} {x : Except ε α} (h : ∀ a, x ≠ .ok a) : ∃ e, x = .error e := by
  cases x with
  | error e => exact ⟨e, rfl⟩
  | ok a => exact absurd rfl (h a)

def IccmaFw.WFA (af : IccmaFw) : Prop := ∀ p ∈ af.atts, p.1 < af.n ∧ p.2 < af.n

def IccmaSt.WFA (st : IccmaSt) : Prop := ∀ af, st.af = some af → af.WFA

theorem IccmaFw.WFA.snoc {af : IccmaFw} (h : af.WFA) {a b : Nat} (ha : a < af.n) (hb : b < af.n) :
    IccmaFw.WFA ⟨af.n, af.atts ++ [(a, b)]⟩ := by
  intro p hp
  rcases List.mem_append.1 hp with hp | hp
  · exact h p hp
  · rw [List.mem_singleton.1 hp]; exact ⟨ha, hb⟩

/-- what an accepted content line (not a `#` comment, not blank) has passed, and what it does: the
preamble creates the framework, an attack line with two in-range ids extends it.  The rejection
theorems of `Props/C13` are the contrapositives. -/
theorem iccmaLine_ok {st st' : IccmaSt} {l : Str} (h : iccmaLine st (some l) = .ok st')
    (hc : l.head? ≠ some 35) (hne : l ≠ []) :
    st.foundEmpty = false ∧
    (st.af = none → ∃ n, readPreamble (splitWs l) = .ok n ∧ st' = { st with af := some ⟨n, []⟩ }) ∧
    ∀ af, st.af = some af → ∃ w0 w1 a b, splitWs l = [w0, w1] ∧ parseIsize w0 = some a ∧
      parseIsize w1 = some b ∧ a ≥ 1 ∧ a.toNat ≤ af.n ∧ b ≥ 1 ∧ b.toNat ≤ af.n ∧
      st' = { st with af := some ⟨af.n, af.atts ++ [(a.toNat - 1, b.toNat - 1)]⟩ } := by
  unfold iccmaLine at h
  dsimp only at h
  rw [if_neg (mt eq_of_beq hc), if_neg (mt List.isEmpty_iff.1 hne)] at h
  cases hf : st.foundEmpty with
  | true => rw [hf, if_pos rfl] at h; cases h
  | false =>
    rw [hf, if_neg Bool.false_ne_true] at h
    refine ⟨rfl, fun haf => ?_, fun af haf => ?_⟩ <;> rw [haf] at h <;> dsimp only at h
    · cases hp : readPreamble (splitWs l) with
      | ok n => rw [hp] at h; cases h; exact ⟨n, rfl, rfl⟩
      | error e => rw [hp] at h; cases h
    · generalize hw : splitWs l = ws at h
      -- any number of words but two, and any word that is not a number, ends in an `error` leaf
      obtain _ | ⟨w0, _ | ⟨w1, _ | _⟩⟩ := ws <;> try cases h
      dsimp only at h
      generalize h0 : parseIsize w0 = r0 at h
      generalize h1 : parseIsize w1 = r1 at h
      obtain _ | a := r0 <;> obtain _ | b := r1 <;> dsimp only at h <;> try cases h
      by_cases ha : (a ≥ 1 && a.toNat ≤ af.n) = true
      · by_cases hb : (b ≥ 1 && b.toNat ≤ af.n) = true
        · rw [if_pos ha, if_pos hb] at h; cases h
          simp only [Bool.and_eq_true, decide_eq_true_eq] at ha hb
          exact ⟨w0, w1, a, b, rfl, h0, h1, ha.1, ha.2, hb.1, hb.2, rfl⟩
        · rw [if_pos ha, if_neg hb] at h; cases h
      · rw [if_neg ha] at h; cases h

theorem iccmaLine_wfa (st st' : IccmaSt) (line : Option Str) (h : st.WFA) (hr : iccmaLine st line = .ok st') :
    st'.WFA := by
  cases line with
  | none => cases hr
  | some l =>
    by_cases hc : l.head? = some 35
    · have : iccmaLine st (some l) = .ok st := if_pos (beq_iff_eq.2 hc)
      cases this.symm.trans hr; exact h
    by_cases hne : l = []
    · subst hne; cases hr; exact h
    obtain ⟨_, h1, h2⟩ := iccmaLine_ok hr hc hne
    cases haf : st.af with
    | none =>
      obtain ⟨n, _, rfl⟩ := h1 haf
      exact fun af e => Option.some.inj e ▸ fun p hp => nomatch hp
    | some af =>
      obtain ⟨_, _, a, b, _, _, _, ha1, ha2, hb1, hb2, rfl⟩ := h2 af haf
      exact fun af' e => Option.some.inj e ▸ (h af haf).snoc (by omega) (by omega)

theorem readIccma_wfa (bs : List UInt8) (af : IccmaFw) (h : readIccma bs = .ok af) : af.WFA := by
  unfold readIccma at h
  split at h
  · cases h
  · rename_i st hst
    split at h
    · rename_i af' haf
      cases h
      exact foldLines_inv iccmaLine_wfa _ _ st (by intro af h; cases h) hst af haf
    · cases h

end Crusta.IO

