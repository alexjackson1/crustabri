import Crusta.Proofs.DynAttQuery

/-!
# Every reachable state of an attack-assumption solver, every query, every sound reply list

`Reach`: the states reachable from a fresh solver (any reservation factor `num/den ≥ 1`) by updates
and by queries run to completion on sound replies.  In every such state the pending framework is the one
obtained by applying the accepted updates, and every answer is correct for it (`reach_inv`, `query_ok`);
`answers_correct` is what `Props/C08` exports.  `query_spec` is one query in the calculus, generic in what
a crash node counts as.
-/

namespace Crusta.DynAtt
open Crusta Crusta.Dyn Crusta.Store

theorem AQInv_init (sem : DSem) (hsem : sem ≠ .PR) (num den : Nat) (hfac : 0 < den ∧ den ≤ num) :
    AQInv sem (ADState.init sem num den) ({} : World).onNew := by
  refine ⟨⟨inv_empty, ⟨⟨rfl, hsem, hfac, ?_⟩, ?_⟩, rfl, Nat.le_refl _⟩, inv_empty, ?_⟩
  · intro i v hv
    simp [ADState.init, AEnc.av] at hv
  · intro hne; cases hne
  · intro c hc
    simp [ADState.init] at hc

/-- the update entry points keep the invariant, and any `P` that holds of `d` and of every state in which no
cached computation can be read any more (`TailSync` is such a `P`) -/
theorem update_keeps {sem : DSem} {d : ADState} {w : World} (h : AQInv sem d w) (op : StoreOp)
    (P : ADState → Prop) (hP : P d) (hP' : ∀ d' : ADState, d'.buf.tail = [] → P d') :
    (AQInv sem (d.update op).1 w ∧ P (d.update op).1) ∧
    ((d.update op).2 = .ok ∧ d.pending.step op = .ok (d.update op).1.pending ∨
     (d.update op).2 = .err ∧ d.pending.step op = .err d.pending ∧ (d.update op).1 = d) ∧
    ((d.update op).1.pending = d.pending → (d.update op).1 = d) := by
  rw [ADState.update_buf]
  rcases h.buf.update op with ⟨hok, hd⟩ | ⟨herr, hd⟩ | ⟨p, hok, hu, hd, hb⟩ <;> rw [hd]
  · exact ⟨⟨h, hP⟩, Or.inl ⟨rfl, hok⟩, fun _ => rfl⟩
  · exact ⟨⟨h, hP⟩, Or.inr ⟨rfl, herr, rfl⟩, fun _ => rfl⟩
  · exact ⟨⟨⟨⟨h.dinv.af_inv, h.dinv.est, hb.sync, hb.next_le⟩, hb.pend_inv, hb.cache⟩, hP' _ (d.buf.tail_update p op)⟩,
      Or.inl ⟨rfl, hok⟩, fun heq => absurd heq hu.ne⟩

theorem update_preserves {sem : DSem} {d : ADState} {w : World} (h : AQInv sem d w) (op : StoreOp) :
    AQInv sem (d.update op).1 w ∧
    ((d.update op).2 = .ok ∧ d.pending.step op = .ok (d.update op).1.pending ∨
     (d.update op).2 = .err ∧ d.pending.step op = .err d.pending ∧ (d.update op).1 = d) ∧
    ((d.update op).1.pending = d.pending → (d.update op).1 = d) :=
  have := update_keeps h op (fun _ => True) trivial (fun _ _ => trivial)
  ⟨this.1.1, this.2⟩

theorem update_enc (d : ADState) (op : StoreOp) : (d.update op).1.enc = d.enc := by
  rw [ADState.update_buf]

/-- the queries an attack-assumption solver offers: the complete-semantics solver
(`DynamicCompleteSemanticsSolverAttacks`) answers credulous queries only — its skeptical entry point
is `unimplemented!()`, a crash node of the model —, the stable-semantics solver answers both; the
solvers are not instantiated with the preferred semantics -/
def AttSupported : DSem → DQuery → Prop
  | .CO, .cred => True
  | .ST, _ => True
  | _, _ => False

/-- `ht`: either crashes are tolerated, or the query is one the solver offers and nothing is waiting to be
replayed when the cache is read; then no crash node is reachable -/
theorem query_spec {C : Prop} {sem : DSem} {d : ADState} {w : World} (h : AQInv sem d w)
    (q : DQuery) (ht : C ∨ TailSync d ∧ AttSupported sem q) {l id : Nat} (hl : d.pending.Live id l) :
    wp C (query d q l) w (fun r w' => (AQInv sem r.1 w' ∧ (TailSync d → TailSync r.1)) ∧
      r.1.pending = d.pending ∧ AnswerOK sem d.pending q l r.2) := by
  have ht' : C ∨ TailSync d := ht.imp_right And.left
  unfold query
  rw [h.dinv.est.1.sem_eq]
  cases sem with
  | PR => exact absurd rfl h.dinv.est.1.sem_ok
  | CO =>
    cases q with
    | cred => exact credQuery_spec h ht' hl
    | skep => exact ht.elim (fun hC => hC) (fun hs => hs.2.elim)
  | ST =>
    cases q with
    | cred => exact credQuery_spec h ht' hl
    | skep => exact stSkepQuery_spec h ht' hl

theorem query_ok {sem : DSem} {d : ADState} {w : World} (h : AQInv sem d w)
    (q : DQuery) {l id : Nat} (hl : d.pending.Live id l)
    {rs : List Reply} (hs : RunSound (query d q l) rs w) {d' : ADState} {a : AccAns} {w' : World}
    (hrun : interp (query d q l) rs w = (.done (d', a), w')) :
    AQInv sem d' w' ∧ d'.pending = d.pending ∧ AnswerOK sem d.pending q l a :=
  have hr := wp_sound _ rs w w' (d', a) _ (query_spec h q (Or.inl trivial) hl) hs hrun
  ⟨hr.1.1, hr.2⟩

/-- `num / den` is the reservation factor of the encoder -/
inductive Reach (sem : DSem) (num den : Nat) : List StoreOp → ADState → World → Prop
  | init : Reach sem num den [] (ADState.init sem num den) ({} : World).onNew
  | update {ops : List StoreOp} {d : ADState} {w : World} (op : StoreOp) :
      Reach sem num den ops d w → Reach sem num den (ops ++ [op]) (d.update op).1 w
  | query {ops : List StoreOp} {d : ADState} {w : World} (q : DQuery) (l id : Nat) (rs : List Reply)
      (d' : ADState) (a : AccAns) (w' : World) :
      Reach sem num den ops d w → d.pending.Live id l → RunSound (query d q l) rs w →
      interp (query d q l) rs w = (.done (d', a), w') → Reach sem num den ops d' w'

theorem reach_inv {sem : DSem} (hsem : sem ≠ .PR) {num den : Nat} (hfac : 0 < den ∧ den ≤ num)
    {ops : List StoreOp} {d : ADState} {w : World} (h : Reach sem num den ops d w) :
    AQInv sem d w ∧ runOps Store.empty ops = some d.pending := by
  induction h with
  | init => exact ⟨AQInv_init sem hsem num den hfac, rfl⟩
  | @update ops d w op _ ih =>
    obtain ⟨hq, hrun⟩ := ih
    obtain ⟨hq', hres, _⟩ := update_preserves hq op
    refine ⟨hq', ?_⟩
    rcases hres with ⟨_, hok⟩ | ⟨_, herr, hd⟩
    · exact runOps_snoc (Or.inl hok) hrun
    · rw [hd]; exact runOps_snoc (Or.inr herr) hrun
  | @query ops d w q l id rs d' a w' _ hl hs hrun ih =>
    obtain ⟨hq, hops⟩ := ih
    obtain ⟨hq', hp, _⟩ := query_ok hq q hl hs hrun
    exact ⟨hq', by rw [hp]; exact hops⟩

/-- **the answers of the attack-assumption solvers are correct**: after any history of update calls
(valid, redundant or rejected) and completed queries, a query about an argument of the current
framework that runs to completion on sound replies returns a correct status and certificate for the
framework obtained by applying the accepted updates -/
theorem answers_correct {sem : DSem} (hsem : sem ≠ .PR) {num den : Nat} (hfac : 0 < den ∧ den ≤ num)
    {ops : List StoreOp} {d : ADState} {w : World} (h : Reach sem num den ops d w)
    (q : DQuery) {l id : Nat} (hl : d.pending.Live id l)
    {rs : List Reply} (hs : RunSound (query d q l) rs w) {d' : ADState} {a : AccAns} {w' : World}
    (hrun : interp (query d q l) rs w = (.done (d', a), w')) :
    ∃ st, runOps Store.empty ops = some st ∧ st = d.pending ∧ AnswerOK sem st q l a := by
  obtain ⟨hq, hops⟩ := reach_inv hsem hfac h
  exact ⟨d.pending, hops, rfl, (query_ok hq q hl hs hrun).2.2⟩

end Crusta.DynAtt
