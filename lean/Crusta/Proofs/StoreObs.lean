import Crusta.Proofs.StoreBasics

/-!
# Store proofs: what the iterators over arguments and attacks and the two counters return, in terms of
`Live` and `HasAtt`; no argument and no attack is listed twice
-/

namespace Crusta
namespace Store

theorem nAttacks_eq {s : Store} (hinv : s.Inv) : s.nAttacks = s.iterAttacks.length :=
  Nat.sub_eq_of_eq_add (by rw [hinv.cnt_att]; exact (filterMap_id_length _).symm)

theorem mem_iterAttacks {s : Store} (a b : Nat) : (a, b) ∈ s.iterAttacks ↔ s.HasAtt a b := by
  unfold iterAttacks HasAtt att
  simp only [List.mem_filterMap, id]
  constructor
  · rintro ⟨x, hx, rfl⟩
    obtain ⟨i, hi, hxi⟩ := List.mem_iff_getElem.1 hx
    exact ⟨i, by rw [List.getD_eq_getElem?_getD, List.getElem?_eq_getElem hi, hxi]; rfl⟩
  · rintro ⟨i, hi⟩
    refine ⟨some (a, b), ?_, rfl⟩
    have hlt : i < s.attacks.length := getD_lt hi
    rw [List.getD_eq_getElem?_getD, List.getElem?_eq_getElem hlt] at hi
    exact hi ▸ List.getElem_mem hlt

theorem mem_iterFrom {s : Store} (hinv : s.Inv) (a : Nat) (p : Nat × Nat) :
    p ∈ s.iterFrom a ↔ (p.1 = a ∧ s.HasAtt p.1 p.2) :=
  hinv.core.idx_from.mem_filterMap a p

theorem mem_iterTo {s : Store} (hinv : s.Inv) (b : Nat) (p : Nat × Nat) :
    p ∈ s.iterTo b ↔ (p.2 = b ∧ s.HasAtt p.1 p.2) :=
  hinv.core.idx_to.mem_filterMap b p

theorem Core.mem_attFrom {s : Store} (hc : s.Core) (a b : Nat) :
    b ∈ (s.iterFrom a).map (·.2) ↔ s.HasAtt a b := by
  rw [List.mem_map]
  constructor
  · rintro ⟨p, hp, rfl⟩
    obtain ⟨rfl, h⟩ := (hc.idx_from.mem_filterMap a p).1 hp
    exact h
  · intro h
    exact ⟨(a, b), (hc.idx_from.mem_filterMap a (a, b)).2 ⟨rfl, h⟩, rfl⟩

theorem Core.mem_attTo {s : Store} (hc : s.Core) (a b : Nat) :
    b ∈ (s.iterTo a).map (·.1) ↔ s.HasAtt b a := by
  rw [List.mem_map]
  constructor
  · rintro ⟨p, hp, rfl⟩
    obtain ⟨rfl, h⟩ := (hc.idx_to.mem_filterMap a p).1 hp
    exact h
  · intro h
    exact ⟨(b, a), (hc.idx_to.mem_filterMap a (b, a)).2 ⟨rfl, h⟩, rfl⟩

/-- two slots of the attack vector never hold the same live attack (`Inv.att_nodup`) -/
theorem iterAttacks_count {s : Store} (hinv : s.Inv) (i j : Nat) (a b : Nat)
    (hi : s.att i = some (a, b)) (hj : s.att j = some (a, b)) : i = j := hinv.att_nodup i j a b hi hj

theorem iterAttacks_nodup {s : Store} (hinv : s.Inv) : s.iterAttacks.Nodup := by
  unfold iterAttacks
  have key : ∀ i (hi : i < s.attacks.length) p, s.attacks[i] = some p → s.att i = some p := fun i hi p hx => by
    unfold att
    rw [List.getD_eq_getElem?_getD, List.getElem?_eq_getElem hi, hx]; rfl
  have h : List.Pairwise (fun x y : Option (Nat × Nat) => ∀ p, x = some p → y ≠ some p) s.attacks :=
    List.pairwise_iff_getElem.2 fun i j hi hj hij p hx hy =>
      Nat.ne_of_lt hij (hinv.att_nodup i j p.1 p.2 (key i hi p hx) (key j hj p hy))
  refine List.Pairwise.filterMap _ ?_ h
  intro x y hxy b hb b' hb' e
  exact hxy b hb (e ▸ hb')

theorem nArguments_eq {s : Store} (hinv : s.Inv) : s.nArguments + countNone s.labels = s.labels.length := by
  unfold nArguments len
  rw [hinv.cnt_lab]
  exact Nat.sub_add_cancel (countNone_le _)

theorem mem_liveArgs_iff (s : Store) (i l : Nat) : (i, l) ∈ s.liveArgs ↔ s.Live i l := by
  unfold liveArgs Live labelOf
  rw [List.mem_filterMap, List.getD_eq_getElem?_getD]
  constructor
  · rintro ⟨⟨x, k⟩, hm, hx⟩
    have hg : s.labels[k]? = some x := List.mem_zipIdx_iff_getElem?.1 hm
    cases x with
    | none => cases hx
    | some l' => cases hx; rw [hg]; rfl
  · intro h
    refine ⟨(some l, i), List.mem_zipIdx_iff_getElem?.2 ?_, rfl⟩
    cases hg : s.labels[i]? with
    | none => rw [hg] at h; cases h
    | some x => rw [hg] at h; exact congrArg some h

theorem mem_liveArgs (s : Store) (a : Nat) : a ∈ s.liveArgs.map (·.1) ↔ s.hasId a = true := by
  rw [hasId_iff, List.mem_map]
  exact ⟨fun ⟨p, hp, e⟩ => ⟨p.2, (mem_liveArgs_iff s a p.2).1 (e ▸ hp)⟩,
    fun ⟨l, hl⟩ => ⟨(a, l), (mem_liveArgs_iff s a l).2 hl, rfl⟩⟩

theorem liveArgs_nodup (s : Store) : (s.liveArgs.map (·.1)).Nodup := by
  unfold liveArgs
  rw [List.map_filterMap]
  refine List.Pairwise.filterMap _ ?_ (zipIdx_pairwise s.labels)
  intro p q hpq b hb b' hb'
  obtain ⟨x, i⟩ := p
  obtain ⟨y, j⟩ := q
  cases x <;> cases y <;> simp at hb hb'
  subst hb; subst hb'
  exact hpq

end Store
end Crusta
