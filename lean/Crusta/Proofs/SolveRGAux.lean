import Crusta.Proofs.SolveMEC
import Crusta.Proofs.AttackRows
import Crusta.Proofs.Deciders

/-!
# Range-based computer (semi-stable / stage): encoder interface and `split_in_range`

One interface over the six encoders that have a range variant (`RangeEnc`).  Soundness
(`EncKind.rsound`) only says that a true range variable lies in the range of the decoded set: this is
all the exp / hybrid encodings give.  Completeness (`EncKind.rcomplete`) gives a model whose range
variables are *exactly* the range.  `split_in_range` reads the range (`MEC.inR`) off the last model or,
before the first one, off the current set.
-/

namespace Crusta

def RangeMax (af : AF) (B : ASet → Prop) (S : ASet) : Prop :=
  B S ∧ ∀ T, B T → RangeSub af S T → RangeSub af T S

/-- the encoders usable with a range: all but the default stable encoder, whose `clausesRange` is
empty -/
def RangeEnc (k : EncKind) : Prop := k ≠ .stb

theorem rangeMax_semistable (k : EncKind) (hk : k = .auxCO ∨ k = .expCO ∨ k = .hyb) (af : AF) (S : ASet) :
    RangeMax af (k.Base af) S ↔ SemiStable af S := by
  rcases hk with rfl | rfl | rfl <;> exact Iff.rfl

theorem rangeMax_stage (k : EncKind) (hk : k = .auxCF ∨ k = .expCF) (af : AF) (S : ASet) :
    RangeMax af (k.Base af) S ↔ Stage af S := by
  rcases hk with rfl | rfl <;> exact Iff.rfl

theorem EncKind.Base_sub (k : EncKind) {af : AF} {T : ASet} (h : k.Base af T) : Sub af T := by
  cases k with
  | auxCF => exact h.1
  | expCF => exact h.1
  | auxADM => exact h.1.1
  | auxCO => exact h.1.1.1
  | expCO => exact h.1.1.1
  | hyb => exact h.1.1.1
  | stb => exact h.1.1

theorem EncKind.Base_of_complete (k : EncKind) (hk : RangeEnc k) {af : AF} {T : ASet} (h : Complete af T) :
    k.Base af T := by
  cases k with
  | auxCF => exact h.1.1
  | expCF => exact h.1.1
  | auxADM => exact h.1
  | auxCO => exact h
  | expCO => exact h
  | hyb => exact h
  | stb => exact absurd rfl hk

def EncKind.rv (k : EncKind) (n a : Nat) : Nat := k.firstRangeVar n + a

theorem Aux.r_add (n a : Nat) : Aux.r n 0 + a = Aux.r n a := by unfold Aux.r; omega
theorem Exp.r_add (n a : Nat) : Exp.r n 0 + a = Exp.r n a := by unfold Exp.r; omega

theorem EncKind.rv_aux (k : EncKind) (h : k = .auxCF ∨ k = .auxADM ∨ k = .auxCO) (n a : Nat) :
    k.rv n a = Aux.r n a := by
  rcases h with rfl | rfl | rfl <;> exact Aux.r_add n a

theorem EncKind.rv_exp (k : EncKind) (h : k = .expCF ∨ k = .expCO ∨ k = .hyb) (n a : Nat) :
    k.rv n a = Exp.r n a := by
  rcases h with rfl | rfl | rfl <;> exact Exp.r_add n a

theorem EncKind.rv_pos (k : EncKind) (n a : Nat) : 1 ≤ k.rv n a := by
  have h : 1 ≤ k.firstRangeVar n := by cases k <;> exact Nat.le_add_left 1 _
  exact Nat.le_trans h (Nat.le_add_right _ _)

theorem Aux.rsound_of {k : EncKind} (hk : k = .auxCF ∨ k = .auxADM ∨ k = .auxCO) {af : AF} {ν : Asg} {B : Prop}
    (h : Aux.PCons af ν ∧ B ∧ Aux.RCons af ν) :
    B ∧ ∀ a, a < af.n → ν (k.rv af.n a) = true → InRange af (Aux.S af ν) a :=
  ⟨h.2.1, fun a ha hr => (h.2.2 a ha).1 (EncKind.rv_aux k hk af.n a ▸ hr)⟩

theorem Exp.rsound_of {k : EncKind} (hk : k = .expCF ∨ k = .expCO ∨ k = .hyb) {af : AF} {ν : Asg} {B : Prop}
    (h : B ∧ Exp.RSound af ν) :
    B ∧ ∀ a, a < af.n → ν (k.rv af.n a) = true → InRange af (Exp.S af ν) a :=
  ⟨h.1, fun a ha hr => (h.2 a ha).2 (EncKind.rv_exp k hk af.n a ▸ hr)⟩

theorem EncKind.rsound (k : EncKind) (hk : RangeEnc k) (af : AF) (hwf : af.WF) (ν : Asg)
    (h : cnfTrue ν (k.clausesRange af) = true) :
    k.Base af (k.S af ν) ∧ ∀ a, a < af.n → ν (k.rv af.n a) = true → InRange af (k.S af ν) a := by
  cases k with
  | auxCF => exact Aux.rsound_of (Or.inl rfl) ((Aux.cfRange_iff af hwf ν).1 h)
  | auxADM => exact Aux.rsound_of (Or.inr (Or.inl rfl)) ((Aux.admRange_iff af hwf ν).1 h)
  | auxCO => exact Aux.rsound_of (Or.inr (Or.inr rfl)) ((Aux.coRange_iff af hwf ν).1 h)
  | expCF => exact Exp.rsound_of (Or.inl rfl) ((Exp.cfRange_iff af hwf ν).1 h)
  | expCO => exact Exp.rsound_of (Or.inr (Or.inl rfl)) ((Exp.coRange_iff af hwf ν).1 h)
  | hyb => exact Exp.rsound_of (Or.inr (Or.inr rfl)) (Hyb.coRange_sound _ af hwf ν h)
  | stb => exact absurd rfl hk

theorem Aux.rcomplete_of {k : EncKind} (hk : k = .auxCF ∨ k = .auxADM ∨ k = .auxCO) {af : AF} {cl : Cnf}
    {B : ASet → Prop} {T : ASet} (hT : B T) (hsub : Sub af T)
    (hiff : ∀ ν, cnfTrue ν cl = true ↔ (Aux.PCons af ν ∧ B (Aux.S af ν) ∧ Aux.RCons af ν)) :
    ∃ ν, cnfTrue ν cl = true ∧ Aux.S af ν = T ∧ ∀ a, a < af.n → (ν (k.rv af.n a) = true ↔ InRange af T a) := by
  obtain ⟨hS, hP, hR⟩ := Aux.asgOf_cons af T hsub
  refine ⟨Aux.asgOf af T, (hiff _).2 ⟨hP, hS.symm ▸ hT, hR⟩, hS, fun a ha => ?_⟩
  have := hR a ha
  rw [hS] at this
  rw [EncKind.rv_aux _ hk]
  exact this

theorem Exp.rcomplete_of {k : EncKind} (hk : k = .expCF ∨ k = .expCO ∨ k = .hyb) {af : AF} {cl : Cnf}
    {B : ASet → Prop} {T : ASet} (hT : B T) (hsub : Sub af T)
    (hiff : ∀ ν, cnfTrue ν cl = true ↔ (B (Exp.S af ν) ∧ Exp.RSound af ν)) :
    ∃ ν, cnfTrue ν cl = true ∧ Exp.S af ν = T ∧ ∀ a, a < af.n → (ν (k.rv af.n a) = true ↔ InRange af T a) := by
  obtain ⟨hS, hRS, hR⟩ := Exp.asgOf_cons af T hsub
  refine ⟨Exp.asgOf af T, (hiff _).2 ⟨hS.symm ▸ hT, hRS⟩, hS, fun a ha => ?_⟩
  rw [EncKind.rv_exp _ hk]
  exact hR a ha

theorem EncKind.rcomplete (k : EncKind) (hk : RangeEnc k) (af : AF) (hwf : af.WF) (T : ASet)
    (hT : k.Base af T) :
    ∃ ν, cnfTrue ν (k.clausesRange af) = true ∧ k.S af ν = T ∧
      ∀ a, a < af.n → (ν (k.rv af.n a) = true ↔ InRange af T a) := by
  cases k with
  | auxCF => exact Aux.rcomplete_of (Or.inl rfl) hT hT.1 (Aux.cfRange_iff af hwf)
  | auxADM => exact Aux.rcomplete_of (Or.inr (Or.inl rfl)) hT hT.1.1 (Aux.admRange_iff af hwf)
  | auxCO => exact Aux.rcomplete_of (Or.inr (Or.inr rfl)) hT hT.1.1.1 (Aux.coRange_iff af hwf)
  | expCF => exact Exp.rcomplete_of (Or.inl rfl) hT hT.1 (Exp.cfRange_iff af hwf)
  | expCO => exact Exp.rcomplete_of (Or.inr (Or.inl rfl)) hT hT.1.1.1 (Exp.coRange_iff af hwf)
  | hyb =>
    obtain ⟨ν, h1, h2, h3⟩ := Hyb.coRange_exact Gen.hybridThreshold af hwf T hT
    exact ⟨ν, h1, h2, fun a ha => by rw [EncKind.rv_exp _ (Or.inr (Or.inr rfl))]; exact h3 a ha⟩
  | stb => exact absurd rfl hk

/-! ### every range variable occurs in the clause set (so that a total model gives it a value) -/

namespace Hyb

theorem allocFor_out_mono (af : AF) {c : Clause} : ∀ (bs : List Nat) (st : St), c ∈ st.out → c ∈ (allocFor af st bs).out
  | [], st, h => h
  | b :: bs, st, h => by
    simp only [allocFor]
    split
    · exact allocFor_out_mono af bs st h
    · exact allocFor_out_mono af bs _ (List.mem_append_left _ h)

theorem argStep_out_mono (thr : Nat) (af : AF) (st : St) (a : Nat) {c : Clause} (h : c ∈ st.out) :
    c ∈ (argStep thr af st a).out := by
  unfold argStep
  by_cases h1 : (Exp.defenders af a).isEmpty = true
  · rw [if_pos h1]; exact List.mem_append_left _ h
  · rw [if_neg h1]
    by_cases h2 : (Exp.defenders af a).any (fun d => d.isEmpty) = true
    · rw [if_pos h2]; exact List.mem_append_left _ h
    · rw [if_neg h2]
      by_cases h3 : prodCapped thr ((Exp.defenders af a).map List.length) 1 < thr
      · rw [if_pos h3]; exact List.mem_append_left _ h
      · rw [if_neg h3]; exact List.mem_append_left _ (allocFor_out_mono af _ st h)

theorem rangeStep_out_mono (af : AF) (st : St) (a : Nat) {c : Clause} (h : c ∈ st.out) :
    c ∈ (rangeStep af st a).out := by
  unfold rangeStep
  split <;> exact List.mem_append_left _ h

theorem rangeStep_emits (af : AF) (st : St) (a : Nat) :
    [nl (Exp.x a), pl (Exp.r af.n a)] ∈ (rangeStep af st a).out := by
  unfold rangeStep
  split
  · exact List.mem_append_right _ (by simp)
  · exact List.mem_append_right _ (by simp [Exp.range])

theorem foldR_emits (thr : Nat) (af : AF) : ∀ (l : List Nat) (st : St) (a : Nat),
    (a ∈ l ∨ [nl (Exp.x a), pl (Exp.r af.n a)] ∈ st.out) →
    [nl (Exp.x a), pl (Exp.r af.n a)] ∈ (l.foldl (fun st a => rangeStep af (argStep thr af st a) a) st).out
  | [], st, a, h => by
    rcases h with h | h
    · cases h
    · exact h
  | b :: l, st, a, h => by
    simp only [List.foldl_cons]
    apply foldR_emits thr af l _ a
    rcases h with h | h
    · rcases List.mem_cons.1 h with rfl | h
      · exact Or.inr (rangeStep_emits af _ _)
      · exact Or.inl h
    · exact Or.inr (rangeStep_out_mono af _ _ (argStep_out_mono thr af _ _ h))

end Hyb

theorem EncKind.rv_occurs (k : EncKind) (hk : RangeEnc k) (af : AF) {a : Nat} (ha : a < af.n) :
    ∃ c ∈ k.clausesRange af, ∃ l ∈ c, l.var = k.rv af.n a := by
  -- the clause `x_a → r_a` of the range block of `a`
  have haux : ∀ (f : Nat → Cnf), [nl (Aux.x a), pl (Aux.r af.n a)] ∈
      (List.range af.n).flatMap (fun a => f a ++ Aux.range af.n a) :=
    fun f => List.mem_flatMap.2 ⟨a, List.mem_range.2 ha, List.mem_append_right _ List.mem_cons_self⟩
  have hexp : ∀ (f : Nat → Cnf), [nl (Exp.x a), pl (Exp.r af.n a)] ∈
      (List.range af.n).flatMap (fun a => f a ++ Exp.range af a) :=
    fun f => List.mem_flatMap.2 ⟨a, List.mem_range.2 ha, List.mem_append_right _ List.mem_cons_self⟩
  have hl : ∀ x r : Nat, pl r ∈ [nl x, pl r] := fun _ _ => List.mem_cons_of_mem _ List.mem_cons_self
  cases k with
  | auxCF => exact ⟨_, haux _, _, hl _ _, (EncKind.rv_aux _ (Or.inl rfl) _ _).symm⟩
  | auxADM => exact ⟨_, haux _, _, hl _ _, (EncKind.rv_aux _ (Or.inr (Or.inl rfl)) _ _).symm⟩
  | auxCO => exact ⟨_, haux _, _, hl _ _, (EncKind.rv_aux _ (Or.inr (Or.inr rfl)) _ _).symm⟩
  | expCF => exact ⟨_, hexp _, _, hl _ _, (EncKind.rv_exp _ (Or.inl rfl) _ _).symm⟩
  | expCO => exact ⟨_, hexp _, _, hl _ _, (EncKind.rv_exp _ (Or.inr (Or.inl rfl)) _ _).symm⟩
  | hyb =>
    exact ⟨_, Hyb.foldR_emits _ af _ _ a (Or.inl (List.mem_range.2 ha)), _, hl _ _,
      (EncKind.rv_exp _ (Or.inr (Or.inr rfl)) _ _).symm⟩
  | stb => exact absurd rfl hk

theorem Aux.vars_le {n a : Nat} (ha : a < n) : Aux.x a ≤ n * 3 ∧ Aux.r n 0 + a ≤ n * 3 := by
  unfold Aux.x Aux.r; omega
theorem Exp.vars_le {n a : Nat} (ha : a < n) : a + 1 ≤ n * 2 ∧ Exp.r n 0 + a ≤ n * 2 := by
  unfold Exp.r; omega

theorem Encoded.rvars_le {k : EncKind} (hk : RangeEnc k) {af : AF} {s : Nat} {w : World} (h : Encoded k af s true w)
    {a : Nat} (ha : a < af.n) : k.argVar a ≤ w.nVarsOf s ∧ k.rv af.n a ≤ w.nVarsOf s := by
  cases k with
  | auxCF | auxADM | auxCO =>
    have hr := h.reserved (af.n * 3) rfl
    exact ⟨Nat.le_trans (Aux.vars_le ha).1 hr, Nat.le_trans (Aux.vars_le ha).2 hr⟩
  | expCF | expCO | hyb =>
    have hr := h.reserved (af.n * 2) rfl
    exact ⟨Nat.le_trans (Exp.vars_le ha).1 hr, Nat.le_trans (Exp.vars_le ha).2 hr⟩
  | stb => exact absurd rfl hk

def routL (enc : EncKind) (n : Nat) (R : Nat → Bool) : List Lit :=
  ((List.range n).filter (fun i => !R i)).map (fun i => pl (enc.rv n i))

theorem routL_var (enc : EncKind) (n : Nat) (R : Nat → Bool) : ∀ l ∈ routL enc n R, ∃ a, a < n ∧ l.var = enc.rv n a := by
  intro l hl
  unfold routL at hl
  obtain ⟨a, ha, rfl⟩ := List.mem_map.1 hl
  exact ⟨a, List.mem_range.1 (List.mem_filter.1 ha).1, rfl⟩

/-- a range variable the model leaves unassigned counts as in the range, as in
`maximal_range_semantics_solvers.rs` (`value_of(i) == Some(false)` is the test); this is why every range
variable has to occur in the clause set (`rv_occurs`) -/
def inRModel (enc : EncKind) (n : Nat) (mdl : Model) (i : Nat) : Bool :=
  !(mdl.getD (enc.rv n i - 1) none == some false)

def inRCur (af : AF) (cur : List Nat) (i : Nat) : Bool :=
  cur.any (fun a => a == i || (af.attackedOf a).contains i)

/-- the set of arguments `split_in_range` puts in the range -/
def MEC.inR (m : MEC) : Nat → Bool :=
  match m.model with
  | some mdl => inRModel m.enc m.af.n mdl
  | none => inRCur m.af m.cur

theorem splitInRange_eq (m : MEC) :
    splitInRange m = (kIn (m.enc.rv m.af.n) m.af.n m.inR, kOut (m.enc.rv m.af.n) m.af.n m.inR) := by
  unfold splitInRange MEC.inR kIn kOut
  cases m.model with
  | none => rfl
  | some mdl =>
    simp only [List.filter_map, List.map_map]
    refine Prod.ext ?_ ?_
    · rfl
    · simp only
      congr 1
      apply List.filter_congr
      intro i _
      simp [inRModel, EncKind.rv]

theorem inRCur_spec (af : AF) (cur : List Nat) (i : Nat) :
    inRCur af cur i = true ↔ InRange af (ofList cur) i := by
  unfold inRCur InRange AttackedBy
  simp only [List.any_eq_true, Bool.or_eq_true, beq_iff_eq, List.contains_iff_mem, AF.mem_attackedOf, ofList_true]
  constructor
  · rintro ⟨a, ha, rfl | h⟩
    · exact Or.inl ha
    · exact Or.inr ⟨a, h, ha⟩
  · rintro (h | ⟨b, hb, hc⟩)
    · exact ⟨i, h, Or.inl rfl⟩
    · exact ⟨b, hc, Or.inr hb⟩

theorem inRModel_eq {enc : EncKind} {n : Nat} {mdl : Model} {db : Cnf} (ht : ModelTotal mdl db) {a : Nat}
    (hocc : ∃ c ∈ db, ∃ l ∈ c, l.var = enc.rv n a) :
    inRModel enc n mdl a = asgOfModel mdl (enc.rv n a) := by
  obtain ⟨c, hc, l, hl, hv⟩ := hocc
  have := ht c hc l hl
  rw [hv] at this
  have h1 := enc.rv_pos n a
  unfold inRModel asgOfModel
  cases h : mdl.getD (enc.rv n a - 1) none with
  | none => rw [h] at this; cases this
  | some b => cases b <;> simp [h1]

end Crusta
