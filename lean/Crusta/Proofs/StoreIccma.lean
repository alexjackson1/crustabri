import Crusta.Proofs.ViewSpec
import Crusta.Proofs.StoreObs
import Crusta.Proofs.StoreRows

/-!
# The store built by the ICCMA'23 reader

`Store.ofIccma n atts` declares the labels `1..n` and then calls `new_attack_by_ids` once per attack
line.  That call does not test for duplicates, so a file that repeats an attack line yields a store
that violates `Store.Inv.att_nodup`, and `Store.view_ok` does not apply.  `Store.InvD` is the part of
the invariant that survives duplicated attacks (`Store.Core`) together with the duplicate-freeness of
the index rows; it is enough for the view to present the graph (`Store.view_ok_of_invD`): the multiplicity of
`b` in `attFrom a` and of `a` in `attTo b` both are the number of live attack indexes holding `(a, b)`.
-/

namespace Crusta
namespace Store

/-- `Store.Inv` without `att_nodup`, plus the duplicate-freeness of the rows -/
structure InvD (s : Store) : Prop where
  rows_from : s.from_.length = s.labels.length
  rows_to : s.to_.length = s.labels.length
  l2i_sound : ∀ l i, (l, i) ∈ s.l2i → s.Live i l
  l2i_complete : ∀ l i, s.Live i l → (l, i) ∈ s.l2i
  label_inj : ∀ i j l, s.Live i l → s.Live j l → i = j
  ends_live : ∀ i a b, s.att i = some (a, b) → s.hasId a = true ∧ s.hasId b = true
  in_from : ∀ i a b, s.att i = some (a, b) → i ∈ row s.from_ a
  in_to : ∀ i a b, s.att i = some (a, b) → i ∈ row s.to_ b
  from_ok : ∀ a i, i ∈ row s.from_ a → i < s.attacks.length ∧ (s.att i = none ∨ ∃ b, s.att i = some (a, b))
  to_ok : ∀ b i, i ∈ row s.to_ b → i < s.attacks.length ∧ (s.att i = none ∨ ∃ a, s.att i = some (a, b))
  cnt_att : s.nRemovedAtt = countNone s.attacks
  cnt_lab : s.nRemoved = countNone s.labels
  rows : s.RowsNodup

theorem InvD.core {s : Store} (h : s.InvD) : s.Core :=
  ⟨h.rows_from, h.rows_to, h.l2i_sound, h.l2i_complete, h.label_inj, h.ends_live,
    Indexes.iff_fst.2 ⟨h.in_from, h.from_ok⟩, Indexes.iff_snd.2 ⟨h.in_to, h.to_ok⟩, h.cnt_att, h.cnt_lab⟩

theorem Core.invD {s : Store} (h : s.Core) (hr : s.RowsNodup) : s.InvD :=
  ⟨h.rows_from, h.rows_to, h.l2i_sound, h.l2i_complete, h.label_inj, h.ends_live,
    (Indexes.iff_fst.1 h.idx_from).1, (Indexes.iff_snd.1 h.idx_to).1, (Indexes.iff_fst.1 h.idx_from).2,
    (Indexes.iff_snd.1 h.idx_to).2, h.cnt_att, h.cnt_lab, hr⟩

theorem Inv.invD {s : Store} (hinv : s.Inv) (hr : s.RowsNodup) : s.InvD :=
  hinv.core.invD hr

/-- unlike `inv_pushAtt`, whether or not the attack is already there -/
theorem invD_pushAtt {s : Store} (hinv : s.InvD) {a b la lb : Nat} (ha : s.Live a la) (hb : s.Live b lb) :
    (s.pushAtt a b).InvD :=
  (core_pushAtt hinv.core ha hb).invD (rows_pushAtt hinv.core.rowsLt hinv.rows a b).2

theorem count_row (att : Nat → Option (Nat × Nat)) (g : Nat × Nat → Nat) (q : Nat × Nat) (r : List Nat)
    (h : ∀ i ∈ r, ∀ p, att i = some p → g p = g q → p = q) :
    ((r.filterMap att).map g).count (g q) = r.countP (fun i => att i == some q) := by
  rw [← List.count_filterMap, List.count_eq_countP, List.countP_map, List.count_eq_countP]
  refine List.countP_congr fun p hp => ?_
  obtain ⟨i, hi, e⟩ := List.mem_filterMap.1 hp
  simp only [Function.comp, beq_iff_eq]
  exact ⟨h i hi p e, congrArg g⟩

/-- both rows list each live attack `(a, b)` exactly once, hence equally often -/
theorem count_invD {s : Store} (hinv : s.InvD) (a b : Nat) :
    ((s.iterFrom a).map (·.2)).count b = ((s.iterTo b).map (·.1)).count a := by
  have hc := hinv.core
  unfold iterFrom iterTo
  rw [count_row s.att (·.2) (a, b) _ fun i hi p hp e => Prod.ext (hc.idx_from.own a i p hi hp) e,
    count_row s.att (·.1) (a, b) _ fun i hi p hp e => Prod.ext e (hc.idx_to.own b i p hi hp),
    List.countP_eq_length_filter, List.countP_eq_length_filter]
  apply List.Perm.length_eq
  refine (List.perm_ext_iff_of_nodup ((hinv.rows.from_nodup a).sublist List.filter_sublist)
    ((hinv.rows.to_nodup b).sublist List.filter_sublist)).2 ?_
  intro i
  simp only [List.mem_filter, beq_iff_eq]
  constructor
  · rintro ⟨_, h⟩; exact ⟨hinv.in_to i a b h, h⟩
  · rintro ⟨_, h⟩; exact ⟨hinv.in_from i a b h, h⟩

theorem view_ok_of_invD (st : Store) (hinv : st.InvD) : st.view.Ok st.g := by
  refine ⟨?_, ?_, ?_, ?_, ?_, ?_, ?_, ?_, ?_⟩
  · intro a b ⟨i, hi⟩
    exact hinv.ends_live i a b hi
  · intro a ha
    obtain ⟨l, hl⟩ := Store.hasId_iff.1 ha
    have hlt := Store.live_lt hl
    refine ⟨st.labels.length - 1, if_neg fun e => ?_, Nat.le_sub_one_of_lt hlt⟩
    rw [List.isEmpty_iff.1 e] at hlt
    cases hlt
  · intro a; rfl
  · exact Store.mem_liveArgs st
  · exact Store.liveArgs_nodup st
  · exact hinv.core.mem_attFrom
  · exact hinv.core.mem_attTo
  · exact count_invD hinv
  · intro a b
    exact Store.mem_iterAttacks a b

/-- `Store.Inv` alone is not enough: see `Crusta/Proofs/StoreRows.lean` -/
theorem view_ok (st : Store) (hinv : st.Inv) (hrows : st.RowsNodup) : st.view.Ok st.g :=
  view_ok_of_invD st (hinv.invD hrows)

/-- the label set holding `1..n` under the ids `0..n-1` -/
def iccBase (n : Nat) : Store :=
  ⟨(List.range n).map (fun i => some (i + 1)), (List.range n).map (fun i => (i + 1, i)), 0, [], [], [], 0⟩

theorem ofLabels_range (n : Nat) : ofLabels ((List.range n).map (· + 1)) = iccBase n := by
  induction n with
  | zero => rfl
  | succ n ih =>
    unfold ofLabels at ih ⊢
    rw [List.range_succ, List.map_append, List.foldl_append, ih]
    simp only [List.map_cons, List.map_nil, List.foldl_cons, List.foldl_nil]
    have hl : (iccBase n).lookup (n + 1) = none := by
      unfold lookup iccBase
      rw [Option.map_eq_none_iff, List.find?_eq_none]
      intro p hp
      obtain ⟨i, hi, rfl⟩ := List.mem_map.1 hp
      exact fun e => Nat.ne_of_lt (Nat.succ_lt_succ (List.mem_range.1 hi)) (eq_of_beq e)
    unfold newLabel
    rw [hl]
    simp [iccBase, List.range_succ]

theorem countNone_map_some {α β : Type} (f : α → β) (l : List α) :
    countNone (l.map (fun i => some (f i))) = 0 := by
  induction l with
  | nil => rfl
  | cons a t ih => simp [countNone, ih]

/-- the state of the reader while it consumes the attack lines -/
structure IccSt (n : Nat) (s : Store) : Prop where
  invd : s.InvD
  labels : s.labels = (List.range n).map (fun i => some (i + 1))
  nrem : s.nRemoved = 0

theorem live_of_labels {n : Nat} {s : Store} (h : s.labels = (List.range n).map (fun i => some (i + 1)))
    (i l : Nat) : s.Live i l ↔ (i < n ∧ l = i + 1) := by
  unfold Live labelOf
  rw [h, List.getD_eq_getElem?_getD, List.getElem?_map]
  by_cases hi : i < n
  · rw [List.getElem?_range hi]
    exact ⟨fun e => ⟨hi, (Option.some.inj e).symm⟩, fun e => congrArg some e.2.symm⟩
  · rw [List.getElem?_eq_none (by rw [List.length_range]; exact Nat.not_lt.1 hi)]
    exact ⟨fun e => (nomatch e), fun e => absurd e.1 hi⟩

theorem IccSt.live {n : Nat} {s : Store} (h : s.IccSt n) (i l : Nat) : s.Live i l ↔ (i < n ∧ l = i + 1) :=
  live_of_labels h.labels i l

theorem iccSt_base (n : Nat) : ((iccBase n).withRowsByLen).IccSt n := by
  have hlive := live_of_labels (s := (iccBase n).withRowsByLen) rfl
  have hatt : ∀ i, ((iccBase n).withRowsByLen).att i = none := fun _ => rfl
  refine ⟨Core.invD ⟨?_, ?_, ?_, ?_, ?_, ?_, .of_none hatt (row_replicate _), .of_none hatt (row_replicate _), rfl,
    (countNone_map_some _ _).symm⟩ (rows_withRowsByLen _), rfl, rfl⟩
  · exact List.length_replicate
  · exact List.length_replicate
  · intro l i hm
    obtain ⟨j, hj, e⟩ := List.mem_map.1 hm
    cases e
    exact (hlive _ _).2 ⟨List.mem_range.1 hj, rfl⟩
  · intro l i hl
    obtain ⟨hi, rfl⟩ := (hlive _ _).1 hl
    exact List.mem_map.2 ⟨i, List.mem_range.2 hi, rfl⟩
  · intro i j l hi hj
    have := (hlive _ _).1 hi
    have := (hlive _ _).1 hj
    omega
  · intro i a b h; cases h

theorem IccSt.newAttackByIds {n : Nat} {s : Store} (h : s.IccSt n) {a b : Nat} (ha : a < n) (hb : b < n) :
    s.newAttackByIds a b = .ok (s.pushAtt a b) ∧ (s.pushAtt a b).IccSt n := by
  have hla := (h.live a (a + 1)).2 ⟨ha, rfl⟩
  have hlb := (h.live b (b + 1)).2 ⟨hb, rfl⟩
  refine ⟨?_, invD_pushAtt h.invd hla hlb, h.labels, h.nrem⟩
  have hlen : s.len = s.labels.length := congrArg (s.labels.length - ·) h.nrem
  exact newAttackByIds_eq (hlen ▸ live_lt hla) (hlen ▸ live_lt hlb) (h.invd.core.from_lt hla) (h.invd.core.to_lt hlb)

theorem fold_hasAtt {I : Store → Prop} {step : Store → Nat × Nat → Store} (atts : List (Nat × Nat))
    (h : ∀ s p, p ∈ atts → I s → I (step s p) ∧ ∀ a b, (step s p).HasAtt a b ↔ (s.HasAtt a b ∨ (a, b) = p)) :
    ∀ s, I s → I (atts.foldl step s) ∧ ∀ a b, (atts.foldl step s).HasAtt a b ↔ (s.HasAtt a b ∨ (a, b) ∈ atts) := by
  induction atts with
  | nil => exact fun s hs => ⟨hs, fun a b => ⟨Or.inl, fun h => h.elim id fun h => nomatch h⟩⟩
  | cons p t ih =>
    intro s hs
    obtain ⟨h1, h2⟩ := h s p List.mem_cons_self hs
    obtain ⟨i1, i2⟩ := ih (fun s q hq => h s q (List.mem_cons_of_mem _ hq)) _ h1
    exact ⟨i1, fun a b => by rw [List.foldl_cons, i2, h2, List.mem_cons, or_assoc]⟩

theorem ofIccma_iccSt (n : Nat) (atts : List (Nat × Nat)) (h : ∀ p ∈ atts, p.1 < n ∧ p.2 < n) :
    (ofIccma n atts).IccSt n ∧ ∀ a b, (ofIccma n atts).HasAtt a b ↔ (a, b) ∈ atts := by
  unfold ofIccma
  rw [ofLabels_range]
  obtain ⟨h1, h2⟩ := fold_hasAtt (I := (·.IccSt n)) atts (fun s p hp hs => by
    obtain ⟨he, hs'⟩ := hs.newAttackByIds (h p hp).1 (h p hp).2
    -- the step of `ofIccma`, applied
    show (match s.newAttackByIds p.1 p.2 with | .ok s' => s' | .err s' => s' | .panic => s).IccSt n ∧ _
    rw [he]
    exact ⟨hs', fun a b => (hasAtt_pushAtt ..).trans (or_congr_right (Prod.ext_iff (x := (a, b)) (y := p)).symm)⟩) _ (iccSt_base n)
  exact ⟨h1, fun a b => (h2 a b).trans ⟨fun h => h.elim (fun h => h.elim fun _ hi => nomatch hi) id, Or.inr⟩⟩

/-- the store built by the ICCMA reader presents its graph, even when attack lines are repeated -/
theorem ofIccma_view_ok (n : Nat) (atts : List (Nat × Nat)) (h : ∀ p ∈ atts, p.1 < n ∧ p.2 < n) :
    (Store.ofIccma n atts).view.Ok (Store.ofIccma n atts).g :=
  view_ok_of_invD _ (ofIccma_iccSt n atts h).1.invd

theorem ofIccma_g (n : Nat) (atts : List (Nat × Nat)) (h : ∀ p ∈ atts, p.1 < n ∧ p.2 < n) :
    (∀ a, (Store.ofIccma n atts).hasId a = true ↔ a < n) ∧
    (∀ a b, (Store.ofIccma n atts).HasAtt a b ↔ (a, b) ∈ atts) :=
  ⟨hasId_iff_lt (ofIccma_iccSt n atts h).1.live, (ofIccma_iccSt n atts h).2⟩

end Store
end Crusta
