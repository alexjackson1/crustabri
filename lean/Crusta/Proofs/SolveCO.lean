import Crusta.Proofs.SolveBase

/-!
# The query on the (merged) component: positions of the queried arguments, a call under a fresh selector

Nothing here is particular to one semantics (the file is named after its first client, the complete
solver): the positions of the queried arguments (`posAll`, `wp_ccArgs*`) and a query under a fresh
selector for any encoder (`SelBase`, `hitClause`), used by the complete, stable, preferred, range and
ideal solvers.  `coDC` / `coDCcert` themselves are in `StaticPR` / `StaticPRCO`.
-/

namespace Crusta
open Prog (mkSolver doReserve addClause addClauses getNVars doSolve)

/-- positions of all the arguments, when each lies in the component -/
def posAll (c : Comp) : List Nat → Option (List Nat)
  | [] => some []
  | a :: t => match c.pos a, posAll c t with
    | some i, some r => some (i :: r)
    | _, _ => none

theorem wp_ccArgs_spec (c : Comp) (args : List Nat) (w : World) :
    wp (posAll c args = none) (ccArgs c args) w (fun pos w' => posAll c args = some pos ∧ w' = w) := by
  induction args with
  | nil => exact ⟨rfl, rfl⟩
  | cons a t ih =>
    unfold ccArgs
    simp only [List.foldr_cons]
    rw [wp_bind']
    refine wp_conseq ?_ _ _ _ _ ?_ ih
    · intro hn; simp only [posAll, hn]; cases c.pos a <;> rfl
    · rintro rest _ ⟨hrest, rfl⟩
      cases hp : c.pos a with
      | none => show posAll c (a :: t) = none; simp only [posAll, hp]
      | some i => exact ⟨by simp only [posAll, hp, hrest], rfl⟩

/-- the form the entry points use -/
theorem wp_ccArgsC {C : Prop} (c : Comp) (args : List Nat) (w : World) (Q : List Nat → World → Prop)
    (h : C ∨ ∃ pos, posAll c args = some pos) (hQ : ∀ pos, posAll c args = some pos → Q pos w) :
    wp C (ccArgs c args) w Q := by
  refine wp_conseq (fun hn => h.elim id fun ⟨pos, hp⟩ => by rw [hp] at hn; cases hn) _ _ _ _ ?_
    (wp_ccArgs_spec c args w)
  rintro pos _ ⟨hp, rfl⟩
  exact hQ pos hp

theorem posAll_eq {c : Comp} : ∀ {args pos : List Nat}, posAll c args = some pos → pos = args.filterMap c.pos := by
  intro args
  induction args with
  | nil => intro pos h; cases h; rfl
  | cons a t ih =>
    intro pos h
    simp only [posAll] at h
    cases hp : c.pos a with
    | none => rw [hp] at h; cases h
    | some j =>
      cases hr : posAll c t with
      | none => rw [hp, hr] at h; cases h
      | some r =>
        rw [hp, hr] at h
        cases h
        rw [List.filterMap_cons, hp, ← ih hr]

theorem mem_posAll {c : Comp} {args pos : List Nat} (h : posAll c args = some pos) (i : Nat) :
    i ∈ pos ↔ ∃ a ∈ args, c.pos a = some i := by
  rw [posAll_eq h]; exact List.mem_filterMap

/-- clauses equivalent to encoder `k` of `af`, and a selector that occurs neither in them nor as an
argument variable -/
structure SelBase (k : EncKind) (af : AF) (base : Cnf) (sel : Nat) : Prop where
  wf : af.WF
  eqv : ∀ ν, cnfTrue ν base = cnfTrue ν (k.clauses af)
  fresh_db : ∀ c ∈ base, ∀ l ∈ c, l.var ≠ sel
  fresh_arg : ∀ a, a < af.n → k.argVar a ≠ sel

theorem Encoded.selBase {k : EncKind} {af : AF} {s : Nat} {w : World} (h : Encoded k af s false w) (hwf : af.WF) :
    SelBase k af (w.db s) (w.nVarsOf s + 1) :=
  ⟨hwf, h.cnfTrue_db, h.db_fresh, fun _ ha => h.argVar_fresh ha⟩

def hitClause (k : EncKind) (L : List Nat) (sel : Nat) : Clause := L.map (argLit k) ++ [nl sel]

theorem clauseTrue_hit (k : EncKind) (ν : Asg) (L : List Nat) (sel : Nat) :
    clauseTrue ν (hitClause k L sel) = true ↔ (∃ p ∈ L, ν (k.argVar p) = true) ∨ ν sel = false := by
  rw [hitClause, clauseTrue_append, clauseTrue_singleton, litTrue_nl, Bool.or_eq_true, Bool.not_eq_true',
    clauseTrue_map]
  simp only [argLit, litTrue_pl]

section selFacts
variable {k : EncKind} {af : AF} {base : Cnf} {sel : Nat} (H : SelBase k af base sel)
include H

theorem SelBase.sound {ν : Asg} (h : cnfTrue ν base = true) : k.Base af (k.S af ν) :=
  k.sound af H.wf ν (H.eqv ν ▸ h)

theorem SelBase.lift {T : ASet} (hT : k.Base af T) (b : Bool) :
    ∃ ν, cnfTrue ν base = true ∧ ν sel = b ∧ k.S af ν = T := by
  obtain ⟨ν, hν, hS⟩ := k.complete af H.wf T hT
  refine ⟨ν.set sel b, ?_, Asg.set_self _ _ _, ?_⟩
  · rw [cnfTrue_set_fresh _ _ _ H.fresh_db, H.eqv]; exact hν
  · rw [k.S_set_fresh af ν _ _ H.fresh_arg, hS]

theorem SelBase.hit_sat {L : List Nat} (hL : ∀ p ∈ L, p < af.n) {m : Model}
    (h : ReplySound (hitClause k L sel :: base) [pl sel] (.sat m)) :
    k.Base af (k.S af (asgOfModel m)) ∧ ∃ p ∈ L, k.S af (asgOfModel m) p = true := by
  obtain ⟨_, hΓ, hA⟩ := h
  have hsel : asgOfModel m sel = true := by rwa [assumpsTrue_singleton, litTrue_pl] at hA
  rw [cnfTrue_cons_iff] at hΓ
  refine ⟨H.sound hΓ.2, ?_⟩
  rcases (clauseTrue_hit _ _ _ _).1 hΓ.1 with ⟨p, hp, hpt⟩ | hf
  · exact ⟨p, hp, by rw [k.S_lt (hL p hp)]; exact hpt⟩
  · rw [hsel] at hf; cases hf

theorem SelBase.hit_unsat {L : List Nat} (hL : ∀ p ∈ L, p < af.n)
    (h : ReplySound (hitClause k L sel :: base) [pl sel] .unsat)
    {T : ASet} (hT : k.Base af T) : ∀ p ∈ L, T p = false := by
  intro p hp
  cases hTp : T p with
  | false => rfl
  | true =>
    exfalso
    obtain ⟨ν, hν, hsel, hS⟩ := H.lift hT true
    refine h ν ⟨(cnfTrue_cons_iff _ _ _).2 ⟨(clauseTrue_hit _ _ _ _).2 (Or.inl ⟨p, hp, ?_⟩), hν⟩,
      by rw [assumpsTrue_singleton, litTrue_pl, hsel]⟩
    rw [← k.S_lt (ν := ν) (hL p hp), hS]; exact hTp

end selFacts

end Crusta
