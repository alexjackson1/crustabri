import Crusta.Proofs.RoundTripAux
import Crusta.Proofs.RxApx

/-!
# The lines seen by the readers contain no line feed

`RxApx` proves that the scanners `matchArg` / `matchAtt` implement the regular expressions of the
Rust source on every line *without line feed* (the `.` of the patterns does not match `\n`, the
scanner accepts any code point there).  That hypothesis holds of every `some l ∈ lines bs`:
`splitRaw` splits at every byte `0x0A`, and a decoded code point `10` can only come from such a byte,
because every multi-byte sequence `decodeUtf8` accepts decodes to a code point `≥ 0x80` (`value_ge`:
it rejects overlong forms as `str::from_utf8` does — lead bytes `C0`/`C1` are invalid, `E0` requires
a second byte `≥ A0`, `F0` a second byte `≥ 90`).
-/

namespace Crusta.IO

theorem splitRaw_go_no_lf (bs cur : List UInt8) (hcur : ∀ b ∈ cur, b ≠ 0x0A) :
    ∀ p ∈ splitRaw.go bs cur, ∀ b ∈ p.1, b ≠ 0x0A := by
  induction bs generalizing cur with
  | nil =>
    intro p hp
    simp only [splitRaw.go] at hp
    split at hp
    · cases hp
    · simp only [List.mem_cons, List.not_mem_nil, or_false] at hp
      subst hp
      intro b hb; exact hcur b (List.mem_reverse.1 hb)
  | cons b0 rest ih =>
    intro p hp
    simp only [splitRaw.go] at hp
    split at hp
    · rcases List.mem_cons.1 hp with rfl | hp
      · intro b hb; exact hcur b (List.mem_reverse.1 hb)
      · exact ih [] (by simp) p hp
    · rename_i hb0
      refine ih (b0 :: cur) ?_ p hp
      intro b hb
      rcases List.mem_cons.1 hb with rfl | hb
      · simpa using hb0
      · exact hcur b hb

theorem splitRaw_no_lf (bs : List UInt8) : ∀ p ∈ splitRaw bs, ∀ b ∈ p.1, b ≠ 0x0A :=
  splitRaw_go_no_lf bs [] (by simp)

theorem bytes_step {pre r : List UInt8} {c0 : Nat} {t : Str}
    (ih : ∀ c ∈ t, (∃ b ∈ r, b.toNat = c ∧ c < 0x80) ∨ 0x80 ≤ c)
    (h0 : (∃ b ∈ pre, b.toNat = c0 ∧ c0 < 0x80) ∨ 0x80 ≤ c0) :
    ∀ c ∈ c0 :: t, (∃ b ∈ pre ++ r, b.toNat = c ∧ c < 0x80) ∨ 0x80 ≤ c := by
  intro c hc
  rcases List.mem_cons.1 hc with rfl | hc
  · exact h0.imp (fun ⟨b, hb, e⟩ => ⟨b, List.mem_append_left _ hb, e⟩) id
  · exact (ih c hc).imp (fun ⟨b, hb, e⟩ => ⟨b, List.mem_append_right _ hb, e⟩) id

/-- a 3- or 4-byte sequence that is not overlong decodes to a code point `≥ 0x80`: `x`, `y` the first
two bytes, `K` the smallest lead, `W`, `V` the weights of the first two fields; past `K` the first
term is at least `W`, after `K` itself the second byte is at least `lo` -/
theorem value_ge {x y K lo W V : Nat} (z : Nat) (hK : K ≤ x) (hlo : x = K → lo ≤ y)
    (hW : 0x80 ≤ W) (hV : 0x80 ≤ (lo - 0x80) * V) : 0x80 ≤ (x - K) * W + (y - 0x80) * V + z := by
  refine Nat.le_trans ?_ (Nat.le_add_right _ z)
  rcases Nat.eq_or_lt_of_le hK with rfl | hlt
  · exact Nat.le_trans hV (Nat.le_trans
      (Nat.mul_le_mul_right V (Nat.sub_le_sub_right (hlo rfl) _)) (Nat.le_add_left _ _))
  · exact Nat.le_trans hW (Nat.le_trans
      (Nat.le_mul_of_pos_left W (Nat.sub_pos_of_lt hlt)) (Nat.le_add_right _ _))

theorem decodeUtf8_bytes (bs : List UInt8) (s : Str) (h : decodeUtf8 bs = some s) :
    ∀ c ∈ s, (∃ b ∈ bs, b.toNat = c ∧ c < 0x80) ∨ 0x80 ≤ c := by
  -- cases 2, 3, 6, 9 of the functional induction are the 1-, 2-, 3-, 4-byte sequences that pass all
  -- tests; every other case returns `none`
  fun_induction decodeUtf8 bs generalizing s
  case case1 => cases h; simp
  case case2 b0 rest hb ih =>
    obtain ⟨t, ht, rfl⟩ := Option.map_eq_some_iff.1 h
    exact bytes_step (pre := [b0]) (ih t ht) (.inl ⟨b0, List.mem_singleton_self _, rfl, UInt8.lt_iff_toNat_lt.1 hb⟩)
  case case3 b0 _ h0 b1 r h1 ih =>
    obtain ⟨t, ht, rfl⟩ := Option.map_eq_some_iff.1 h
    have h0' : 0xC0 + 2 ≤ b0.toNat := ((u8_between 0xC2 0xDF).1 h0).1
    exact bytes_step (pre := [b0, b1]) (ih t ht) (.inr (Nat.le_trans
      (Nat.mul_le_mul_right 64 (Nat.le_sub_of_add_le' h0')) (Nat.le_add_right _ _)))
  case case6 b0 _ _ h0 b1 b2 r ok1 h1 ih =>
    obtain ⟨t, ht, rfl⟩ := Option.map_eq_some_iff.1 h
    have h1' := (second_iff 0xE0 0xED 0xA0 0x9F (by decide) (by decide) (by decide)).1
      (Bool.and_eq_true_iff.1 h1).1
    exact bytes_step (pre := [b0, b1, b2]) (ih t ht) (.inr
      (value_ge _ ((u8_between 0xE0 0xEF).1 h0).1 h1'.2.1 (by decide) (by decide)))
  case case9 b0 _ _ _ h0 b1 b2 b3 r ok1 h1 ih =>
    obtain ⟨t, ht, rfl⟩ := Option.map_eq_some_iff.1 h
    have h1' := (second_iff 0xF0 0xF4 0x90 0x8F (by decide) (by decide) (by decide)).1
      (Bool.and_eq_true_iff.1 (Bool.and_eq_true_iff.1 h1).1).1
    exact bytes_step (pre := [b0, b1, b2, b3]) (ih t ht) (.inr (Nat.le_trans
      (value_ge _ ((u8_between 0xF0 0xF4).1 h0).1 h1'.2.1 (by decide) (by decide)) (Nat.le_add_right _ _)))
  all_goals cases h

/-- the overlong encodings of the line feed (2, 3 and 4 bytes) are invalid UTF-8 for the model, as
for `std::str::from_utf8` -/
theorem overlong_lf_rejected :
    decodeUtf8 [0xC0, 0x8A] = none ∧ decodeUtf8 [0xE0, 0x80, 0x8A] = none ∧
    decodeUtf8 [0xF0, 0x80, 0x80, 0x8A] = none := by decide

theorem decodeUtf8_no_lf (bs : List UInt8) (s : Str) (hbs : ∀ b ∈ bs, b ≠ 0x0A)
    (h : decodeUtf8 bs = some s) : ∀ c ∈ s, c ≠ 10 := by
  intro c hc e
  rcases decodeUtf8_bytes bs s h c hc with ⟨b, hb, hbc, _⟩ | h2
  · exact hbs b hb (UInt8.toNat_inj.1 (by rw [hbc, e]; rfl))
  · omega

theorem stripCr_subset (p : List UInt8 × Bool) : ∀ b ∈ stripCr p, b ∈ p.1 := by
  intro b hb
  unfold stripCr at hb
  split at hb
  · split at hb
    · exact (List.dropLast_sublist _).subset hb
    · exact hb
  · exact hb

theorem stripCr_no_lf (bs : List UInt8) : ∀ p ∈ splitRaw bs, ∀ b ∈ stripCr p, b ≠ 0x0A :=
  fun p hp b hb => splitRaw_no_lf bs p hp b (stripCr_subset p b hb)

theorem lines_no_lf (bs : List UInt8) : ∀ l, some l ∈ lines bs → ∀ c ∈ l, c ≠ 10 := by
  intro l hl
  obtain ⟨p, hp, e⟩ := List.mem_map.1 hl
  exact decodeUtf8_no_lf _ l (stripCr_no_lf bs p hp) e

/-- non-vacuity: two lines, the second without terminator; the `\r` of `\r\n` is removed -/
theorem lines_example :
    lines [97, 40, 41, 46, 13, 10, 98, 46] = [some [97, 40, 41, 46], some [98, 46]] := by
  decide

end Crusta.IO

namespace Crusta.RxApx
open Crusta.IO Crusta.Rx

theorem reader_matchArg_iff (bs : List UInt8) (l : Str) (hl : some l ∈ IO.lines bs) (lab : Str) :
    matchArg l = some lab ↔ ∃ g, MatchesG Gen.argLineName l [g] ∧ lab = trimWs g :=
  matchArg_iff l lab (lines_no_lf bs l hl)

theorem reader_matchAtt_iff (bs : List UInt8) (l : Str) (hl : some l ∈ IO.lines bs) (a b : Str) :
    matchAtt l = some (a, b) ↔
      ∃ g1 g2, MatchesG Gen.attLineNames l [g1, g2] ∧ a = trimWs g1 ∧ b = trimWs g2 :=
  matchAtt_iff l a b (lines_no_lf bs l hl)

theorem reader_matchArg_eq_none_iff (bs : List UInt8) (l : Str) (hl : some l ∈ IO.lines bs) :
    matchArg l = none ↔ ¬ Matches Gen.argLineName l :=
  matchArg_eq_none_iff l (lines_no_lf bs l hl)

theorem reader_matchAtt_eq_none_iff (bs : List UInt8) (l : Str) (hl : some l ∈ IO.lines bs) :
    matchAtt l = none ↔ ¬ Matches Gen.attLineNames l :=
  matchAtt_eq_none_iff l (lines_no_lf bs l hl)

/-- **`RxApx.apx_line_classification` for every (valid UTF-8) line of every input**, in any state
of the reader -/
theorem apx_reader_lines_classified (bs : List UInt8) :
    ∀ l, some l ∈ IO.lines bs → ∀ st : ApxSt,
    ExactlyOne [
      l.all isWs = true,
      Matches Gen.argLineName l,
      Matches Gen.attLineNames l,
      (Matches Gen.argLine l ∧ ¬ Matches Gen.argLineName l) ∨
        (Matches Gen.attLine l ∧ ¬ Matches Gen.attLineNames l),
      l.all isWs = false ∧ ¬ Matches Gen.argLine l ∧ ¬ Matches Gen.attLine l ] ∧
    (l.all isWs = true → apxLine st (some l) = .ok st) ∧
    (Matches Gen.argLineName l →
      ∃ g, MatchesG Gen.argLineName l [g] ∧ l.all isWs = false ∧ matchArg l = some (trimWs g)) ∧
    (Matches Gen.attLineNames l →
      ∃ g1 g2, MatchesG Gen.attLineNames l [g1, g2] ∧ l.all isWs = false ∧ matchArg l = none ∧
        matchAtt l = some (trimWs g1, trimWs g2)) ∧
    ((Matches Gen.argLine l ∧ ¬ Matches Gen.argLineName l) ∨
        (Matches Gen.attLine l ∧ ¬ Matches Gen.attLineNames l) →
      l.all isWs = false ∧ matchArg l = none ∧ matchAtt l = none ∧
        apxLine st (some l) = .error "syntax error") ∧
    (l.all isWs = false ∧ ¬ Matches Gen.argLine l ∧ ¬ Matches Gen.attLine l →
      matchArg l = none ∧ matchAtt l = none ∧ apxLine st (some l) = .error "syntax error") :=
  fun l hl st => apx_line_classification l (lines_no_lf bs l hl) st

end Crusta.RxApx
