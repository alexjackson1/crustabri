import Crusta.Proofs.StoreBasics

/-!
# Store proofs: the operations, one by one, and the reachable states

For each operation of the store: what a call does on a consistent store — it is rejected (the state is
as it was), changes nothing, or makes one of the four explicit updates `pushArg`, `pushAtt`,
`dropAtt`, `dropArg` —, what the update does to the observables, and that it keeps the invariant.
`step_by` collects this for `Store.step`, and what the four updates preserve holds of every state that
`runOps` reaches from the empty store (`reachable_ind`).
-/

namespace Crusta
namespace Store

theorem newArgument_existing {s : Store} (hinv : s.Inv) {l i : Nat} (h : s.Live i l) :
    s.newArgument l = s := by
  unfold newArgument newLabel
  rw [(lookup_eq_some hinv).2 h]
  simp

def pushArg (s : Store) (l : Nat) : Store :=
  { s with labels := s.labels ++ [some l], l2i := s.l2i ++ [(l, s.labels.length)],
           from_ := s.from_ ++ [[]], to_ := s.to_ ++ [[]] }

theorem length_labels_pushArg (s : Store) (l : Nat) : (s.pushArg l).labels.length = s.labels.length + 1 :=
  List.length_append

theorem maxId_pushArg (s : Store) (l : Nat) : (s.pushArg l).maxId = some s.labels.length := by
  unfold maxId
  rw [if_neg (by rw [List.isEmpty_iff]; exact List.append_ne_nil_of_right_ne_nil _ (List.cons_ne_nil _ _)),
    length_labels_pushArg]
  rfl

/-- what `new_argument` tests before it pushes the rows -/
theorem len_pushArg {s : Store} (hinv : s.Inv) (l : Nat) : (s.pushArg l).len > s.len :=
  Nat.sub_lt_sub_right (hinv.cnt_lab ▸ countNone_le _) ((length_labels_pushArg s l).symm ▸ Nat.lt_succ_self _)

theorem newArgument_fresh {s : Store} (hinv : s.Inv) {l : Nat} (h : ∀ i, ¬ s.Live i l) :
    s.newArgument l = s.pushArg l := by
  unfold newArgument newLabel
  rw [(lookup_eq_none hinv).2 h]
  exact if_pos (len_pushArg hinv l)

theorem labelOf_pushArg (s : Store) (l i : Nat) :
    (s.pushArg l).labelOf i = if i = s.labels.length then some l else s.labelOf i :=
  getD_push _ _ _ _

theorem live_pushArg {s : Store} {l i l' : Nat} :
    (s.pushArg l).Live i l' ↔ (s.Live i l' ∨ (i = s.labels.length ∧ l' = l)) :=
  getD_push_eq_some

theorem inv_pushArg {s : Store} (hinv : s.Inv) {l : Nat} (h : ∀ i, ¬ s.Live i l) : (s.pushArg l).Inv := by
  have hc := hinv.core
  have hmap : ∀ l' i, (l', i) ∈ (s.pushArg l).l2i ↔ (s.pushArg l).Live i l' := fun l' i =>
    (List.mem_append.trans (or_congr ⟨hc.l2i_sound _ _, hc.l2i_complete _ _⟩
      (List.mem_singleton.trans (Prod.ext_iff.trans and_comm)))).trans live_pushArg.symm
  refine Core.inv ⟨?_, ?_, fun l' i => (hmap l' i).1, fun l' i => (hmap l' i).2, ?_, ?_,
    hc.idx_from.congr (fun _ => rfl) (row_pushArg s.from_), hc.idx_to.congr (fun _ => rfl) (row_pushArg s.to_),
    hc.cnt_att, hc.cnt_lab.trans (countNone_push _ _).symm⟩ hinv.att_nodup
  · exact List.length_append.trans (hc.rows_from ▸ (List.length_append (bs := [some l])).symm)
  · exact List.length_append.trans (hc.rows_to ▸ (List.length_append (bs := [some l])).symm)
  · intro i j l' hi hj
    rw [live_pushArg] at hi hj
    rcases hi with hi | ⟨rfl, rfl⟩ <;> rcases hj with hj | ⟨rfl, hj'⟩
    · exact hc.label_inj _ _ _ hi hj
    · subst hj'; exact absurd hi (h i)
    · exact absurd hj (h j)
    · rfl
  · intro i a b hab
    obtain ⟨ha, hb⟩ := hc.ends_live i a b hab
    rw [hasId_iff] at ha hb ⊢
    rw [hasId_iff]
    exact ⟨ha.imp fun _ h => live_pushArg.2 (Or.inl h), hb.imp fun _ h => live_pushArg.2 (Or.inl h)⟩

theorem inv_newArgument {s : Store} (hinv : s.Inv) (l : Nat) : (s.newArgument l).Inv := by
  by_cases h : ∃ i, s.Live i l
  · obtain ⟨i, hi⟩ := h
    rw [newArgument_existing hinv hi]; exact hinv
  · have h' : ∀ i, ¬ s.Live i l := fun i hi => h ⟨i, hi⟩
    rw [newArgument_fresh hinv h']; exact inv_pushArg hinv h'

/-- nothing is assumed of `a`, `b`: `new_attack_by_ids` does this for attacks that may be there already -/
def pushAtt (s : Store) (a b : Nat) : Store :=
  { s with attacks := s.attacks ++ [some (a, b)],
           from_ := s.from_.set a (row s.from_ a ++ [s.attacks.length]),
           to_ := s.to_.set b (row s.to_ b ++ [s.attacks.length]) }

theorem att_pushAtt (s : Store) (a b i : Nat) :
    (s.pushAtt a b).att i = if i = s.attacks.length then some (a, b) else s.att i :=
  getD_push _ _ _ _

theorem att_pushAtt_eq_some {s : Store} {a b i : Nat} {p : Nat × Nat} :
    (s.pushAtt a b).att i = some p ↔ s.att i = some p ∨ (i = s.attacks.length ∧ p = (a, b)) :=
  getD_push_eq_some

theorem newAttackByIds_ok {s s' : Store} {a b : Nat} (h : s.newAttackByIds a b = .ok s') : s' = s.pushAtt a b := by
  unfold newAttackByIds at h
  split at h
  · cases h
  · split at h
    · cases h
    · exact (StoreRes.ok.inj h).symm

theorem newAttackByIds_eq {s : Store} {a b : Nat} (ha : a < s.len) (hb : b < s.len) (ha' : a < s.from_.length)
    (hb' : b < s.to_.length) : s.newAttackByIds a b = .ok (s.pushAtt a b) := by
  unfold newAttackByIds
  rw [or_ge_false ha hb, or_ge_false ha' hb']
  rfl

/-- the bound check that `new_attack` and `remove_attack` make on the attacker's row never fires -/
theorem Core.from_bound {s : Store} (hc : s.Core) (a : Nat) :
    (row s.from_ a).any (fun i => decide (i ≥ s.attacks.length)) = false :=
  any_ge_false (hc.idx_from.lt a)

/-- the duplicate test of `new_attack` and the search of `remove_attack` scan the attacker's row only -/
theorem Inv.any_from {s : Store} (hinv : s.Inv) (a b : Nat) :
    (row s.from_ a).any (fun i => s.att i == some (a, b)) = true ↔ s.HasAtt a b := by
  simp only [List.any_eq_true, beq_iff_eq]
  exact ⟨fun h => h.elim fun i hi => ⟨i, hi.2⟩, fun h => h.elim fun i hi => ⟨i, hinv.in_from i a b hi, hi⟩⟩

/-- `new_attack` and `remove_attack` begin with the same two look-ups: an unknown label on either side
makes the call return its `Err` (`x`), whatever it would go on to do (`f`) -/
theorem getArg_none_of {s : Store} (hinv : s.Inv) {la lb : Nat} {α : Type} (x : α) (f : Nat → Nat → α)
    (h : (∀ a, ¬ s.Live a la) ∨ (∀ b, ¬ s.Live b lb)) :
    (match s.getArg la with
      | none => x
      | some ai => match s.getArg lb with
        | none => x
        | some bi => f ai bi) = x := by
  rcases h with h | h
  · rw [(getArg_eq_none hinv).2 h]
  · rw [(getArg_eq_none hinv).2 h]; split <;> rfl

theorem newAttack_spec {s : Store} (hinv : s.Inv) (la lb : Nat) :
    (∀ a b, s.Live a la → s.Live b lb →
      (s.HasAtt a b → s.newAttack la lb = .ok s) ∧
      (¬ s.HasAtt a b → s.newAttack la lb = .ok (s.pushAtt a b))) ∧
    ((∀ a, ¬ s.Live a la) ∨ (∀ b, ¬ s.Live b lb) → s.newAttack la lb = .err s) := by
  refine ⟨fun a b ha hb => ?_, getArg_none_of hinv _ _⟩
  have e : s.newAttack la lb =
      if (row s.from_ a).any (fun i => s.att i == some (a, b)) then .ok s else .ok (s.pushAtt a b) := by
    unfold newAttack
    simp only [(getArg_eq_some hinv).2 ha, (getArg_eq_some hinv).2 hb]
    rw [if_neg (Nat.not_le.2 (hinv.core.from_lt ha)), hinv.core.from_bound,
      if_neg (Nat.not_le.2 (hinv.core.to_lt hb))]
    rfl
  rw [e]
  exact ⟨fun hh => if_pos ((hinv.any_from a b).2 hh), fun hh => if_neg (mt (hinv.any_from a b).1 hh)⟩

theorem hasAtt_pushAtt {s : Store} (a b c d : Nat) :
    (s.pushAtt a b).HasAtt c d ↔ (s.HasAtt c d ∨ (c = a ∧ d = b)) := by
  unfold HasAtt
  constructor
  · rintro ⟨i, hi⟩
    exact (att_pushAtt_eq_some.1 hi).imp (fun h => ⟨i, h⟩) fun h => Prod.mk.inj h.2
  · rintro (⟨i, hi⟩ | ⟨rfl, rfl⟩)
    · exact ⟨i, att_pushAtt_eq_some.2 (Or.inl hi)⟩
    · exact ⟨_, att_pushAtt_eq_some.2 (Or.inr ⟨rfl, rfl⟩)⟩

theorem core_pushAtt {s : Store} (hc : s.Core) {a b la lb : Nat} (ha : s.Live a la) (hb : s.Live b lb) :
    (s.pushAtt a b).Core := by
  refine ⟨(List.length_set ..).trans hc.rows_from, (List.length_set ..).trans hc.rows_to, hc.l2i_sound,
    hc.l2i_complete, hc.label_inj, ?_,
    hc.idx_from.push (p := (a, b)) List.length_append (fun _ _ => att_pushAtt_eq_some)
      (mem_row_push s.from_ (hc.from_lt ha) _),
    hc.idx_to.push (p := (a, b)) List.length_append (fun _ _ => att_pushAtt_eq_some)
      (mem_row_push s.to_ (hc.to_lt hb) _),
    hc.cnt_att.trans (countNone_push _ _).symm, hc.cnt_lab⟩
  intro i c d hcd
  rcases att_pushAtt_eq_some.1 hcd with h | ⟨_, e⟩
  · exact hc.ends_live i c d h
  · cases e; exact ⟨hasId_iff.2 ⟨la, ha⟩, hasId_iff.2 ⟨lb, hb⟩⟩

theorem inv_pushAtt {s : Store} (hinv : s.Inv) {a b la lb : Nat} (ha : s.Live a la) (hb : s.Live b lb)
    (hnew : ¬ s.HasAtt a b) : (s.pushAtt a b).Inv := by
  refine (core_pushAtt hinv.core ha hb).inv fun i j c d hi hj => ?_
  rcases att_pushAtt_eq_some.1 hi with hi | ⟨rfl, ei⟩ <;> rcases att_pushAtt_eq_some.1 hj with hj | ⟨rfl, ej⟩
  · exact hinv.att_nodup i j c d hi hj
  · cases ej; exact absurd ⟨i, hi⟩ hnew
  · cases ei; exact absurd ⟨j, hj⟩ hnew
  · rfl

/-- `swap_remove` is `remove` up to the order of the row -/
theorem swapRemove_perm {l : List Nat} {pos : Nat} (h : pos < l.length) :
    (swapRemove l pos).Perm (l.eraseIdx pos) := by
  rcases List.eq_nil_or_concat l with rfl | ⟨init, last, rfl⟩
  · cases h
  · rw [List.concat_eq_append] at h ⊢
    rw [List.length_append] at h
    unfold swapRemove
    rw [List.getLast?_concat]
    exact set_dropLast_perm init last (Nat.le_of_lt_succ h)

theorem mem_swapRemove_sub {l : List Nat} {pos x : Nat} (hpos : pos < l.length) (h : x ∈ swapRemove l pos) :
    x ∈ l :=
  (List.eraseIdx_sublist l pos).subset ((swapRemove_perm hpos).subset h)

theorem mem_swapRemove_of_ne {l : List Nat} {pos x : Nat} (hpos : pos < l.length)
    (hx : x ∈ l) (hne : x ≠ l.getD pos 0) : x ∈ swapRemove l pos := by
  refine (swapRemove_perm hpos).symm.subset (List.mem_eraseIdx_iff_getElem.2 ?_)
  obtain ⟨i, hi, rfl⟩ := List.mem_iff_getElem.1 hx
  refine ⟨i, hi, fun e => hne ?_, rfl⟩
  subst e
  rw [List.getD_eq_getElem?_getD, List.getElem?_eq_getElem hi]; rfl

/-- state after removing the attack stored at index `k` between ids `a` and `b` -/
def dropAtt (s : Store) (a b k posFrom posTo : Nat) : Store :=
  { s with attacks := s.attacks.set k none,
           to_ := s.to_.set b (swapRemove (row s.to_ b) posTo),
           from_ := s.from_.set a (swapRemove (row s.from_ a) posFrom),
           nRemovedAtt := s.nRemovedAtt + 1 }

theorem att_dropAtt (s : Store) (a b k pf pt i : Nat) :
    (s.dropAtt a b k pf pt).att i = if i = k then none else s.att i :=
  getD_set_none _ _ _

theorem att_dropAtt_eq_some {s : Store} {a b k pf pt i : Nat} {p : Nat × Nat} :
    (s.dropAtt a b k pf pt).att i = some p ↔ s.att i = some p ∧ i ≠ k :=
  getD_set_none_eq_some

theorem findPos_spec {l : List Nat} {p : Nat → Bool} {pos : Nat} (h : findPos l p = some pos) :
    pos < l.length ∧ p (l.getD pos 0) = true := by
  unfold findPos at h
  obtain ⟨hlt, hp, _⟩ := List.findIdx?_eq_some_iff_getElem.1 h
  rw [List.getD_eq_getElem?_getD, List.getElem?_eq_getElem hlt]
  exact ⟨hlt, hp⟩

theorem findPos_none {l : List Nat} {p : Nat → Bool} (h : findPos l p = none) {x : Nat} (hx : x ∈ l)
    (hp : p x = true) : False :=
  Bool.eq_false_iff.1 (List.findIdx?_eq_none_iff.1 h x hx) hp

theorem getD_mem {l : List Nat} {pos : Nat} (h : pos < l.length) : l.getD pos 0 ∈ l :=
  Crusta.getD_mem 0 h

theorem removeAttack_spec {s : Store} (hinv : s.Inv) (la lb : Nat) :
    (∀ a b, s.Live a la → s.Live b lb →
      (∀ k, s.att k = some (a, b) → ∃ pf pt, s.removeAttack la lb = .ok (s.dropAtt a b k pf pt) ∧
          pf < (row s.from_ a).length ∧ (row s.from_ a).getD pf 0 = k ∧
          pt < (row s.to_ b).length ∧ (row s.to_ b).getD pt 0 = k) ∧
      (¬ s.HasAtt a b → s.removeAttack la lb = .err s)) ∧
    ((∀ a, ¬ s.Live a la) ∨ (∀ b, ¬ s.Live b lb) → s.removeAttack la lb = .err s) := by
  refine ⟨fun a b ha hb => ?_, getArg_none_of hinv _ _⟩
  generalize hR : s.removeAttack la lb = R
  unfold removeAttack at hR
  simp only [(getArg_eq_some hinv).2 ha, (getArg_eq_some hinv).2 hb] at hR
  rw [if_neg (Nat.not_le.2 (hinv.core.from_lt ha)), hinv.core.from_bound] at hR
  simp only [Bool.false_eq_true, if_false, if_neg (Nat.not_le.2 (hinv.core.to_lt hb))] at hR
  cases hf : findPos (row s.from_ a) (fun i => s.att i == some (a, b)) with
  | none =>
    rw [hf] at hR
    have hno : ¬ s.HasAtt a b := fun h => h.elim fun k hk => findPos_none hf (hinv.in_from k a b hk) (beq_of_eq hk)
    exact ⟨fun k hk => absurd ⟨k, hk⟩ hno, fun _ => hR.symm⟩
  | some pf =>
    rw [hf] at hR
    obtain ⟨hpf, hpp⟩ := findPos_spec hf
    have hpp := eq_of_beq hpp
    refine ⟨fun k hk => ?_, fun hno => absurd ⟨_, hpp⟩ hno⟩
    -- the attack found in the row is the only one between `a` and `b`
    obtain rfl := hinv.att_nodup _ _ a b hpp hk
    cases ht : findPos (row s.to_ b) (fun i => i == (row s.from_ a).getD pf 0) with
    | none => exact (findPos_none ht (hinv.in_to _ a b hk) (beq_self_eq_true _)).elim
    | some pt =>
      simp only [ht] at hR
      obtain ⟨hpt, hptp⟩ := findPos_spec ht
      exact ⟨pf, pt, hR.symm, hpf, rfl, hpt, eq_of_beq hptp⟩

theorem hasAtt_dropAtt {s : Store} (hinv : s.Inv) {a b k pf pt : Nat} (hk : s.att k = some (a, b)) (c d : Nat) :
    (s.dropAtt a b k pf pt).HasAtt c d ↔ (s.HasAtt c d ∧ ¬ (c = a ∧ d = b)) := by
  unfold HasAtt
  constructor
  · rintro ⟨i, hi⟩
    obtain ⟨h0, hne⟩ := att_dropAtt_eq_some.1 hi
    refine ⟨⟨i, h0⟩, ?_⟩
    rintro ⟨rfl, rfl⟩
    exact hne (hinv.att_nodup i k c d h0 hk)
  · rintro ⟨⟨i, hi⟩, hne⟩
    refine ⟨i, att_dropAtt_eq_some.2 ⟨hi, ?_⟩⟩
    rintro rfl
    cases hk.symm.trans hi
    exact hne ⟨rfl, rfl⟩

theorem Indexes.swapRemove {att att' : Nat → Option (Nat × Nat)} {n : Nat} {π : Nat × Nat → Nat}
    {r : List (List Nat)} (h : Indexes att n π (row r)) {c₀ k pos : Nat} (hc : c₀ < r.length)
    (hpos : pos < (row r c₀).length) (hk : (row r c₀).getD pos 0 = k) {n' : Nat} (hn : n' = n)
    (hatt : ∀ i p, att' i = some p → att i = some p ∧ i ≠ k) :
    Indexes att' n' π (row (r.set c₀ (swapRemove (row r c₀) pos))) := by
  subst hn
  refine h.shrink (fun i p hp => (hatt i p hp).1) (fun c i hi => ?_) (fun i p hp hm => ?_)
  · rw [row_set r _ hc] at hi
    split at hi
    · next e => exact e ▸ mem_swapRemove_sub hpos (e ▸ hi)
    · exact hi
  · rw [row_set r _ hc]
    split
    · next e => exact mem_swapRemove_of_ne hpos (e ▸ hm) (hk ▸ (hatt i p hp).2)
    · exact hm

theorem inv_dropAtt {s : Store} (hinv : s.Inv) {a b k pf pt la lb : Nat} (ha : s.Live a la) (hb : s.Live b lb)
    (hk : s.att k = some (a, b)) (hpf : pf < (row s.from_ a).length) (hpfk : (row s.from_ a).getD pf 0 = k)
    (hpt : pt < (row s.to_ b).length) (hptk : (row s.to_ b).getD pt 0 = k) : (s.dropAtt a b k pf pt).Inv := by
  have hc := hinv.core
  refine Core.inv ⟨(List.length_set ..).trans hc.rows_from, (List.length_set ..).trans hc.rows_to, hc.l2i_sound,
    hc.l2i_complete, hc.label_inj, fun i c d hcd => hc.ends_live i c d (att_dropAtt_eq_some.1 hcd).1,
    hc.idx_from.swapRemove (hc.from_lt ha) hpf hpfk (List.length_set ..) fun _ _ => att_dropAtt_eq_some.1,
    hc.idx_to.swapRemove (hc.to_lt hb) hpt hptk (List.length_set ..) fun _ _ => att_dropAtt_eq_some.1,
    ?_, hc.cnt_lab⟩ fun i j c d hi hj =>
      hinv.att_nodup i j c d (att_dropAtt_eq_some.1 hi).1 (att_dropAtt_eq_some.1 hj).1
  show s.nRemovedAtt + 1 = countNone (s.attacks.set k none)
  rw [countNone_set_none s.attacks k (a, b) hk, hc.cnt_att]

theorem killAttacks_spec : ∀ (idxs : List Nat) (attacks : List (Option (Nat × Nat))) (cnt : Nat),
    (killAttacks attacks cnt idxs).1.length = attacks.length ∧
    (∀ j p, (killAttacks attacks cnt idxs).1.getD j none = some p ↔ attacks.getD j none = some p ∧ j ∉ idxs) ∧
    (killAttacks attacks cnt idxs).2 + countNone attacks = cnt + countNone (killAttacks attacks cnt idxs).1 := by
  intro idxs
  induction idxs with
  | nil => exact fun _ _ => ⟨rfl, fun _ _ => ⟨fun h => ⟨h, List.not_mem_nil⟩, And.left⟩, rfl⟩
  | cons i is ih =>
    intro attacks cnt
    unfold killAttacks
    by_cases hsome : (attacks.getD i none).isSome
    · rw [if_pos hsome]
      obtain ⟨h1, h2, h3⟩ := ih (attacks.set i none) (cnt + 1)
      obtain ⟨x, hx⟩ := Option.isSome_iff_exists.1 hsome
      refine ⟨h1.trans (List.length_set ..), fun j p => ?_, ?_⟩
      · rw [h2, getD_set_none_eq_some, List.mem_cons, not_or, and_assoc]
      · rw [countNone_set_none attacks i x hx] at h3; omega
    · rw [if_neg hsome]
      obtain ⟨h1, h2, h3⟩ := ih attacks cnt
      refine ⟨h1, fun j p => ?_, h3⟩
      rw [h2, List.mem_cons, not_or]
      -- a slot that was not live holds no `p`
      refine and_congr_right fun hA => (and_iff_right ?_).symm
      rintro rfl
      rw [hA] at hsome
      exact hsome rfl

/-- state after removing the live argument `id` (label `l`) -/
def dropArg (s : Store) (l id : Nat) : Store :=
  let idxs := row s.from_ id ++ row s.to_ id
  let r := killAttacks s.attacks s.nRemovedAtt idxs
  { s with labels := s.labels.set id none,
           l2i := s.l2i.filter (fun p => !(p.1 == l)),
           nRemoved := s.nRemoved + 1,
           attacks := r.1, nRemovedAtt := r.2,
           from_ := s.from_.set id [], to_ := s.to_.set id [] }

theorem removeArgument_spec {s : Store} (hinv : s.Inv) (l : Nat) :
    (∀ id, s.Live id l → s.removeArgument l = .ok (s.dropArg l id)) ∧
    ((∀ id, ¬ s.Live id l) → s.removeArgument l = .err s) := by
  constructor
  · intro id hl
    have hc := hinv.core
    have h4 : (row s.from_ id ++ row s.to_ id).any (fun i => decide (i ≥ s.attacks.length)) = false :=
      any_ge_false fun i hi => (List.mem_append.1 hi).elim (hc.idx_from.lt id i) (hc.idx_to.lt id i)
    unfold removeArgument
    rw [(lookup_eq_some hinv).2 hl]
    simp only [hasId_iff.2 ⟨l, hl⟩, Bool.not_true, Bool.false_eq_true, if_false]
    rw [if_neg (Bool.eq_false_iff.1 (or_ge_false (hc.from_lt hl) (hc.to_lt hl))), h4]
    rfl
  · intro h
    unfold removeArgument
    rw [(lookup_eq_none hinv).2 h]

theorem length_labels_dropArg (s : Store) (l id : Nat) : (s.dropArg l id).labels.length = s.labels.length :=
  List.length_set ..

theorem labelOf_dropArg (s : Store) (l id i : Nat) :
    (s.dropArg l id).labelOf i = if i = id then none else s.labelOf i :=
  getD_set_none _ _ _

theorem live_dropArg {s : Store} {l id i l' : Nat} :
    (s.dropArg l id).Live i l' ↔ (s.Live i l' ∧ i ≠ id) := by
  unfold Live
  rw [labelOf_dropArg]
  by_cases e : i = id <;> simp [e]

/-- the two rows of the removed argument list exactly the live attacks that touch it -/
theorem Core.att_dropArg {s : Store} (hc : s.Core) (l id i : Nat) (p : Nat × Nat) :
    (s.dropArg l id).att i = some p ↔ (s.att i = some p ∧ p.1 ≠ id ∧ p.2 ≠ id) := by
  refine ((killAttacks_spec _ s.attacks s.nRemovedAtt).2.1 i p).trans (and_congr_right fun h => ?_)
  rw [List.mem_append, not_or]
  exact ⟨fun hn => ⟨fun e => hn.1 (e ▸ hc.idx_from.mem i p h), fun e => hn.2 (e ▸ hc.idx_to.mem i p h)⟩,
    fun hn => ⟨fun hm => hn.1 (hc.idx_from.own id i p hm h), fun hm => hn.2 (hc.idx_to.own id i p hm h)⟩⟩

theorem Core.att_dropArg_none {s : Store} (hc : s.Core) (l id : Nat) {i : Nat} (h : s.att i = none) :
    (s.dropArg l id).att i = none := by
  cases hh : (s.dropArg l id).att i with
  | none => rfl
  | some p => have := ((hc.att_dropArg l id i p).1 hh).1; rw [h] at this; cases this

theorem Indexes.clearRow {att att' : Nat → Option (Nat × Nat)} {n : Nat} {π : Nat × Nat → Nat}
    {r : List (List Nat)} (h : Indexes att n π (row r)) (id : Nat) {n' : Nat} (hn : n' = n)
    (hatt : ∀ i p, att' i = some p → att i = some p ∧ π p ≠ id) : Indexes att' n' π (row (r.set id [])) := by
  subst hn
  refine h.shrink (fun i p hp => (hatt i p hp).1) (fun c i hi => ?_) (fun i p hp hm => ?_)
  · rcases row_set_cases r id c [] with e | e <;> rw [e] at hi
    · cases hi
    · exact hi
  · rw [row_set_ne r id _ [] (hatt i p hp).2.symm]; exact hm

theorem inv_dropArg {s : Store} (hinv : s.Inv) {l id : Nat} (hl : s.Live id l) : (s.dropArg l id).Inv := by
  have hc := hinv.core
  have hspec := killAttacks_spec (row s.from_ id ++ row s.to_ id) s.attacks s.nRemovedAtt
  have hatt := fun i p => (hc.att_dropArg l id i p).1
  refine Core.inv ⟨?_, ?_, ?_, ?_, ?_, ?_, ?_, ?_, ?_, ?_⟩ fun i j a b hi hj =>
    hinv.att_nodup i j a b (hatt i _ hi).1 (hatt j _ hj).1
  · exact (List.length_set ..).trans (hc.rows_from.trans (List.length_set ..).symm)
  · exact (List.length_set ..).trans (hc.rows_to.trans (List.length_set ..).symm)
  · intro l' i hm
    obtain ⟨hm1, hm2⟩ := List.mem_filter.1 hm
    have hne : l' ≠ l := bne_iff_ne.1 hm2
    have hli := hc.l2i_sound _ _ hm1
    refine live_dropArg.2 ⟨hli, ?_⟩
    rintro rfl
    exact hne (Option.some.inj (hli.symm.trans hl))
  · intro l' i hli
    rw [live_dropArg] at hli
    refine List.mem_filter.2 ⟨hc.l2i_complete _ _ hli.1, bne_iff_ne.2 ?_⟩
    rintro rfl
    exact hli.2 (hc.label_inj _ _ _ hli.1 hl)
  · intro i j l' hi hj
    exact hc.label_inj _ _ _ (live_dropArg.1 hi).1 (live_dropArg.1 hj).1
  · intro i a b hab
    obtain ⟨h0, h1, h2⟩ := hatt i (a, b) hab
    obtain ⟨ha, hb⟩ := hc.ends_live i a b h0
    rw [hasId_iff] at ha hb ⊢
    rw [hasId_iff]
    exact ⟨ha.imp fun _ h => live_dropArg.2 ⟨h, h1⟩, hb.imp fun _ h => live_dropArg.2 ⟨h, h2⟩⟩
  · exact hc.idx_from.clearRow id hspec.1 fun i p hp => ⟨(hatt i p hp).1, (hatt i p hp).2.1⟩
  · exact hc.idx_to.clearRow id hspec.1 fun i p hp => ⟨(hatt i p hp).1, (hatt i p hp).2.2⟩
  · have h3 := hspec.2.2
    rw [Nat.add_comm] at h3
    exact Nat.add_left_cancel (h3.trans (congrArg (· + _) hc.cnt_att))
  · show s.nRemoved + 1 = countNone (s.labels.set id none)
    rw [countNone_set_none s.labels id l hl, hc.cnt_lab]

/-- the four explicit updates, each with the operation that performs it and its side conditions -/
inductive UpdBy (s : Store) : StoreOp → Store → Prop
  | pushArg {l : Nat} (h : ∀ i, ¬ s.Live i l) : UpdBy s (.newArg l) (s.pushArg l)
  | pushAtt {a b la lb : Nat} (ha : s.Live a la) (hb : s.Live b lb) (hnew : ¬ s.HasAtt a b) :
      UpdBy s (.newAtt la lb) (s.pushAtt a b)
  | dropAtt {a b k pf pt la lb : Nat} (ha : s.Live a la) (hb : s.Live b lb) (hk : s.att k = some (a, b))
      (hpf : pf < (row s.from_ a).length) (hpfk : (row s.from_ a).getD pf 0 = k)
      (hpt : pt < (row s.to_ b).length) (hptk : (row s.to_ b).getD pt 0 = k) :
      UpdBy s (.remAtt la lb) (s.dropAtt a b k pf pt)
  | dropArg {l id : Nat} (hl : s.Live id l) : UpdBy s (.remArg l) (s.dropArg l id)

def Upd (s s' : Store) : Prop := ∃ op, UpdBy s op s'

theorem Upd.inv {s s' : Store} (hinv : s.Inv) (h : Upd s s') : s'.Inv := by
  obtain ⟨_, h⟩ := h
  cases h with
  | pushArg h => exact inv_pushArg hinv h
  | pushAtt ha hb hnew => exact inv_pushAtt hinv ha hb hnew
  | dropAtt ha hb hk hpf hpfk hpt hptk => exact inv_dropAtt hinv ha hb hk hpf hpfk hpt hptk
  | dropArg hl => exact inv_dropArg hinv hl

theorem UpdBy.ne {s s' : Store} {op : StoreOp} (h : UpdBy s op s') : s' ≠ s := by
  cases h with
  | @pushArg l _ =>
    intro heq
    have : (s.labels ++ [some l]).length = s.labels.length := congrArg (·.labels.length) heq
    rw [List.length_append] at this
    exact Nat.succ_ne_self _ this
  | @pushAtt a b _ _ _ _ _ =>
    intro heq
    have : (s.attacks ++ [some (a, b)]).length = s.attacks.length := congrArg (·.attacks.length) heq
    rw [List.length_append] at this
    exact Nat.succ_ne_self _ this
  | @dropAtt a b k pf pt _ _ _ _ hk _ _ _ _ =>
    intro heq
    have h5 : (s.dropAtt a b k pf pt).att k = some (a, b) := by rw [heq]; exact hk
    rw [att_dropAtt, if_pos rfl] at h5
    cases h5
  | @dropArg l id hl =>
    intro heq
    have h1 : (s.dropArg l id).labelOf id = some l := by rw [heq]; exact hl
    rw [labelOf_dropArg, if_pos rfl] at h1
    cases h1

theorem not_live_or {s : Store} {la lb : Nat} (h : ¬((∃ a, s.Live a la) ∧ ∃ b, s.Live b lb)) :
    (∀ a, ¬ s.Live a la) ∨ (∀ b, ¬ s.Live b lb) :=
  (Classical.not_and_iff_not_or_not.1 h).imp (fun h a ha => h ⟨a, ha⟩) (fun h b hb => h ⟨b, hb⟩)

theorem step_by {s : Store} (hinv : s.Inv) (op : StoreOp) :
    s.step op = .err s ∨
    (s.step op = .ok s ∧ ((∃ l, op = .newArg l) ∨ ∃ la lb, op = .newAtt la lb)) ∨
    ∃ s', s.step op = .ok s' ∧ UpdBy s op s' := by
  cases op with
  | newArg l =>
    right
    by_cases h : ∃ i, s.Live i l
    · obtain ⟨i, hi⟩ := h
      exact Or.inl ⟨congrArg StoreRes.ok (newArgument_existing hinv hi), Or.inl ⟨l, rfl⟩⟩
    · have h' : ∀ i, ¬ s.Live i l := fun i hi => h ⟨i, hi⟩
      exact Or.inr ⟨_, congrArg StoreRes.ok (newArgument_fresh hinv h'), .pushArg h'⟩
  | remArg l =>
    by_cases h : ∃ id, s.Live id l
    · obtain ⟨id, hid⟩ := h
      exact Or.inr (Or.inr ⟨_, (removeArgument_spec hinv l).1 id hid, .dropArg hid⟩)
    · exact Or.inl ((removeArgument_spec hinv l).2 fun id hid => h ⟨id, hid⟩)
  | newAtt la lb =>
    by_cases hab : (∃ a, s.Live a la) ∧ ∃ b, s.Live b lb
    · obtain ⟨⟨a, ha⟩, b, hb⟩ := hab
      right
      by_cases hh : s.HasAtt a b
      · exact Or.inl ⟨((newAttack_spec hinv la lb).1 a b ha hb).1 hh, Or.inr ⟨la, lb, rfl⟩⟩
      · exact Or.inr ⟨_, ((newAttack_spec hinv la lb).1 a b ha hb).2 hh, .pushAtt ha hb hh⟩
    · exact Or.inl ((newAttack_spec hinv la lb).2 (not_live_or hab))
  | remAtt la lb =>
    by_cases hab : (∃ a, s.Live a la) ∧ ∃ b, s.Live b lb
    · obtain ⟨⟨a, ha⟩, b, hb⟩ := hab
      by_cases hh : s.HasAtt a b
      · obtain ⟨k, hk⟩ := hh
        obtain ⟨pf, pt, he, h1, h2, h3, h4⟩ := ((removeAttack_spec hinv la lb).1 a b ha hb).1 k hk
        exact Or.inr (Or.inr ⟨_, he, .dropAtt ha hb hk h1 h2 h3 h4⟩)
      · exact Or.inl (((removeAttack_spec hinv la lb).1 a b ha hb).2 hh)
    · exact Or.inl ((removeAttack_spec hinv la lb).2 (not_live_or hab))

theorem step_upd {s : Store} (hinv : s.Inv) (op : StoreOp) :
    s.step op = .err s ∨ s.step op = .ok s ∨ ∃ s', s.step op = .ok s' ∧ Upd s s' :=
  (step_by hinv op).imp id (Or.imp (·.1) (fun ⟨s', he, hu⟩ => ⟨s', he, op, hu⟩))

theorem step_inv {s : Store} (hinv : s.Inv) (op : StoreOp) :
    (∃ s', s.step op = .ok s' ∧ s'.Inv) ∨ s.step op = .err s := by
  rcases step_upd hinv op with he | he | ⟨s', he, hu⟩
  · exact .inr he
  · exact .inl ⟨s, he, hinv⟩
  · exact .inl ⟨s', he, hu.inv hinv⟩

/-- run a history; after a rejected operation it goes on with the store the error carries (on a consistent
store that is the store as it was: `step_by`) -/
def runOps (s : Store) : List StoreOp → Option Store
  | [] => some s
  | op :: ops =>
    match s.step op with
    | .ok s' => runOps s' ops
    | .err s' => runOps s' ops
    | .panic => none

theorem runOps_snoc {s1 s2 : Store} {op : StoreOp} (hs : s1.step op = .ok s2 ∨ s1.step op = .err s2) :
    ∀ {ops : List StoreOp} {s : Store}, runOps s ops = some s1 → runOps s (ops ++ [op]) = some s2 := by
  intro ops
  induction ops with
  | nil =>
    intro s h
    cases h
    rw [List.nil_append]
    unfold runOps
    rcases hs with hs | hs <;> rw [hs] <;> rfl
  | cons o rest ih =>
    intro s h
    rw [List.cons_append]
    unfold runOps at h ⊢
    cases hso : s.step o <;> rw [hso] at h <;> first | exact ih h | cases h

theorem reachable_ind {P : Store → Prop} (h0 : P Store.empty)
    (hstep : ∀ s s', s.Inv → P s → Upd s s' → P s') (ops : List StoreOp) :
    ∃ s, runOps Store.empty ops = some s ∧ s.Inv ∧ P s := by
  have : ∀ (s : Store), s.Inv → P s → ∃ s', runOps s ops = some s' ∧ s'.Inv ∧ P s' := by
    induction ops with
    | nil => intro s h hp; exact ⟨s, rfl, h, hp⟩
    | cons op ops ih =>
      intro s h hp
      rcases step_upd h op with he | he | ⟨s', he, hu⟩ <;> simp only [runOps, he]
      · exact ih s h hp
      · exact ih s h hp
      · exact ih s' (hu.inv h) (hstep s s' h hp hu)
  exact this _ inv_empty h0

/-- every reachable state satisfies the invariant, and no history ever panics -/
theorem inv_reachable (ops : List StoreOp) : ∃ s, runOps Store.empty ops = some s ∧ s.Inv :=
  let ⟨s, hs, hinv, _⟩ := reachable_ind (P := fun _ => True) trivial (fun _ _ _ _ _ => trivial) ops
  ⟨s, hs, hinv⟩

end Store
end Crusta
