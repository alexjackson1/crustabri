import Crusta.Proofs.ViewSpec
import Crusta.Proofs.ListAux

/-!
# Correctness of the connected-components algorithm (`ConnectedComponentsComputer`)

`CCInv` is the invariant of the marking state between two component searches: the marked set is
closed under attacks in both directions.  `CC.find` (explicit stack depth-first search over the
undirected attack graph) finds a duplicate-free set of live, so far unmarked arguments that
contains its start and keeps the marked set closed; `extractComp` never panics on such a set; the
iteration `allComps` partitions the live arguments into good components (`Comps g marked cs`: what
the search still yields once `marked` has been handed out), and `CC.mergedOf` yields one good
component holding all the queried arguments.
-/

namespace Crusta

theorem posOf_some (l : List Nat) (a i : Nat) (h : posOf l a = some i) : l[i]? = some a := by
  obtain ⟨hi, hp, _⟩ := List.findIdx?_eq_some_iff_getElem.1 h
  rw [List.getElem?_eq_getElem hi, beq_iff_eq.1 hp]

theorem posOf_none (l : List Nat) (a : Nat) (h : a ∉ l) : posOf l a = none :=
  List.findIdx?_eq_none_iff.2 fun _ hx => Bool.eq_false_iff.2 fun e => h (beq_iff_eq.1 e ▸ hx)

theorem posOf_of_mem (l : List Nat) (a : Nat) (h : a ∈ l) : ∃ i, posOf l a = some i := by
  cases hp : posOf l a with
  | some i => exact ⟨i, rfl⟩
  | none => exact absurd (List.findIdx?_eq_none_iff.1 hp a h) (by rw [beq_self_eq_true]; exact Bool.noConfusion)

theorem posOf_nodup (l : List Nat) (a i : Nat) (hnd : l.Nodup) (h : l[i]? = some a) :
    posOf l a = some i :=
  findIdx?_beq_of_nodup hnd h

theorem mem_of_posOf (l : List Nat) (a i : Nat) (h : posOf l a = some i) : a ∈ l :=
  List.mem_of_getElem? (posOf_some l a i h)

/-- the weak form of the pointer invariant (it holds inside a search) -/
structure NextW (g : G) (cc : CC) : Prop where
  next_le : cc.next ≤ cc.inCC.length
  before : ∀ i, i < cc.next → cc.inCC.getD i false = true ∨ g.live i = false

/-- the strong form (between two searches): `NextW`, and `next` is at the end or on a live unmarked slot -/
structure NextS (g : G) (cc : CC) : Prop where
  next_le : cc.next ≤ cc.inCC.length
  before : ∀ i, i < cc.next → cc.inCC.getD i false = true ∨ g.live i = false
  at_next : cc.next < cc.inCC.length → cc.inCC.getD cc.next false = false ∧ g.live cc.next = true

theorem NextS.weak {g : G} {cc : CC} (h : NextS g cc) : NextW g cc := ⟨h.next_le, h.before⟩

theorem updateNext_go_spec (v : FwView) (g : G) (hl : ∀ a, v.isLive a = g.live a) (cc : CC) :
    ∀ fuel n, n ≤ cc.inCC.length → cc.inCC.length < n + fuel →
      (∀ i, i < n → cc.inCC.getD i false = true ∨ g.live i = false) →
      NextS g { cc with next := CC.updateNext.go v cc fuel n } := by
  intro fuel
  induction fuel with
  | zero => exact fun n h1 h2 => absurd (Nat.lt_of_lt_of_le h2 h1) (Nat.lt_irrefl _)
  | succ fuel ih =>
    intro n h1 h2 hb
    have hcond : (decide (n < cc.inCC.length) && (cc.inCC.getD n false || !v.isLive n)) = true ↔
        (n < cc.inCC.length ∧ (cc.inCC.getD n false = true ∨ g.live n = false)) := by
      rw [hl]; simp
    unfold CC.updateNext.go
    by_cases hc : (decide (n < cc.inCC.length) && (cc.inCC.getD n false || !v.isLive n)) = true
    · rw [if_pos hc]
      refine ih (n + 1) (hcond.1 hc).1 (Nat.add_right_comm n fuel 1 ▸ h2) fun i hi => ?_
      by_cases e : i = n
      · exact e ▸ (hcond.1 hc).2
      · exact hb i (Nat.lt_of_le_of_ne (Nat.le_of_lt_succ hi) e)
    · rw [if_neg hc]
      refine ⟨h1, hb, fun hlt => ?_⟩
      have hn : ¬ (cc.inCC.getD n false = true ∨ g.live n = false) := fun h => hc (hcond.2 ⟨hlt, h⟩)
      exact ⟨Bool.not_eq_true _ ▸ fun h => hn (Or.inl h), Bool.not_eq_false _ ▸ fun h => hn (Or.inr h)⟩

@[simp] theorem updateNext_inCC (v : FwView) (cc : CC) : (CC.updateNext v cc).inCC = cc.inCC := rfl

theorem updateNext_nextS (v : FwView) (g : G) (hl : ∀ a, v.isLive a = g.live a) (cc : CC)
    (h : NextW g cc) : NextS g (CC.updateNext v cc) :=
  updateNext_go_spec v g hl cc (cc.inCC.length + 1) cc.next h.next_le (Nat.lt_succ_of_le (Nat.le_add_left _ _)) h.before

theorem set_nextW (g : G) (cc : CC) (nb : Nat) (h : NextW g cc) :
    NextW g { cc with inCC := cc.inCC.set nb true } :=
  ⟨(List.length_set ..).symm ▸ h.next_le,
    fun i hi => (h.before i hi).imp_left fun h1 => (getD_set_true _ _ _).2 (Or.inr h1)⟩

theorem set_nextS_ne (g : G) (cc : CC) (nb : Nat) (h : NextS g cc) (hne : cc.next ≠ nb) :
    NextS g { cc with inCC := cc.inCC.set nb true } := by
  have hw := set_nextW g cc nb h.weak
  refine ⟨hw.next_le, hw.before, fun hlt => ?_⟩
  obtain ⟨h1, h2⟩ := h.at_next ((List.length_set ..) ▸ hlt)
  refine ⟨Bool.not_eq_true _ ▸ fun hh => ?_, h2⟩
  rcases (getD_set_true _ _ _).1 hh with ⟨e, _⟩ | e
  · exact hne e
  · rw [h1] at e; cases e

/-- the marking step of the search marks `nb` and keeps the pointer right; stated with an equation for
the new state so that `ccVisit_inv` can replace the conditional by a variable -/
theorem mark_nextS (v : FwView) (g : G) (hl : ∀ a, v.isLive a = g.live a) (cc : CC) (nb : Nat)
    (h : NextS g cc) :
    ∃ cc2, (if ({ cc with inCC := cc.inCC.set nb true } : CC).next == nb
      then CC.updateNext v { cc with inCC := cc.inCC.set nb true }
      else { cc with inCC := cc.inCC.set nb true }) = cc2 ∧ cc2.inCC = cc.inCC.set nb true ∧ NextS g cc2 := by
  by_cases he : cc.next = nb
  · exact ⟨_, if_pos (beq_iff_eq.2 he), rfl, updateNext_nextS v g hl _ (set_nextW g cc nb h.weak)⟩
  · exact ⟨_, if_neg fun e => he (beq_iff_eq.1 e), rfl, set_nextS_ne g cc nb h he⟩

/-- `marked` is the set of marked ids; the last three fields are `NextS` in terms of `marked`: `next`
points to the smallest live unmarked id (or to the end) -/
structure CCInv (v : FwView) (g : G) (cc : CC) (marked : Nat → Prop) : Prop where
  len : cc.inCC.length = 1 + v.maxId.getD 0
  mark : ∀ a, marked a ↔ cc.inCC.getD a false = true
  closed : ∀ a b, g.att a b → (marked a ↔ marked b)
  next_le : cc.next ≤ cc.inCC.length
  before : ∀ i, i < cc.next → marked i ∨ g.live i = false
  at_next : cc.next < cc.inCC.length → ¬ marked cc.next ∧ g.live cc.next = true

theorem CCInv.nextS {v : FwView} {g : G} {cc : CC} {marked : Nat → Prop} (h : CCInv v g cc marked) :
    NextS g cc :=
  ⟨h.next_le, fun i hi => (h.before i hi).imp_left (h.mark i).1, fun hlt =>
    ⟨Bool.not_eq_true _ ▸ fun hh => (h.at_next hlt).1 ((h.mark _).2 hh), (h.at_next hlt).2⟩⟩

theorem live_lt_len {v : FwView} {g : G} (h : v.Ok g) {n : Nat}
    (hlen : n = 1 + v.maxId.getD 0) {a : Nat} (ha : g.live a = true) : a < n := by
  obtain ⟨m, hm, hle⟩ := h.maxId_ge a ha
  rw [hlen, hm, Nat.add_comm]
  exact Nat.lt_succ_of_le hle

theorem CC.new_inv (v : FwView) (g : G) (h : v.Ok g) : CCInv v g (CC.new v) (fun _ => False) := by
  have hs : NextS g (CC.new v) :=
    updateNext_nextS v g h.isLive _ ⟨Nat.zero_le _, fun i hi => absurd hi (Nat.not_lt_zero i)⟩
  have hget : ∀ a, (CC.new v).inCC.getD a false = false := fun a => getD_replicate_self _ a false
  have hnone : ∀ a, ¬ (CC.new v).inCC.getD a false = true := fun a h1 => by rw [hget a] at h1; cases h1
  exact ⟨List.length_replicate, fun a => ⟨False.elim, hnone a⟩, fun _ _ _ => Iff.rfl, hs.next_le,
    fun i hi => (hs.before i hi).imp_left (hnone i), fun hlt => ⟨id, (hs.at_next hlt).2⟩⟩

/-- invariant of the search state, relative to the marking vector `l0` at the start of the search;
`exc a b` are the neighbour pairs that are still to be looked at -/
structure FInv (g : G) (l0 : List Bool) (s0 : Nat) (st : FindSt) (exc : Nat → Nat → Prop) : Prop where
  len : st.cc.inCC.length = l0.length
  nodup : st.current.Nodup
  mark : ∀ a, st.cc.inCC.getD a false = true ↔ (l0.getD a false = true ∨ a ∈ st.current)
  fresh : ∀ a ∈ st.current, l0.getD a false = false ∧ g.live a = true
  stack_sub : ∀ a ∈ st.stack, a ∈ st.current
  done : ∀ a ∈ st.current, a ∉ st.stack → ∀ b, (g.att a b ∨ g.att b a) →
    st.cc.inCC.getD b false = true ∨ exc a b
  next : NextS g st.cc
  has : s0 ∈ st.current

theorem FInv.weaken {g : G} {l0 : List Bool} {s0 : Nat} {st : FindSt} {exc exc' : Nat → Nat → Prop}
    (hI : FInv g l0 s0 st exc) (h : ∀ a b, exc a b → st.cc.inCC.getD b false = true ∨ exc' a b) :
    FInv g l0 s0 st exc' :=
  ⟨hI.len, hI.nodup, hI.mark, hI.fresh, hI.stack_sub,
    fun a ha hs b hab => (hI.done a ha hs b hab).elim Or.inl (h a b), hI.next, hI.has⟩

/-- the second conjunct is the fuel measure of the search: unmarked slots plus stack length is kept by
a visit (each newly marked neighbour is pushed) and drops by one with each pop (`ccLoop_inv`) -/
theorem ccVisit_inv (v : FwView) (g : G) (hl : ∀ a, v.isLive a = g.live a) (l0 : List Bool) (s0 x : Nat) :
    ∀ (nbs : List Nat) (st : FindSt), (∀ b ∈ nbs, g.live b = true ∧ b < l0.length) →
      FInv g l0 s0 st (fun a b => a = x ∧ b ∈ nbs) →
      FInv g l0 s0 (ccVisit v st nbs) (fun _ _ => False) ∧
      (ccVisit v st nbs).cc.inCC.count false + (ccVisit v st nbs).stack.length
        = st.cc.inCC.count false + st.stack.length := by
  intro nbs
  induction nbs with
  | nil => exact fun st _ hI => ⟨hI.weaken fun _ _ h => (nomatch h.2), rfl⟩
  | cons nb nbs ih =>
    intro st hnbs hI
    have hnbs' : ∀ b ∈ nbs, g.live b = true ∧ b < l0.length := fun b hb => hnbs b (List.mem_cons_of_mem _ hb)
    simp only [ccVisit]
    by_cases hm : st.cc.inCC.getD nb false = true
    · rw [if_pos hm]
      exact ih st hnbs' (hI.weaken fun a b h =>
        (List.mem_cons.1 h.2).elim (fun e => Or.inl (e ▸ hm)) fun e => Or.inr ⟨h.1, e⟩)
    · rw [if_neg hm]
      obtain ⟨hnbl, hnblt⟩ := hnbs nb List.mem_cons_self
      have hnblt' : nb < st.cc.inCC.length := hI.len ▸ hnblt
      have hnotcur : nb ∉ st.current := fun hc => hm ((hI.mark nb).2 (Or.inr hc))
      have hl0 : l0.getD nb false = false :=
        Bool.not_eq_true _ ▸ fun hh => hm ((hI.mark nb).2 (Or.inl hh))
      obtain ⟨cc2, e, hinCC, hns⟩ := mark_nextS v g hl st.cc nb hI.next
      rw [e]
      have hmark2 : ∀ a, cc2.inCC.getD a false = true ↔ (a = nb ∨ st.cc.inCC.getD a false = true) :=
        fun a => by rw [hinCC, getD_set_true]; exact or_congr_left (and_iff_left hnblt')
      obtain ⟨r1, r2⟩ := ih { cc := cc2, current := st.current ++ [nb], stack := st.stack ++ [nb] } hnbs'
        ⟨hinCC ▸ (List.length_set ..).trans hI.len, nodup_concat hI.nodup hnotcur,
          fun a => by
            show cc2.inCC.getD a false = true ↔ (l0.getD a false = true ∨ a ∈ st.current ++ [nb])
            rw [hmark2, hI.mark a, List.mem_append, List.mem_singleton, or_left_comm, or_comm (a := a = nb)],
          forall_mem_concat hI.fresh ⟨hl0, hnbl⟩,
          forall_mem_concat (fun a ha => List.mem_append_left _ (hI.stack_sub a ha))
            (List.mem_append_right _ (List.mem_singleton.2 rfl)),
          fun a ha hs b hab => by
            show cc2.inCC.getD b false = true ∨ (a = x ∧ b ∈ nbs)
            have hs' : a ∉ st.stack := fun e => hs (List.mem_append_left _ e)
            have ha' : a ∈ st.current := (List.mem_append.1 ha).elim id fun e => absurd (List.mem_append_right _ e) hs
            rcases hI.done a ha' hs' b hab with h1 | ⟨h1, h2⟩
            · exact Or.inl ((hmark2 b).2 (Or.inr h1))
            · exact (List.mem_cons.1 h2).elim (fun e => Or.inl ((hmark2 b).2 (Or.inl e))) fun e => Or.inr ⟨h1, e⟩,
          hns, List.mem_append_left _ hI.has⟩
      refine ⟨r1, r2.trans ?_⟩
      show cc2.inCC.count false + (st.stack ++ [nb]).length = _
      rw [hinCC, List.length_append, List.length_singleton,
        ← count_false_set st.cc.inCC nb hnblt' (Bool.not_eq_true _ ▸ hm), Nat.add_right_comm _ 1]
      rfl

theorem ccLoop_inv (v : FwView) (g : G) (hok : v.Ok g) (l0 : List Bool) (s0 : Nat)
    (hlen : l0.length = 1 + v.maxId.getD 0) :
    ∀ (fuel : Nat) (st : FindSt), FInv g l0 s0 st (fun _ _ => False) →
      st.cc.inCC.count false + st.stack.length ≤ fuel →
      FInv g l0 s0 (ccLoop v fuel st) (fun _ _ => False) ∧ (ccLoop v fuel st).stack = [] := by
  intro fuel
  induction fuel with
  | zero =>
    intro st hI hm
    exact ⟨hI, List.eq_nil_of_length_eq_zero (Nat.eq_zero_of_add_eq_zero (Nat.le_zero.1 hm)).2⟩
  | succ fuel ih =>
    intro st hI hm
    simp only [ccLoop]
    cases hx : st.stack.getLast? with
    | none => exact ⟨hI, List.getLast?_eq_none_iff.1 hx⟩
    | some x =>
      obtain ⟨ys, hys⟩ := List.getLast?_eq_some_iff.1 hx
      have hstack : ∀ a, a ∈ st.stack ↔ (a ∈ ys ∨ a = x) := fun a => by
        rw [hys, List.mem_append, List.mem_singleton]
      have hxlive : g.live x = true := (hI.fresh x (hI.stack_sub x ((hstack x).2 (Or.inr rfl)))).2
      have hnbs : ∀ b ∈ v.attFrom x ++ v.attTo x, g.live b = true ∧ b < l0.length := by
        intro b hb
        have hbl : g.live b = true := (List.mem_append.1 hb).elim
          (fun e => (hok.wf _ _ ((hok.attFrom_mem x b).1 e)).2) (fun e => (hok.wf _ _ ((hok.attTo_mem x b).1 e)).1)
        exact ⟨hbl, live_lt_len hok hlen hbl⟩
      have hI1 : FInv g l0 s0 { st with stack := ys } (fun a b => a = x ∧ b ∈ v.attFrom x ++ v.attTo x) :=
        ⟨hI.len, hI.nodup, hI.mark, hI.fresh, fun a ha => hI.stack_sub a ((hstack a).2 (Or.inl ha)),
          fun a ha hs b hab => by
            by_cases hax : a = x
            · exact Or.inr ⟨hax, List.mem_append.2 (hab.imp (fun e => (hok.attFrom_mem x b).2 (hax ▸ e))
                fun e => (hok.attTo_mem x b).2 (hax ▸ e))⟩
            · exact (hI.done a ha (fun e => ((hstack a).1 e).elim hs hax) b hab).imp_right False.elim,
          hI.next, hI.has⟩
      obtain ⟨r1, r2⟩ := ccVisit_inv v g hok.isLive l0 s0 x _ _ hnbs hI1
      rw [hys, List.dropLast_concat]
      refine ih _ r1 (r2 ▸ ?_)
      show st.cc.inCC.count false + ys.length ≤ fuel
      have : st.stack.length = ys.length + 1 := by rw [hys, List.length_append, List.length_singleton]
      rw [this] at hm
      exact Nat.le_of_succ_le_succ hm

theorem CC.find_spec (v : FwView) (g : G) (h : v.Ok g) (cc : CC) (marked : Nat → Prop)
    (hI : CCInv v g cc marked) (arg : Nat) (hlive : g.live arg = true) (hnm : ¬ marked arg) :
    (CC.find v cc arg).1.Nodup ∧ arg ∈ (CC.find v cc arg).1 ∧
    (∀ a ∈ (CC.find v cc arg).1, g.live a = true ∧ ¬ marked a) ∧
    CCInv v g (CC.find v cc arg).2 (fun a => marked a ∨ a ∈ (CC.find v cc arg).1) := by
  have hlt : arg < cc.inCC.length := live_lt_len h hI.len hlive
  have hf : cc.inCC.getD arg false = false := Bool.not_eq_true _ ▸ fun hh => hnm ((hI.mark arg).2 hh)
  have hI0 : FInv g cc.inCC arg
      { cc := CC.updateNext v { cc with inCC := cc.inCC.set arg true }, current := [arg], stack := [arg] }
      (fun _ _ => False) :=
    ⟨List.length_set .., List.pairwise_singleton _ _,
      fun a => by
        show (cc.inCC.set arg true).getD a false = true ↔ _
        rw [getD_set_true, List.mem_singleton, or_comm]
        exact or_congr_right (and_iff_left hlt),
      fun a ha => List.mem_singleton.1 ha ▸ ⟨hf, hlive⟩, fun _ ha => ha, fun a ha hs => absurd ha hs,
      updateNext_nextS v g h.isLive _ (set_nextW g cc arg hI.nextS.weak), List.mem_singleton.2 rfl⟩
  have hmeas : (cc.inCC.set arg true).count false + 1 ≤ cc.inCC.length + 1 :=
    count_false_set cc.inCC arg hlt hf ▸ Nat.le_succ_of_le List.count_le_length
  obtain ⟨r1, r2⟩ := ccLoop_inv v g h cc.inCC arg hI.len (cc.inCC.length + 1) _ hI0 hmeas
  unfold CC.find
  simp only
  generalize ccLoop v (cc.inCC.length + 1)
    { cc := CC.updateNext v { cc with inCC := cc.inCC.set arg true }, current := [arg], stack := [arg] } = st
    at r1 r2
  have hmk : ∀ a, (marked a ∨ a ∈ st.current) ↔ st.cc.inCC.getD a false = true := fun a => by
    rw [r1.mark a, hI.mark a]
  have hnotm : ∀ {a}, st.cc.inCC.getD a false = false → ¬ (marked a ∨ a ∈ st.current) := fun hf hm => by
    have := (hmk _).1 hm
    rw [hf] at this; cases this
  have hdone : ∀ a ∈ st.current, ∀ b, (g.att a b ∨ g.att b a) → marked b ∨ b ∈ st.current := fun a ha b hab =>
    (hmk b).2 ((r1.done a ha (r2 ▸ List.not_mem_nil) b hab).elim id False.elim)
  refine ⟨r1.nodup, r1.has, fun a ha => ⟨(r1.fresh a ha).2, fun hm => ?_⟩,
    r1.len.trans hI.len, hmk, fun a b hab => ?_, r1.next.next_le,
    fun i hi => (r1.next.before i hi).imp_left (hmk i).2, fun hlt => ?_⟩
  · have := (hI.mark a).1 hm
    rw [(r1.fresh a ha).1] at this; cases this
  · exact ⟨fun e => e.elim (fun e => Or.inl ((hI.closed a b hab).1 e)) fun e => hdone a e b (Or.inl hab),
      fun e => e.elim (fun e => Or.inl ((hI.closed a b hab).2 e)) fun e => hdone b e a (Or.inr hab)⟩
  · exact ⟨hnotm (r1.next.at_next hlt).1, (r1.next.at_next hlt).2⟩

theorem extractComp_good (v : FwView) (g : G) (h : v.Ok g) (ids : List Nat) (hnd : ids.Nodup)
    (hlive : ∀ a ∈ ids, g.live a = true) (hcl : ∀ a b, g.att a b → (a ∈ ids ↔ b ∈ ids)) :
    ∃ c, extractComp v ids = some c ∧ c.ids = ids ∧ GoodComp g c := by
  unfold extractComp
  dsimp only
  generalize hat : List.filterMap _ v.allAtts = atts
  have hmem : ∀ (p : Nat × Option Nat), p ∈ atts ↔
      ∃ a b, g.att a b ∧ posOf ids a = some p.1 ∧ posOf ids b = p.2 := by
    intro p
    rw [← hat, List.mem_filterMap]
    constructor
    · rintro ⟨⟨a, b⟩, hab, hp⟩
      refine ⟨a, b, (h.allAtts_mem a b).1 hab, ?_⟩
      simp only at hp
      split at hp
      · cases hp
      · rename_i i hi
        cases hp
        exact ⟨hi, rfl⟩
    · rintro ⟨a, b, hab, h1, h2⟩
      refine ⟨(a, b), (h.allAtts_mem a b).2 hab, ?_⟩
      simp only [h1, h2]
  have hany : atts.any (fun p => p.2.isNone) = false := by
    refine List.any_eq_false.2 fun p hp => ?_
    obtain ⟨a, b, hab, h1, h2⟩ := (hmem p).1 hp
    obtain ⟨j, hj⟩ := posOf_of_mem ids b ((hcl a b hab).1 (mem_of_posOf ids a _ h1))
    rw [← h2, hj]
    exact Bool.false_ne_true
  rw [hany, if_neg Bool.false_ne_true]
  refine ⟨_, rfl, rfl, ⟨hnd, hlive, hcl, rfl, ?_⟩⟩
  intro i j
  show (i, j) ∈ List.map _ _ ↔ _
  rw [List.mem_map]
  constructor
  · rintro ⟨⟨pi, pj⟩, hp, he⟩
    obtain ⟨a, b, hab, h1, h2⟩ := (hmem _).1 hp
    obtain ⟨j', hj⟩ := posOf_of_mem ids b ((hcl a b hab).1 (mem_of_posOf ids a _ h1))
    cases h2.symm.trans hj
    cases he
    exact ⟨a, b, posOf_some ids a _ h1, posOf_some ids b _ hj, hab⟩
  · rintro ⟨a, b, h1, h2, hab⟩
    exact ⟨(i, some j), (hmem _).2 ⟨a, b, hab, posOf_nodup ids a i hnd h1, posOf_nodup ids b j hnd h2⟩, rfl⟩

theorem CCInv.congr {v : FwView} {g : G} {cc : CC} {m m' : Nat → Prop} (hI : CCInv v g cc m)
    (he : ∀ a, m a ↔ m' a) : CCInv v g cc m' := by
  have : m = m' := funext fun a => propext (he a)
  rw [← this]; exact hI

theorem found_closed {v : FwView} {g : G} {cc cc' : CC} {marked : Nat → Prop} {ids : List Nat}
    (hI : CCInv v g cc marked) (hI' : CCInv v g cc' (fun a => marked a ∨ a ∈ ids))
    (hnm : ∀ a ∈ ids, ¬ marked a) : ∀ a b, g.att a b → (a ∈ ids ↔ b ∈ ids) := fun a b hab =>
  ⟨fun ha => ((hI'.closed a b hab).1 (Or.inr ha)).elim
      (fun e => absurd ((hI.closed a b hab).2 e) (hnm a ha)) id,
    fun hb => ((hI'.closed a b hab).2 (Or.inr hb)).elim
      (fun e => absurd ((hI.closed a b hab).1 e) (hnm b hb)) id⟩

theorem CC.nextComp_spec (v : FwView) (g : G) (h : v.Ok g) (cc : CC) (marked : Nat → Prop)
    (hI : CCInv v g cc marked) :
    (CC.nextComp v cc = none → ∀ a, g.live a = true → marked a) ∧
    (∀ oc cc', CC.nextComp v cc = some (oc, cc') →
      ∃ c, oc = some c ∧ GoodComp g c ∧ c.ids ≠ [] ∧ (∀ a ∈ c.ids, ¬ marked a) ∧
        CCInv v g cc' (fun a => marked a ∨ a ∈ c.ids)) := by
  unfold CC.nextComp
  by_cases hc : (v.live.isEmpty || cc.next == cc.inCC.length) = true
  · rw [if_pos hc]
    refine ⟨fun _ a ha => ?_, nofun⟩
    rcases Bool.or_eq_true_iff.1 hc with e | e
    · have := (h.live_mem a).2 ha
      rw [List.isEmpty_iff.1 e] at this; cases this
    · have hlt : a < cc.next := beq_iff_eq.1 e ▸ live_lt_len h hI.len ha
      exact (hI.before a hlt).elim id fun h1 => by rw [ha] at h1; cases h1
  · rw [if_neg hc]
    refine ⟨nofun, fun oc cc' he => ?_⟩
    have hne : cc.next ≠ cc.inCC.length := fun e => hc (Bool.or_eq_true_iff.2 (Or.inr (beq_iff_eq.2 e)))
    obtain ⟨hnm, hlive⟩ := hI.at_next (Nat.lt_of_le_of_ne hI.next_le hne)
    obtain ⟨f1, f2, f3, f4⟩ := CC.find_spec v g h cc marked hI cc.next hlive hnm
    have hnm' : ∀ a ∈ (CC.find v cc cc.next).1, ¬ marked a := fun a ha => (f3 a ha).2
    obtain ⟨c, hc1, hc2, hc3⟩ := extractComp_good v g h (CC.find v cc cc.next).1 f1
      (fun a ha => (f3 a ha).1) (found_closed hI f4 hnm')
    cases Option.some.inj he
    exact ⟨c, hc1, hc3, hc2 ▸ List.ne_nil_of_mem f2, hc2 ▸ hnm', hc2 ▸ f4⟩

theorem nextComp_count_lt {v : FwView} {g : G} {cc cc' : CC} {marked : Nat → Prop} {c : Comp}
    (hI : CCInv v g cc marked) (hne : c.ids ≠ []) (hnm : ∀ a ∈ c.ids, ¬ marked a)
    (hI' : CCInv v g cc' (fun a => marked a ∨ a ∈ c.ids)) : cc'.inCC.count false < cc.inCC.count false := by
  obtain ⟨a, ha⟩ := List.exists_mem_of_ne_nil _ hne
  exact count_false_lt cc.inCC cc'.inCC (hI.len.trans hI'.len.symm)
    (fun a ha => (hI'.mark a).1 (Or.inl ((hI.mark a).2 ha)))
    ⟨a, Bool.not_eq_true _ ▸ fun hh => hnm a ha ((hI.mark a).2 hh), (hI'.mark a).1 (Or.inr ha)⟩

/-- the components `cs` are good, pairwise disjoint, lie outside `marked`, and cover the live
arguments outside `marked` (`marked`: what the component search has already handed out) -/
structure Comps (g : G) (marked : Nat → Prop) (cs : List Comp) : Prop where
  good : ∀ c ∈ cs, GoodComp g c
  disj : cs.Pairwise (fun c c' => ∀ a, a ∈ c.ids → a ∉ c'.ids)
  fresh : ∀ c ∈ cs, ∀ a ∈ c.ids, ¬ marked a
  cover : ∀ a, g.live a = true → marked a ∨ ∃ c ∈ cs, a ∈ c.ids

theorem Comps.nil {g : G} {marked : Nat → Prop} (h : ∀ a, g.live a = true → marked a) : Comps g marked [] :=
  ⟨nofun, List.Pairwise.nil, nofun, fun a ha => Or.inl (h a ha)⟩

theorem Comps.cons {g : G} {marked marked' : Nat → Prop} {c : Comp} {cs : List Comp}
    (hm : ∀ a, marked' a ↔ marked a ∨ a ∈ c.ids) (hgood : GoodComp g c)
    (hnm : ∀ a ∈ c.ids, ¬ marked a) (h : Comps g marked' cs) : Comps g marked (c :: cs) where
  good := List.forall_mem_cons.2 ⟨hgood, h.good⟩
  disj := List.pairwise_cons.2 ⟨fun c' hc' a ha ha' => h.fresh c' hc' a ha' ((hm a).2 (Or.inr ha)), h.disj⟩
  fresh := List.forall_mem_cons.2 ⟨hnm, fun c' hc' a ha hma => h.fresh c' hc' a ha ((hm a).2 (Or.inl hma))⟩
  cover := fun a ha => by
    rcases h.cover a ha with hm' | ⟨c', hc', hac⟩
    · exact ((hm a).1 hm').imp_right fun h1 => ⟨c, List.mem_cons_self, h1⟩
    · exact Or.inr ⟨c', List.mem_cons_of_mem _ hc', hac⟩

theorem Comps.tail {g : G} {marked : Nat → Prop} {c : Comp} {cs : List Comp} (h : Comps g marked (c :: cs)) :
    Comps g (fun a => marked a ∨ a ∈ c.ids) cs where
  good := fun c' hc' => h.good c' (List.mem_cons_of_mem _ hc')
  disj := (List.pairwise_cons.1 h.disj).2
  fresh := fun c' hc' a ha hm => hm.elim (h.fresh c' (List.mem_cons_of_mem _ hc') a ha)
    fun hac => (List.pairwise_cons.1 h.disj).1 c' hc' a hac ha
  cover := fun a ha => (h.cover a ha).elim (fun hm => Or.inl (Or.inl hm)) fun ⟨c', hc', hac⟩ =>
    (List.mem_cons.1 hc').elim (fun e => Or.inl (Or.inr (e ▸ hac))) fun hc'' => Or.inr ⟨c', hc'', hac⟩

theorem allComps_go_spec (v : FwView) (g : G) (h : v.Ok g) :
    ∀ (fuel : Nat) (cc : CC) (marked : Nat → Prop), CCInv v g cc marked → cc.inCC.count false < fuel →
      ∃ cs : List Comp, allComps.go v fuel cc = cs.map some ∧ Comps g marked cs ∧ ∀ c ∈ cs, c.ids ≠ [] := by
  intro fuel
  induction fuel with
  | zero => exact fun cc marked _ hf => absurd hf (Nat.not_lt_zero _)
  | succ fuel ih =>
    intro cc marked hI hf
    obtain ⟨s1, s2⟩ := CC.nextComp_spec v g h cc marked hI
    unfold allComps.go
    cases hn : CC.nextComp v cc with
    | none => exact ⟨[], rfl, Comps.nil (s1 hn), nofun⟩
    | some r =>
      obtain ⟨oc, cc'⟩ := r
      obtain ⟨c, rfl, hg, hne, hnm, hI'⟩ := s2 oc cc' hn
      obtain ⟨cs, hcs, H, hnes⟩ := ih cc' _ hI'
        (Nat.lt_of_lt_of_le (nextComp_count_lt hI hne hnm hI') (Nat.le_of_lt_succ hf))
      exact ⟨c :: cs, by simp only [hcs, List.map_cons], H.cons (fun _ => Iff.rfl) hg hnm,
        List.forall_mem_cons.2 ⟨hne, hnes⟩⟩

theorem allComps_spec (v : FwView) (g : G) (h : v.Ok g) :
    ∃ cs : List Comp, allComps v = cs.map some ∧ Comps g (fun _ => False) cs ∧ ∀ c ∈ cs, c.ids ≠ [] := by
  have hI := CC.new_inv v g h
  exact allComps_go_spec v g h _ _ _ hI
    (Nat.lt_succ_of_le (Nat.add_comm 1 _ ▸ hI.len ▸ List.count_le_length))

/-- the loop body of `merged_connected_components_of` -/
def mergeStep (v : FwView) (acc : List Nat × CC) (a : Nat) : List Nat × CC :=
  if acc.2.inCC.getD a false then acc
  else (acc.1 ++ (CC.find v acc.2 a).1, (CC.find v acc.2 a).2)

theorem mergedOf_eq (v : FwView) (cc : CC) (args : List Nat) :
    CC.mergedOf v cc args =
      if args.any (fun a => cc.inCC.getD a false) then none
      else some (extractComp v (args.foldl (mergeStep v) ([], cc)).1, (args.foldl (mergeStep v) ([], cc)).2) :=
  rfl

structure MergeInv (v : FwView) (g : G) (acc : List Nat × CC) : Prop where
  inv : CCInv v g acc.2 (fun a => a ∈ acc.1)
  nodup : acc.1.Nodup
  live : ∀ a ∈ acc.1, g.live a = true

theorem mergeStep_spec (v : FwView) (g : G) (h : v.Ok g) (acc : List Nat × CC) (a : Nat)
    (ha : g.live a = true) (hM : MergeInv v g acc) :
    MergeInv v g (mergeStep v acc a) ∧ (∀ b ∈ acc.1, b ∈ (mergeStep v acc a).1) ∧ a ∈ (mergeStep v acc a).1 := by
  unfold mergeStep
  by_cases hm : acc.2.inCC.getD a false = true
  · rw [if_pos hm]
    exact ⟨hM, fun b hb => hb, (hM.inv.mark a).2 hm⟩
  · rw [if_neg hm]
    obtain ⟨f1, f2, f3, f4⟩ := CC.find_spec v g h acc.2 _ hM.inv a ha (fun e => hm ((hM.inv.mark a).1 e))
    exact ⟨⟨f4.congr fun b => List.mem_append.symm,
        List.nodup_append.2 ⟨hM.nodup, f1, fun x hx y hy e => (f3 y hy).2 (e ▸ hx)⟩,
        List.forall_mem_append.2 ⟨hM.live, fun b e => (f3 b e).1⟩⟩,
      fun b hb => List.mem_append_left _ hb, List.mem_append_right _ f2⟩

theorem mergeFold_spec (v : FwView) (g : G) (h : v.Ok g) :
    ∀ (args : List Nat) (acc : List Nat × CC), (∀ a ∈ args, g.live a = true) → MergeInv v g acc →
      MergeInv v g (args.foldl (mergeStep v) acc) ∧
      (∀ b ∈ acc.1, b ∈ (args.foldl (mergeStep v) acc).1) ∧
      (∀ a ∈ args, a ∈ (args.foldl (mergeStep v) acc).1) := by
  intro args
  induction args with
  | nil => exact fun acc _ hM => ⟨hM, fun b hb => hb, nofun⟩
  | cons x xs ih =>
    intro acc hl hM
    obtain ⟨s1, s2, s3⟩ := mergeStep_spec v g h acc x (hl x List.mem_cons_self) hM
    obtain ⟨r1, r2, r3⟩ := ih (mergeStep v acc x) (fun a ha => hl a (List.mem_cons_of_mem _ ha)) s1
    exact ⟨r1, fun b hb => r2 b (s2 b hb), List.forall_mem_cons.2 ⟨r2 x s3, r3⟩⟩

theorem CC.mergedOf_spec (v : FwView) (g : G) (h : v.Ok g) (args : List Nat)
    (hargs : ∀ a ∈ args, g.live a = true) (oc : Option Comp) (cc : CC)
    (hm : CC.mergedOf v (CC.new v) args = some (oc, cc)) :
    ∃ c, oc = some c ∧ GoodComp g c ∧ (∀ a ∈ args, a ∈ c.ids) ∧ CCInv v g cc (fun a => a ∈ c.ids) := by
  rw [mergedOf_eq] at hm
  split at hm
  · cases hm
  · have hM0 : MergeInv v g ([], CC.new v) :=
      ⟨(CC.new_inv v g h).congr fun a => ⟨False.elim, nofun⟩, List.nodup_nil, nofun⟩
    obtain ⟨r1, _, r3⟩ := mergeFold_spec v g h args _ hargs hM0
    obtain ⟨c, hc1, hc2, hc3⟩ := extractComp_good v g h _ r1.nodup r1.live r1.inv.closed
    cases Option.some.inj hm
    exact ⟨c, hc1, hc3, hc2 ▸ r3, hc2 ▸ r1.inv⟩

end Crusta
