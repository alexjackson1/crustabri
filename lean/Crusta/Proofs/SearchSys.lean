import Crusta.Proofs.SearchCore
import Crusta.Proofs.Wp

/-!
# What a search loop sees of a computer

`Sys` is a computer seen from a loop: its state, current set and key, the relation `R m w blocked`
("the solver of `m` in world `w` means the family, with one blocking clause per blocked key"), and the
programs `next` and `discard`.  What the programs do to `(state, key, blocked)` and to the number of
calls is said by five `wp` triples, one per state `next` can start from and one for `discard`; a
computer need not meet all of them.  `OK.wp_next` (loops that stop at a maximal key or discard) and
`Sys.wp_enext` (loops that report a maximal key and go on) turn the triples and the invariant of
`SearchCore` into the step theorems the loops use.
-/

namespace Crusta.Search

structure Sys (μ : Type) where
  n : Nat
  F : ASet → Prop
  K : ASet → Nat → Prop
  st : μ → MState
  cur : μ → List Nat
  key : μ → Nat → Bool
  R : μ → World → List (Nat → Bool) → Prop
  next : μ → Prog μ
  discard : μ → Prog μ

variable {μ : Type}

def Sys.Member (S : Sys μ) (m : μ) : Prop :=
  S.F (ofList (S.cur m)) ∧ (∀ a ∈ S.cur m, a < S.n) ∧ Above S.n S.K (S.key m) (ofList (S.cur m))

def Sys.InitOK (S : Sys μ) : Prop := ∀ {C : Prop} {m : μ} {w : World}, S.st m = .init → S.R m w [] →
  wp C (S.next m) w (fun m' w' => S.st m' = .intermediate ∧ S.Member m' ∧ S.R m' w' [] ∧
    w'.calls = w.calls)

/-- `next` from an intermediate state blocks the current key and asks for a member above it -/
def Sys.GrowOK (S : Sys μ) : Prop := ∀ {C : Prop} {m : μ} {w : World} {bl : List (Nat → Bool)},
  S.st m = .intermediate → S.R m w bl → S.Member m →
  wp C (S.next m) w (fun m' w' => w'.calls = w.calls + 1 ∧ S.R m' w' (S.key m :: bl) ∧
    ((S.st m' = .intermediate ∧ S.Member m' ∧ SubK S.n (S.key m) (S.key m') ∧ FreshK S.n (S.key m') (S.key m :: bl)) ∨
     (S.st m' = .maximal ∧ S.cur m' = S.cur m ∧ S.key m' = S.key m ∧
        ∀ T, S.F T → Above S.n S.K (S.key m) T → ∃ E ∈ S.key m :: bl, In S.n S.K T E)))

def Sys.NewOK (S : Sys μ) : Prop := ∀ {C : Prop} {m : μ} {w : World} {bl : List (Nat → Bool)},
  S.st m = .justDiscarded → S.R m w bl →
  wp C (S.next m) w (fun m' w' => w'.calls = w.calls + 1 ∧ S.R m' w' bl ∧
    ((S.st m' = .intermediate ∧ S.Member m' ∧ FreshK S.n (S.key m') bl) ∨
     (S.st m' = .none ∧ ∀ T, S.F T → ∃ E ∈ bl, In S.n S.K T E)))

def Sys.DiscardOK (S : Sys μ) : Prop := ∀ {C : Prop} {m : μ} {w : World} {bl : List (Nat → Bool)},
  S.st m = .intermediate → S.R m w bl →
  wp C (S.discard m) w (fun m' w' => S.st m' = .justDiscarded ∧ S.cur m' = S.cur m ∧ S.key m' = S.key m ∧
    S.R m' w' (S.key m :: bl) ∧ w'.calls = w.calls)

/-- `next` from the maximal state blocks the current key once more and starts a new search -/
def Sys.MaxOK (S : Sys μ) : Prop := ∀ {C : Prop} {m : μ} {w : World} {bl : List (Nat → Bool)},
  S.st m = .maximal → S.R m w bl →
  wp C (S.next m) w (fun m' w' => w'.calls = w.calls + 1 ∧ S.R m' w' (S.key m :: bl) ∧
    ((S.st m' = .intermediate ∧ S.Member m' ∧ FreshK S.n (S.key m') (S.key m :: bl)) ∨
     (S.st m' = .none ∧ ∀ T, S.F T → ∃ E ∈ S.key m :: bl, In S.n S.K T E)))

/-- the triples every computer meets (`MaxOK` apart: the dynamic computer never continues from the
maximal state, and an `.ideal` computer meets `GrowOK` only) -/
structure Sys.OK (S : Sys μ) : Prop where
  init : S.InitOK
  grow : S.GrowOK
  new : S.NewOK
  discard : S.DiscardOK

/-- the states in which a skeptical loop starts an iteration -/
def Sys.Head (S : Sys μ) (Top : (Nat → Bool) → Prop) (m : μ) (w : World) (bl : List (Nat → Bool)) : Prop :=
  S.R m w bl ∧ Inv S.n Top (S.st m) (S.key m) bl ∧ (S.st m = .intermediate → S.Member m) ∧
    ((S.st m = .init ∧ bl = []) ∨ S.st m = .intermediate ∨ S.st m = .justDiscarded)

/-- what `compute_next` leaves: the search is over; or a new candidate, the old key blocked if there was
one; or the current key (unchanged) is maximal.  The first step makes no call -/
def Sys.After (S : Sys μ) (Top : (Nat → Bool) → Prop) (m : μ) (w : World) (bl : List (Nat → Bool))
    (m' : μ) (w' : World) : Prop :=
  w'.calls + (if S.st m = .init then 1 else 0) = w.calls + 1 ∧
  ((S.st m' = .none ∧ S.st m ≠ .intermediate ∧ S.R m' w' bl ∧ ∀ T, S.F T → ∃ B, Top B ∧ In S.n S.K T B) ∨
   (S.st m' = .intermediate ∧ S.Member m' ∧ (S.st m = .intermediate → SubK S.n (S.key m) (S.key m')) ∧
     FreshK S.n (S.key m') (if S.st m = .intermediate then S.key m :: bl else bl) ∧
     S.R m' w' (if S.st m = .intermediate then S.key m :: bl else bl) ∧
     Inv S.n Top .intermediate (S.key m') (if S.st m = .intermediate then S.key m :: bl else bl)) ∨
   (S.st m' = .maximal ∧ S.st m = .intermediate ∧ S.cur m' = S.cur m ∧ S.key m' = S.key m ∧
     S.R m' w' (S.key m :: bl) ∧ KeyMax S.n S.F S.K (S.key m)))

theorem Sys.OK.wp_next {S : Sys μ} (hS : S.OK) {Top : (Nat → Bool) → Prop} {C : Prop} {m : μ} {w : World}
    {bl : List (Nat → Bool)} (h : S.Head Top m w bl) : wp C (S.next m) w (S.After Top m w bl) := by
  obtain ⟨hR, hI, hMem, ⟨hst, rfl⟩ | hst | hst⟩ := h
  · have hni : ¬ S.st m = .intermediate := by rw [hst]; exact fun e => nomatch e
    refine wp_mono _ _ _ _ ?_ (hS.init hst hR)
    rintro m' w' ⟨hst', hM', hR', hcal⟩
    refine ⟨by rw [if_pos hst, hcal], Or.inr (Or.inl ⟨hst', hM', fun e => absurd e hni, ?_, ?_, ?_⟩)⟩
    · rw [if_neg hni]; exact fun _ h => nomatch h
    · rw [if_neg hni]; exact hR'
    · rw [if_neg hni]; exact Inv.nil
  · rw [hst] at hI
    have hni : ¬ S.st m = .init := by rw [hst]; exact fun e => nomatch e
    refine wp_mono _ _ _ _ ?_ (hS.grow hst hR (hMem hst))
    rintro m' w' ⟨hcal, hR', ⟨hst', hM', hsub, hfr⟩ | ⟨hst', hcur, hkey, hun⟩⟩
    · refine ⟨by rw [if_neg hni, hcal], Or.inr (Or.inl ⟨hst', hM', fun _ => hsub, ?_, ?_, ?_⟩)⟩
      · rw [if_pos hst]; exact hfr
      · rw [if_pos hst]; exact hR'
      · rw [if_pos hst]; exact hI.grow_sat hsub hfr
    · exact ⟨by rw [if_neg hni, hcal], Or.inr (Or.inr ⟨hst', hst, hcur, hkey, hR', (hI.fresh rfl).max_of_unsat hun⟩)⟩
  · have hni : S.st m ≠ .intermediate := by rw [hst]; exact fun e => nomatch e
    have hni' : ¬ S.st m = .init := by rw [hst]; exact fun e => nomatch e
    refine wp_mono _ _ _ _ ?_ (hS.new hst hR)
    rintro m' w' ⟨hcal, hR', ⟨hst', hM', hfr⟩ | ⟨hst', hun⟩⟩
    · refine ⟨by rw [if_neg hni', hcal], Or.inr (Or.inl ⟨hst', hM', fun e => absurd e hni, ?_, ?_, ?_⟩)⟩
      · rw [if_neg hni]; exact hfr
      · rw [if_neg hni]; exact hR'
      · rw [if_neg hni]; exact hI.new_sat hni hfr
    · exact ⟨by rw [if_neg hni', hcal], Or.inl ⟨hst', hni, hR', hI.top_of_unsat hni hun⟩⟩

/-! ## the enumerating client: maximal keys are reported and the search goes on -/

def TopIn (n : Nat) (fk : List (Nat → Bool)) (B : Nat → Bool) : Prop := ∃ Fk ∈ fk, SubK n B Fk

/-- the states in which an enumerating loop starts an iteration; the step from `.init` is taken by the
caller (the `*_init` equations of the loops), so it does not occur here -/
def Sys.EHead (S : Sys μ) (fk : List (Nat → Bool)) (m : μ) (w : World) (bl : List (Nat → Bool)) : Prop :=
  S.R m w bl ∧ Inv S.n (TopIn S.n fk) (S.st m) (S.key m) bl ∧
    ((S.st m = .intermediate ∧ S.Member m) ∨ (S.st m = .maximal ∧ S.key m ∈ fk))

/-- as `After`, with `fk` the keys reported so far: when the enumeration is over, the key of every member
lies inside one of them -/
def Sys.EAfter (S : Sys μ) (fk : List (Nat → Bool)) (m : μ) (w : World) (bl : List (Nat → Bool))
    (m' : μ) (w' : World) : Prop :=
  w'.calls = w.calls + 1 ∧
  ((S.st m' = .intermediate ∧ (S.st m = .intermediate → SubK S.n (S.key m) (S.key m')) ∧
     FreshK S.n (S.key m') (S.key m :: bl) ∧ S.EHead fk m' w' (S.key m :: bl)) ∨
   (S.st m' = .maximal ∧ S.st m = .intermediate ∧ S.cur m' = S.cur m ∧ S.key m' = S.key m ∧
     KeyMax S.n S.F S.K (S.key m) ∧ S.EHead (S.key m :: fk) m' w' (S.key m :: bl)) ∨
   (S.st m' = .none ∧ S.st m = .maximal ∧ S.R m' w' (S.key m :: bl) ∧ ∀ T, S.F T → ∃ Fk ∈ fk, In S.n S.K T Fk))

theorem Sys.wp_enext {S : Sys μ} (hG : S.GrowOK) (hM : S.MaxOK) {fk : List (Nat → Bool)} {C : Prop} {m : μ} {w : World}
    {bl : List (Nat → Bool)} (h : S.EHead fk m w bl) : wp C (S.next m) w (S.EAfter fk m w bl) := by
  obtain ⟨hR, hI, ⟨hst, hMem⟩ | ⟨hst, hmem⟩⟩ := h
  · rw [hst] at hI
    refine wp_mono _ _ _ _ ?_ (hG hst hR hMem)
    rintro m' w' ⟨hcal, hR', ⟨hst', hM', hsub, hfr⟩ | ⟨hst', hcur, hkey, hun⟩⟩
    · exact ⟨hcal, Or.inl ⟨hst', fun _ => hsub, hfr, hR', hst' ▸ hI.grow_sat hsub hfr, Or.inl ⟨hst', hM'⟩⟩⟩
    · refine ⟨hcal, Or.inr (Or.inl ⟨hst', hst, hcur, hkey, (hI.fresh rfl).max_of_unsat hun, hR', ?_,
        Or.inr ⟨hst', hkey ▸ List.mem_cons_self⟩⟩)⟩
      rw [hst', hkey]
      exact hI.block_cur (fun e => nomatch e) (fun _ ⟨Fk, hFk, hb⟩ => ⟨Fk, List.mem_cons_of_mem _ hFk, hb⟩)
        (fun _ hB => ⟨_, List.mem_cons_self, hB⟩)
  · have hni : S.st m ≠ .intermediate := by rw [hst]; exact fun e => nomatch e
    have hI' := hI.cons_top hni (B := S.key m) ⟨_, hmem, SubK.refl _ _⟩
    refine wp_mono _ _ _ _ ?_ (hM hst hR)
    rintro m' w' ⟨hcal, hR', ⟨hst', hM', hfr⟩ | ⟨hst', hun⟩⟩
    · exact ⟨hcal, Or.inl ⟨hst', fun e => absurd e hni, hfr, hR', hst' ▸ hI'.new_sat hni hfr, Or.inl ⟨hst', hM'⟩⟩⟩
    · refine ⟨hcal, Or.inr (Or.inr ⟨hst', hst, hR', fun T hT => ?_⟩)⟩
      obtain ⟨B, ⟨Fk, hFk, hB⟩, hTB⟩ := hI'.top_of_unsat hni hun T hT
      exact ⟨Fk, hFk, fun a ha hk => hB a ha (hTB a ha hk)⟩

/-- a counting client at the head of an iteration: the calls made since `c0` are paid by the members
met, the grounded set (met without a call) pays the last one -/
structure Sys.CHead {μ : Type} (S : Sys μ) (Top : (Nat → Bool) → Prop) (c0 : Nat) (met : List (List Nat))
    (m : μ) (w : World) (bl : List (Nat → Bool)) : Prop where
  head : S.Head Top m w bl
  cnt : Cnt S.n S.F S.K bl met
  paid : w.calls + 1 ≤ c0 + metSize (S.st m) met + (if S.st m = .init then 1 else 0)

theorem Sys.CHead.metSize_le {μ : Type} {S : Sys μ} {Top : (Nat → Bool) → Prop} {c0 : Nat}
    {met : List (List Nat)} {m : μ} {w : World} {bl : List (Nat → Bool)} (h : S.CHead Top c0 met m w bl) {N : Nat}
    (hN : Bound S.F N) : metSize (S.st m) met ≤ N :=
  h.cnt.metSize_le h.head.2.1.fresh (fun hst => ⟨(h.head.2.2.1 hst).1, (h.head.2.2.1 hst).2.2⟩) hN

theorem Sys.CHead.rel {μ : Type} {S : Sys μ} {Top : (Nat → Bool) → Prop} {c0 : Nat} {met : List (List Nat)}
    {m : μ} {w : World} {bl : List (Nat → Bool)} (h : S.CHead Top c0 met m w bl) : S.R m w bl := h.head.1

theorem Sys.CHead.inv {μ : Type} {S : Sys μ} {Top : (Nat → Bool) → Prop} {c0 : Nat} {met : List (List Nat)}
    {m : μ} {w : World} {bl : List (Nat → Bool)} (h : S.CHead Top c0 met m w bl) :
    Inv S.n Top (S.st m) (S.key m) bl := h.head.2.1

theorem Sys.CHead.member {μ : Type} {S : Sys μ} {Top : (Nat → Bool) → Prop} {c0 : Nat} {met : List (List Nat)}
    {m : μ} {w : World} {bl : List (Nat → Bool)} (h : S.CHead Top c0 met m w bl) (hst : S.st m = .intermediate) :
    S.Member m := h.head.2.2.1 hst

/-- the fuel of a counting loop: `N + 1` units less one per member met are never exhausted -/
theorem Sys.CHead.fuel_zero {μ : Type} {S : Sys μ} {Top : (Nat → Bool) → Prop} {c0 : Nat}
    {met : List (List Nat)} {m : μ} {w : World} {bl : List (Nat → Bool)} (h : S.CHead Top c0 met m w bl) {N : Nat}
    (hN : Bound S.F N) {C : Prop} (hf : C ∨ N + 1 ≤ 0 + metSize (S.st m) met) : C :=
  hf.resolve_right fun hh => Nat.not_succ_le_self _ (Nat.le_trans hh (Nat.zero_add _ ▸ h.metSize_le hN))

theorem fuel_succ {C : Prop} {N fuel k : Nat} {st' : MState} {met met' : List (List Nat)}
    (hlen : met.length = k) (hs : metSize st' met' = met.length + 1) (hf : C ∨ N + 1 ≤ fuel + 1 + k) :
    C ∨ N + 1 ≤ fuel + metSize st' met' :=
  hf.imp_right fun hh => by rw [hs, hlen, ← Nat.add_assoc, Nat.add_right_comm]; exact hh

/-- `hex`: the key of the current set is exact, so a candidate that is blocked can be counted (`Cnt.push`) -/
theorem Sys.OK.wp_cnext {μ : Type} {S : Sys μ} (hS : S.OK)
    (hex : ∀ {m : μ} {w : World} {bl : List (Nat → Bool)}, S.R m w bl → In S.n S.K (ofList (S.cur m)) (S.key m))
    {Top : (Nat → Bool) → Prop} {C : Prop} {c0 N : Nat} (hN : Bound S.F N) {met : List (List Nat)} {m : μ} {w : World}
    {bl : List (Nat → Bool)} (h : S.CHead Top c0 met m w bl) :
    wp C (S.next m) w (fun m' w' => w'.calls ≤ c0 + N ∧
      ((S.st m' = .none ∧ S.R m' w' bl ∧ ∀ T, S.F T → ∃ B, Top B ∧ In S.n S.K T B) ∨
       (S.st m' = .intermediate ∧ ∃ bl' met', S.CHead Top c0 met' m' w' bl' ∧ met'.length = metSize (S.st m) met) ∨
       (S.st m' = .maximal ∧ S.st m = .intermediate ∧ S.cur m' = S.cur m ∧ S.R m' w' (S.key m :: bl) ∧
         KeyMax S.n S.F S.K (S.key m)))) := by
  refine wp_mono _ _ _ _ ?_ (hS.wp_next h.head)
  rintro m' w' ⟨hcal, hcase⟩
  have hle : w'.calls ≤ c0 + metSize (S.st m) met := by
    have hp := h.paid
    by_cases hi : S.st m = .init
    · rw [if_pos hi] at hcal hp; exact Nat.le_of_succ_le_succ (Nat.le_trans (Nat.le_of_eq hcal) hp)
    · rw [if_neg hi] at hcal hp; exact Nat.le_trans (Nat.le_of_eq hcal) hp
  refine ⟨Nat.le_trans hle (Nat.add_le_add_left (h.metSize_le hN) _), ?_⟩
  rcases hcase with ⟨hst, _, hR, hall⟩ | ⟨hst, hM', _, _, hR, hI⟩ | ⟨hst, hstm, hcur, _, hR, hmax⟩
  · exact Or.inl ⟨hst, hR, hall⟩
  · by_cases hsm : S.st m = .intermediate
    · have hMem := h.member hsm
      rw [if_pos hsm] at hR hI
      refine Or.inr (Or.inl ⟨hst, S.key m :: bl, S.cur m :: met, ⟨⟨hR, hst ▸ hI, fun _ => hM', Or.inr (Or.inl hst)⟩,
        h.cnt.push (h.inv.fresh hsm) hMem.2.2 hMem.1 (hex h.rel), ?_⟩, ?_⟩)
      · rw [hst, if_neg (fun e => nomatch e)]
        exact Nat.succ_le_succ (by unfold metSize at hle; rw [if_pos hsm] at hle; exact hle)
      · unfold metSize; rw [if_pos hsm]; rfl
    · rw [if_neg hsm] at hR hI
      refine Or.inr (Or.inl ⟨hst, bl, met, ⟨⟨hR, hst ▸ hI, fun _ => hM', Or.inr (Or.inl hst)⟩, h.cnt, ?_⟩, ?_⟩)
      · rw [hst, if_neg (fun e => nomatch e)]
        exact Nat.succ_le_succ (by unfold metSize at hle; rw [if_neg hsm] at hle; exact hle)
      · unfold metSize; rw [if_neg hsm]; rfl
  · exact Or.inr (Or.inr ⟨hst, hstm, hcur, hR, hmax⟩)

/-- `hcur`: the client says why the keys below the discarded one are dealt with -/
theorem Sys.OK.wp_cdiscard {μ : Type} {S : Sys μ} (hS : S.OK)
    (hex : ∀ {m : μ} {w : World} {bl : List (Nat → Bool)}, S.R m w bl → In S.n S.K (ofList (S.cur m)) (S.key m))
    {Top : (Nat → Bool) → Prop} {C : Prop} {c0 : Nat} {met : List (List Nat)} {m : μ} {w : World}
    {bl : List (Nat → Bool)} (h : S.CHead Top c0 met m w bl) (hst : S.st m = .intermediate)
    (hcur : ∀ B, SubK S.n B (S.key m) → Top B) :
    wp C (S.discard m) w (fun m' w' => S.st m' = .justDiscarded ∧ S.cur m' = S.cur m ∧
      ∃ bl', S.CHead Top c0 (S.cur m :: met) m' w' bl') := by
  have hMem := h.member hst
  have hI := h.inv
  rw [hst] at hI
  refine wp_mono _ _ _ _ ?_ (hS.discard hst h.rel)
  rintro m' w' ⟨hst', hcur', hkey', hR, hcal⟩
  have hni : ¬ S.st m' = .init := by rw [hst']; exact fun e => nomatch e
  refine ⟨hst', hcur', _, ⟨hR, ?_, (fun e => nomatch (hst'.symm.trans e)), Or.inr (Or.inr hst')⟩,
    h.cnt.push (hI.fresh rfl) hMem.2.2 hMem.1 (hex h.rel), ?_⟩
  · rw [hst', hkey']
    exact hI.block_cur (fun e => nomatch e) (fun _ hB => hB) hcur
  · have hp := h.paid
    rw [hst, if_neg (fun e => nomatch e)] at hp
    rw [if_neg hni, hcal, hst']
    unfold metSize at hp ⊢
    rw [if_pos rfl] at hp
    rw [if_neg (fun e => nomatch e)]
    exact hp

end Crusta.Search
