import Crusta.Proofs.GBasic
import Crusta.Proofs.Maximal

/-!
# Extensions exist in finite graphs; the grounded and the ideal one are unique

Every member of a family of sets of live arguments of a finite graph lies below a ⊆-maximal one
(`G.exists_subMax`) and, the graph being well-formed, below a range-maximal one (`G.exists_rangeMax`).
Hence every admissible set lies in a preferred extension, a grounded, an ideal, a stage and a
semi-stable extension exist; the union of two ideal candidates is one, so the ideal extension is unique.
-/

namespace Crusta

theorem G.exists_subMax (g : G) (hfin : g.Fin) (B : ASet → Prop)
    (hB : ∀ S, B S → SubsetS S g.live) (S : ASet) (hS : B S) :
    ∃ M, B M ∧ SubsetS S M ∧ ∀ T, B T → SubsetS M T → SubsetS T M := by
  obtain ⟨n, hn⟩ := hfin
  exact Crusta.exists_subMax B (fun T hT a ha => hn a (hB T hT a ha)) S hS

theorem G.exists_preferred_above (g : G) (hfin : g.Fin) (S : ASet)
    (hS : g.Admissible S) : ∃ P, g.Preferred P ∧ SubsetS S P := by
  obtain ⟨M, hM, hSM, hmax⟩ := g.exists_subMax hfin g.Admissible (fun _ h => h.1.1) S hS
  exact ⟨M, ⟨hM, hmax⟩, hSM⟩

theorem G.preferred_of_max_complete {g : G} (hfin : g.Fin) {S : ASet}
    (hS : g.Complete S) (hmax : ∀ T, g.Complete T → SubsetS S T → SubsetS T S) : g.Preferred S := by
  refine ⟨hS.1, fun T hT hST => ?_⟩
  obtain ⟨P, hP, hTP⟩ := g.exists_preferred_above hfin T hT
  exact fun a ha => hmax P (G.preferred_complete hP) (fun a ha => hTP a (hST a ha)) a (hTP a ha)

theorem G.exists_preferred (g : G) (hfin : g.Fin) : ∃ P, g.Preferred P := by
  obtain ⟨P, hP, _⟩ := g.exists_preferred_above hfin _ g.admissible_empty
  exact ⟨P, hP⟩

/-- a ⊆-maximal admissible set included in every complete extension is complete -/
theorem G.exists_grounded (g : G) (hfin : g.Fin) : ∃ S, g.Grounded S := by
  let B : ASet → Prop := fun S => g.Admissible S ∧ ∀ T, g.Complete T → SubsetS S T
  have h0 : B (fun _ => false) := ⟨g.admissible_empty, fun _ _ a ha => by cases ha⟩
  obtain ⟨M, hM, _, hmax⟩ := g.exists_subMax hfin B (fun S h => h.1.1.1) _ h0
  refine ⟨M, ⟨hM.1, fun x hx hd => ?_⟩, hM.2⟩
  have hB' : B (addArg M x) := by
    refine ⟨G.admissible_addArg hM.1 hx hd, fun T hT a ha => ?_⟩
    rcases (addArg_true M x a).1 ha with ha | rfl
    · exact hM.2 T hT a ha
    · refine hT.2 a hx (fun b hba => ?_)
      obtain ⟨c, hcb, hc⟩ := hd b hba
      exact ⟨c, hcb, hM.2 T hT c hc⟩
  exact hmax _ hB' (fun a ha => (addArg_true M x a).2 (Or.inl ha)) x ((addArg_true M x x).2 (Or.inr rfl))

/-- the union lies in a preferred extension (`hex`), hence is conflict-free -/
theorem G.idealCand_union {g : G} (hex : ∃ P, g.Preferred P) {S T : ASet} (hS : g.IdealCand S)
    (hT : g.IdealCand T) : g.IdealCand (unionS S T) := by
  have hin : ∀ P, g.Preferred P → SubsetS (unionS S T) P := fun P hP a ha =>
    (unionS_true.1 ha).elim (hS.2 P hP a) (hT.2 P hP a)
  obtain ⟨P, hP⟩ := hex
  refine ⟨⟨⟨fun a ha => hP.1.1.1 a (hin P hP a ha), ?_⟩, fun a ha b hba => ?_⟩, hin⟩
  · rintro a ha ⟨b, hb, hbU⟩
    exact hP.1.1.2 a (hin P hP a ha) ⟨b, hb, hin P hP b hbU⟩
  · rcases unionS_true.1 ha with h | h
    · obtain ⟨c, hcb, hc⟩ := hS.1.2 a h b hba
      exact ⟨c, hcb, unionS_true.2 (Or.inl hc)⟩
    · obtain ⟨c, hcb, hc⟩ := hT.1.2 a h b hba
      exact ⟨c, hcb, unionS_true.2 (Or.inr hc)⟩

/-- each of two ideal extensions contains their union -/
theorem G.ideal_unique {g : G} (hex : ∃ P, g.Preferred P) {S T : ASet} (hS : g.Ideal S) (hT : g.Ideal T)
    (a : Nat) : S a = T a :=
  Bool.eq_iff_iff.2
    ⟨fun h => hT.2 _ (G.idealCand_union hex hT.1 hS.1) (fun _ hx => unionS_true.2 (Or.inl hx)) a
      (unionS_true.2 (Or.inr h)),
     fun h => hS.2 _ (G.idealCand_union hex hS.1 hT.1) (fun _ hx => unionS_true.2 (Or.inl hx)) a
      (unionS_true.2 (Or.inr h))⟩

theorem G.exists_ideal (g : G) (hfin : ∃ n, ∀ a, g.live a = true → a < n) : ∃ S, g.Ext .ID S := by
  obtain ⟨M, hM, _, hmax⟩ := g.exists_subMax hfin g.IdealCand (fun S h => h.1.1.1) _
    ⟨g.admissible_empty, fun _ _ a ha => by cases ha⟩
  exact ⟨M, hM, hmax⟩

theorem G.grounded_unique {g : G} {S T : ASet} (hS : g.Grounded S) (hT : g.Grounded T) (a : Nat) : S a = T a :=
  Bool.eq_iff_iff.2 ⟨hS.2 T hT.1 a, hT.2 S hS.1 a⟩

theorem G.inRange_live {g : G} (hwf : g.WF) {S : ASet} (hS : SubsetS S g.live) {a : Nat}
    (h : g.InRange S a) : g.live a = true := by
  rcases h with h | ⟨b, hb, _⟩
  · exact hS a h
  · exact (hwf b a hb).2

open Classical in
/-- `exists_max_above` for the range preorder; the measure is the number of ids of the (bounded)
universe outside the range -/
theorem G.exists_rangeMax (g : G) (hwf : g.WF) (hfin : ∃ n, ∀ a, g.live a = true → a < n) (B : ASet → Prop)
    (hB : ∀ S, B S → ∀ a, S a = true → g.live a = true) (S : ASet) (hS : B S) :
    ∃ M, B M ∧ g.RangeSub S M ∧ ∀ T, B T → g.RangeSub M T → g.RangeSub T M := by
  obtain ⟨n, hn⟩ := hfin
  -- the range as a Boolean predicate, for counting
  let rB : ASet → Nat → Bool := fun S a => decide (g.InRange S a)
  have hrB : ∀ S a, rB S a = true ↔ g.InRange S a := fun _ _ => decide_eq_true_iff
  refine exists_max_above B g.RangeSub (fun S => n - (List.range n).countP (rB S)) (fun _ _ h => h)
    (fun h1 h2 a ha => h2 a (h1 a ha)) (fun S T hT hST hn' => ?_) S hS
  simp only [G.RangeSub, Classical.not_forall] at hn'
  obtain ⟨a, hTa, hSa⟩ := hn'
  have hlt := countP_lt_of (rB S) (rB T) a
    ((hrB T a).2 hTa) (Bool.eq_false_iff.2 fun h => hSa ((hrB S a).1 h)) (List.range n)
    (fun x _ hx => (hrB T x).2 (hST x ((hrB S x).1 hx)))
    (List.mem_range.2 (hn a (G.inRange_live hwf (hB T hT) hTa)))
  have hle : (List.range n).countP (rB T) ≤ n :=
    Nat.le_trans List.countP_le_length (Nat.le_of_eq List.length_range)
  exact Nat.sub_lt_sub_left (Nat.lt_of_lt_of_le hlt hle) hlt

theorem G.exists_stage (g : G) (hwf : g.WF) (hfin : ∃ n, ∀ a, g.live a = true → a < n) : ∃ S, g.Stage S := by
  have h0 : g.CF (fun _ => false) := ⟨fun a h => (by cases h), fun a h => (by cases h)⟩
  obtain ⟨M, hM, _, hmax⟩ := g.exists_rangeMax hwf hfin g.CF (fun S h => h.1) _ h0
  exact ⟨M, hM, hmax⟩

theorem G.exists_semistable (g : G) (hwf : g.WF) (hfin : g.Fin) : ∃ S, g.SemiStable S := by
  obtain ⟨S0, h0, _⟩ := g.exists_grounded hfin
  obtain ⟨M, hM, _, hmax⟩ := g.exists_rangeMax hwf hfin g.Complete (fun S h => h.1.1.1) _ h0
  exact ⟨M, hM, hmax⟩

end Crusta
