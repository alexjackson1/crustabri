import Crusta.Proofs.SolvePR

/-!
# C18 on the `Prog` models: termination and SAT-call bounds of the preferred searches on one component

For **sound** replies, `wp False p w (fun _ w' => w'.calls ≤ w.calls + k)` says: the program `p`
reaches no `crash` node (in particular the fuel of its loops never runs out: with the stated fuel
the model loops exactly as long as the fuel-less Rust loop) and makes at most `k` SAT calls
(`calls_of_wp`, `Wp.lean`, restates this on `interp`).

The statements here have the fuel as a hypothesis; they are read off the specifications of
`SolvePR.lean`, whose crash condition is "the fuel is short".  The ideal semantics is in
`SolveCallsID.lean`, the range-based semantics in `SolveCallsRG.lean`.
-/

namespace Crusta
open Prog (mkSolver doReserve addClause addClauses getNVars doSolve)

theorem wp_increase_measure {m : MEC} {w : World} {blocked : List (List Nat)} (h : GrowInv m w blocked)
    (hst : m.state = .intermediate) :
    wp False m.computeNext w (fun m' w' => (∃ blocked', GrowInv m' w' blocked') ∧
      growMeasure m' + 1 ≤ growMeasure m ∧ w'.calls ≤ w.calls + 1) :=
  wp_mono _ _ _ _ (fun _ _ ⟨b, hG, _, _, _, _, _, _, hμ, hc⟩ => ⟨⟨b, hG⟩, hμ, Nat.le_of_eq hc⟩)
    (wp_increaseF prefFam_complete h hst)

theorem computeMaximal_calls : ∀ (fuel : Nat) (m : MEC) (w : World) (blocked : List (List Nat)),
    GrowInv m w blocked → fuel ≥ growMeasure m + 1 →
    wp False (MEC.computeMaximal fuel m) w (fun _ w' => w'.calls ≤ w.calls + growMeasure m) :=
  fun fuel m w blocked h hf => wp_conseq (fun hc => Nat.not_le_of_lt hc hf) _ _ _ _ (fun _ _ h => h.2)
    (computeMaximal_specF prefFam_complete fuel m w blocked h)

theorem computeMaximal_init_calls (fuel : Nat) (m : MEC) (w : World) (h : MInv m w []) (hk : m.kind = .preferred)
    (hst : m.state = .init) (hgr : GrOK m.af) (hf : fuel ≥ m.af.n + 3) :
    wp False (MEC.computeMaximal fuel m) w (fun _ w' => w'.calls ≤ w.calls + m.af.n + 1) :=
  wp_conseq (fun hc => Nat.not_le_of_lt hc hf) _ _ _ _ (fun _ _ h => h.2)
    (computeMaximal_init_specF prefFam_complete fuel m w h hk hst hgr)

theorem prMaximalOfComp_calls (cfg : Cfg) (hk : ∀ af T, cfg.enc.Base af T ↔ Complete af T) (c : Comp)
    (hwf : c.af.WF) (hgr : GrOK c.af) (w : World) (hb : w.Bounded) (hfuel : cfg.fuel ≥ c.af.n + 3) :
    wp False (prMaximalOfComp cfg c) w (fun _ w' => w'.calls ≤ w.calls + c.af.n + 1) :=
  wp_conseq (fun hc => Nat.not_le_of_lt hc hfuel) _ _ _ _ (fun _ _ h => h.2.2)
    (prMaximalOfComp_specF prefFam_complete cfg hk c hwf hgr w hb)

/-- `|CO|` (the number of complete sets of the component) calls are within the `|base| + |PR| + 1` of
property C18 -/
theorem prSkeptInCc_calls_c18 (cfg : Cfg) (hk : ∀ af T, cfg.enc.Base af T ↔ Complete af T) (c : Comp)
    (args : List Nat) (sc : Bool) (hwf : c.af.WF) (hgr : GrOK c.af) (w : World) (hb : w.Bounded)
    (hpos : ∃ pos, posAll c args = some pos)
    (hfuel : cfg.fuel ≥ (extsCO c.af).length + 1) :
    wp False (prSkeptInCc cfg c args sc) w
      (fun _ w' => w'.calls ≤ w.calls + (extsCO c.af).length + (extsPR c.af).length + 1) := by
  refine wp_conseq ?_ _ _ _ _
    (fun _ _ h => Nat.le_trans h.2.2 (Nat.le_trans (Nat.le_add_right _ _) (Nat.le_add_right _ _)))
    (prSkeptInCc_spec cfg hk c args sc hwf hgr w hb)
  rintro (hn | hlt)
  · obtain ⟨pos, hp⟩ := hpos
    rw [hp] at hn; cases hn
  · exact Nat.not_le_of_lt hlt hfuel

end Crusta
