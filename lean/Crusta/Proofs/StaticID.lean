import Crusta.Proofs.SolveID
import Crusta.Proofs.StaticPRCO

/-!
# Ideal solver: entry points on the whole framework

A finite graph has exactly one ideal extension (`G.exists_ideal`, `G.ideal_unique`), so credulous and
skeptical acceptance coincide, and the skeptical status without certificate is answered by the
credulous procedure.
-/

namespace Crusta
attribute [local irreducible] wp -- see `Assemble`

/-- `Sem.GExt .ID g S`, `g.Ext .ID S` (`G.exists_ideal`) and `g.Ideal S` (`G.ideal_unique`) are one
proposition by unfolding, and are used as such below -/
theorem id_cred_iff_skep (g : G) (hfin : g.Fin) (args : List Nat) :
    (∃ S, Sem.GExt .ID g S ∧ HitsL args S) ↔ (∀ S, Sem.GExt .ID g S → HitsL args S) := by
  have hex := g.exists_preferred hfin
  constructor
  · rintro ⟨S, hS, hh⟩ T hT
    exact (HitsL.congr (G.ideal_unique hex hS hT)).1 hh
  · intro h
    obtain ⟨I, hI⟩ := g.exists_ideal hfin
    exact ⟨I, hI, h I hI⟩

theorem DSOK_of_DCOK_id {g : G} (hfin : g.Fin) {args : List Nat} {a : AccAns}
    (h : DCOK .ID g args false a) : DSOK .ID g args false a := by
  have hiff := id_cred_iff_skep g hfin args
  refine ⟨fun hs => ⟨hiff.1 (h.1 hs).1, fun hc => by cases hc⟩, fun hs => ⟨?_, fun hc => by cases hc⟩⟩
  obtain ⟨I, hI⟩ := g.exists_ideal hfin
  exact ⟨I, hI, fun hh => (h.2 hs).1 ⟨I, hI, hh⟩⟩

section
variable (cfg : Cfg) (hk : ∀ af T, cfg.enc.Base af T ↔ Complete af T) (v : FwView) (g : G) (hv : v.Ok g)
include hk hv

/-- the per-component function of `idSE` and of `idDCcert`'s loop over the remaining components -/
theorem wp_idOneBack (c : Comp) (hgood : GoodComp g c) (w : World) (hb : w.Bounded) :
    wp (FuelShort cfg v) (do let e ← idOneForCc cfg c; pure (c.back e)) w
      (fun r _ => ∃ e, r = c.back e ∧ ExtIn .ID c e) := by
  simp only [Prog.bind_eq]
  rw [wp_bind]
  refine wp_conseq (FuelShort.of_ge (fuel_copr hv hgood)) _ _ _ _ ?_
    (idOneForCc_spec cfg hk c (Comp.af_wf hgood) (GrOK_of_wf _ (Comp.af_wf hgood)) w hb)
  rintro e w' ⟨he, _⟩
  exact (wp_pure _ _ _).2 ⟨e, rfl, he⟩

/-- the result is known to be `some`, for `id_ds_cert_ok` -/
theorem id_se_ext (w : World) (hb : w.Bounded) :
    wp (FuelShort cfg v) (idSE cfg v) w (fun res _ => ∃ e, res = some e ∧ g.Ideal (ofList e)) := by
  refine (wp_bind' _ _ w _).2 (wp_mono _ _ _ _ (fun res _ h => (wp_pure _ _ _).2 ⟨res, rfl, h.2⟩)
    (se_by_components_spec .ID _ v g hv (fun c w hb hc => ?_) w hb))
  -- the throw-away solver of `compute_one_extension` is created and encoded first
  simp only [Prog.bind_eq]
  rw [wp_bind, wp_mkSolver, wp_bind]
  have hlen : w.solvers.length < w.onNew.solvers.length := by simp [World.onNew]
  apply wp_encodeInto _ _ _ _ _ (Bounded_onNew hb) hlen (db_onNew_self w)
  intro w1 henc
  exact wp_idOneBack cfg hk v g hv c hc w1 henc.bounded

theorem id_se_ok (w : World) (hb : w.Bounded) :
    wp (FuelShort cfg v) (idSE cfg v) w (fun res _ => SEOK .ID g res) := by
  refine wp_mono _ _ _ _ ?_ (id_se_ext cfg hk v g hv w hb)
  rintro res w' ⟨e, rfl, hext⟩
  exact SEOK.of_some hext

theorem id_dc_ok (args : List Nat) (hargs : ∀ a ∈ args, g.live a = true) (w : World) (hb : w.Bounded) :
    wp (FuelShort cfg v) (idDC cfg v args) w (fun a _ => DCOK .ID g args false a) := by
  unfold idDC
  simp only [Prog.bind_eq]
  rw [wp_bind]
  apply wp_needMerged hv hargs
  intro c cc hgood hin _
  simp only
  rw [wp_bind]
  apply wp_ccArgsC _ _ _ _ (Or.inr (posAll_of_mem c args hin))
  intro pos hpos
  rw [wp_bind]
  refine wp_conseq (FuelShort.of_ge (fuel_copr hv hgood)) _ _ _ _ ?_
    (idCredForCc_spec cfg hk c pos (Comp.af_wf hgood) (GrOK_of_wf _ (Comp.af_wf hgood)) w hb)
  rintro ⟨st, ce⟩ w' ⟨⟨h1, h2⟩, _⟩
  exact (wp_pure _ _ _).2 (accOK_of_comp hv .ID (g.exists_ideal hv.fin) hgood hin hpos true st
    (fun hs => (h1 hs).elim fun e h => ⟨_, h.2.1, h.2.2.1⟩) (fun hs => (h2 hs).2)).dc

theorem id_dc_cert_ok (args : List Nat) (hargs : ∀ a ∈ args, g.live a = true) (w : World) (hb : w.Bounded) :
    wp (FuelShort cfg v) (idDCcert cfg v args) w (fun a _ => DCOK .ID g args true a) := by
  unfold idDCcert
  simp only [Prog.bind_eq]
  rw [wp_bind]
  apply wp_needMerged hv hargs
  intro c cc hgood hin hI
  simp only
  rw [wp_bind]
  apply wp_ccArgsC _ _ _ _ (Or.inr (posAll_of_mem c args hin))
  intro pos hpos
  rw [wp_bind]
  refine wp_mono _ _ _ _ ?_ (wp_bounded _ _ _ hb (wp_conseq (FuelShort.of_ge (fuel_copr hv hgood)) _ _ _ _
    (fun _ _ h => h.1) (idCredForCc_spec cfg hk c pos (Comp.af_wf hgood) (GrOK_of_wf _ (Comp.af_wf hgood)) w hb)))
  rintro ⟨st, ce⟩ w1 ⟨hb1, h1, h2⟩
  cases st with
  | true =>
    obtain ⟨e, he, hIe, hhit, hlt⟩ := h1 rfl
    cases he
    show wp _ ((otherCompsWith v _ cfg.fuel cc _).bind _) _ _
    rw [wp_bind]
    refine wp_mono _ _ _ _ ?_ (cert_by_components hv .ID _ (fun oc w' hb' hg' => wp_idOneBack cfg hk v g hv oc hg' w' hb')
      hgood hI hin hpos hIe hlt cfg.fuel (otherComps_fuel' hI) w1 hb1)
    rintro res _ ⟨hext, hiff⟩
    exact (wp_pure _ _ _).2 (AccOK.yes (cred := true) hext (hiff.2 hhit)).dc
  | false =>
    obtain ⟨he, hno⟩ := h2 rfl
    cases he
    refine (wp_pure _ _ _).2 (AccOK.no (cred := true) fun hn => ?_).dc
    obtain ⟨T, hT, hh⟩ := (wit_lift hv .ID (g.exists_ideal hv.fin) hgood hin hpos true).2 hn
    exact hno T hT hh

theorem id_ds_cert_ok (args : List Nat) (w : World) (hb : w.Bounded) :
    wp (FuelShort cfg v) (idDScert cfg v args) w (fun a _ => DSOK .ID g args true a) := by
  unfold idDScert
  simp only [Prog.bind_eq]
  rw [wp_bind]
  refine wp_mono _ _ _ _ ?_ (id_se_ext cfg hk v g hv w hb)
  rintro res w' ⟨ext, rfl, hext⟩
  dsimp only
  split
  · rename_i hany
    refine (wp_pure _ _ _).2 ⟨fun _ => ⟨fun S hS => ?_, fun _ => rfl⟩, fun hf => (by cases hf)⟩
    exact (HitsL.congr (G.ideal_unique (g.exists_preferred hv.fin) hext hS)).1 ((hitsL_any _ _).1 hany)
  · rename_i hany
    exact (wp_pure _ _ _).2 (AccOK.yes (σ := .ID) (cred := false) hext fun hh => hany ((hitsL_any _ _).2 hh)).ds

theorem id_ds_ok (args : List Nat) (hargs : ∀ a ∈ args, g.live a = true) (w : World) (hb : w.Bounded) :
    wp (FuelShort cfg v) (idDC cfg v args) w (fun a _ => DSOK .ID g args false a) :=
  wp_mono _ _ _ _ (fun _ _ ha => DSOK_of_DCOK_id hv.fin ha) (id_dc_ok cfg hk v g hv args hargs w hb)

theorem id_entry_spec (e : Entry) (hargs : ∀ a, a ∈ e.argsList → g.live a = true) (p : Prog Ans)
    (hp : entryProg .ID cfg v e = some p) (w : World) (hb : w.Bounded) :
    wp (FuelShort cfg v) p w (fun ans _ => EntryOK .ID g e ans) := by
  cases e with
  | se =>
    obtain rfl := Option.some.inj hp
    exact wp_entry_se (id_se_ok cfg hk v g hv w hb)
  | dc cert args =>
    obtain rfl := Option.some.inj hp
    exact wp_entry_dc_ite (id_dc_cert_ok cfg hk v g hv args hargs w hb) (id_dc_ok cfg hk v g hv args hargs w hb)
  | ds cert args =>
    obtain rfl := Option.some.inj hp
    exact wp_entry_ds_ite (id_ds_cert_ok cfg hk v g hv args w hb) (id_ds_ok cfg hk v g hv args hargs w hb)

theorem id_entry_ok (e : Entry) (hargs : ∀ a, a ∈ e.argsList → g.live a = true) (p : Prog Ans)
    (hp : entryProg .ID cfg v e = some p) (w : World) (hb : w.Bounded) :
    wp True p w (fun ans _ => EntryOK .ID g e ans) :=
  wp_conseq (fun _ => trivial) _ _ _ _ (fun _ _ h => h) (id_entry_spec cfg hk v g hv e hargs p hp w hb)

end

end Crusta
