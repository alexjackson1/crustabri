import Crusta.Proofs.Sat

/-!
# Malformed solver replies are never reported as a result (C16)

Negative counterpart of `reply_faithful` / `parseReply_renderModel`: whatever the position of the
malformed part of the reply — in particular **after** an `s UNSATISFIABLE` line — the reply parser
aborts; it never answers `sat`, `unsat` or `unknown`.  (A parser that stops reading at the status
line violates `unsat_then_anything_bad`.)

The proofs read an accepted reply: `foldLines_split_ok` gives the states before and after any of its
lines, and `accepted_not_bad`, `accepted_no_status`, `accepted_no_zero` say which lines cannot occur
in it: a `BadLine` (rejected in every parser state; the `badLine_*` lemmas are its concrete
sufficient conditions), a second status line, a second terminating `0`.
-/

namespace Crusta.Sat
open Crusta Crusta.IO

/-- an error is final: the whole reply is rejected with that very error, whatever follows -/
theorem replyLine_error_final (nv : Nat) (pre : List (Option Str)) (s s' : PSt) (l : Option Str)
    (post : List (Option Str)) (e : String)
    (h1 : foldLines (replyLine nv) s pre = .ok s') (h2 : replyLine nv s' l = .error e) :
    foldLines (replyLine nv) s (pre ++ l :: post) = .error e := by
  rw [foldLines_append, h1]
  simp only [foldLines, h2]

theorem foldLines_error_prefix {σ : Type} (f : σ → Option Str → Except String σ)
    (a b : List (Option Str)) (s : σ) (e : String) (h : foldLines f s a = .error e) :
    foldLines f s (a ++ b) = .error e := by
  rw [foldLines_append, h]

theorem parseReply_abort_of_not_ok (nv : Nat) (out : List UInt8)
    (h : ∀ st, foldLines (replyLine nv) { asg := List.replicate nv none } (lines out) ≠ .ok st) :
    ∃ e, parseReply nv out = .abort e :=
  let ⟨e, he⟩ := error_of_not_ok h
  ⟨e, parseReply_of_error he⟩

theorem abort_not_result (r : PReply) (h : ∃ e, r = .abort e) :
    r ≠ .unsat ∧ r ≠ .unknown ∧ ∀ m, r ≠ .sat m := by
  obtain ⟨e, rfl⟩ := h
  exact ⟨nofun, nofun, fun _ => nofun⟩

/-- a line the parser rejects in every state -/
def BadLine (nv : Nat) (l : Option Str) : Prop := ∀ st, ∃ e, replyLine nv st l = .error e

theorem accepted_not_bad {nv : Nat} {ls : List (Option Str)} {st st' : PSt}
    (h : foldLines (replyLine nv) st ls = .ok st') : ∀ l ∈ ls, ¬ BadLine nv l := by
  intro l hl hb
  obtain ⟨a, b, rfl⟩ := List.append_of_mem hl
  obtain ⟨s1, s2, _, h2, _⟩ := foldLines_split_ok h
  obtain ⟨e, he⟩ := hb s1
  rw [he] at h2; cases h2

theorem bad_line_aborts (nv : Nat) (out : List UInt8) (h : ∃ l ∈ lines out, BadLine nv l) :
    ∃ e, parseReply nv out = .abort e := by
  obtain ⟨l, hl, hb⟩ := h
  exact parseReply_abort_of_not_ok nv out fun _ h => accepted_not_bad h l hl hb

/-- invalid UTF-8 -/
theorem badLine_none (nv : Nat) : BadLine nv none := fun _ => ⟨_, rfl⟩

/-- a line that is neither a status line, nor a `v ` line, nor a comment, nor a bare `c` /
`v`, nor empty -/
theorem badLine_unexpected (nv : Nat) (l : Str) (h1 : l ≠ sSat) (h2 : l ≠ sUnsat)
    (h3 : ∀ t, l ≠ 118 :: 32 :: t) (h4 : ∀ t, l ≠ 99 :: 32 :: t) (h5 : l ≠ [99]) (h6 : l ≠ [118])
    (h7 : l ≠ []) : BadLine nv (some l) := by
  intro st
  rw [replyLine_some, if_neg h1, if_neg h2, if_neg (fun ⟨t, e⟩ => h3 t e.symm), if_neg]
  · exact ⟨_, rfl⟩
  · rintro (⟨t, e⟩ | h | h | h)
    · exact h4 t e.symm
    · exact h5 h
    · exact h6 h
    · exact h7 h

/-- the same in the vocabulary of the model: the five tests of `replyLine` all fail -/
theorem badLine_unexpected' (nv : Nat) (l : Str) (h1 : l ≠ strOf "s SATISFIABLE")
    (h2 : l ≠ strOf "s UNSATISFIABLE") (h3 : (strOf "v ").isPrefixOf l = false)
    (h4 : (strOf "c ").isPrefixOf l = false) (h5 : l ≠ strOf "c") (h6 : l ≠ strOf "v")
    (h7 : l ≠ []) : BadLine nv (some l) := by
  rw [strOf_sSat] at h1; rw [strOf_sUnsat] at h2; rw [strOf_c] at h5; rw [strOf_v] at h6
  rw [strOf_v_sp, ← Bool.not_eq_true, List.isPrefixOf_iff_prefix] at h3
  rw [strOf_c_sp, ← Bool.not_eq_true, List.isPrefixOf_iff_prefix] at h4
  exact badLine_unexpected nv l h1 h2 (fun t e => h3 ⟨t, e.symm⟩) (fun t e => h4 ⟨t, e.symm⟩) h5 h6 h7

/-- a `v ` line with a bad token anywhere on it -/
theorem badLine_vline (nv : Nat) (t : Str) (h : ∃ w ∈ splitAsciiWs t, BadTok nv w) :
    BadLine nv (some (118 :: 32 :: t)) := by
  intro st
  obtain ⟨w, hw, hb⟩ := h
  rw [replyLine_vline]
  exact error_of_not_ok fun _ h => (vTokens_ok h).2.2 w hw hb

/-- the same in the vocabulary of the model (`(splitAsciiWs l).drop 1` for a line prefixed by
`v `) -/
theorem badLine_vline' (nv : Nat) (l : Str) (hp : (strOf "v ").isPrefixOf l = true)
    (h : ∃ w ∈ (splitAsciiWs l).drop 1, BadTok nv w) : BadLine nv (some l) := by
  rw [strOf_v_sp, List.isPrefixOf_iff_prefix] at hp
  obtain ⟨t, rfl⟩ := hp
  rw [show [118, 32] ++ t = 118 :: 32 :: t from rfl, vline_tokens] at h
  exact badLine_vline nv t h

theorem badLine_vline_first_not_int (nv : Nat) (l w : Str) (hp : (strOf "v ").isPrefixOf l = true)
    (hw : ((splitAsciiWs l).drop 1).head? = some w) (hn : parseIsize w = none) :
    BadLine nv (some l) :=
  badLine_vline' nv l hp ⟨w, List.mem_of_head? hw, Or.inl hn⟩

theorem badLine_vline_first_out_of_bounds (nv : Nat) (l w : Str) (n : Int)
    (hp : (strOf "v ").isPrefixOf l = true)
    (hw : ((splitAsciiWs l).drop 1).head? = some w) (hn : parseIsize w = some n) (h0 : n ≠ 0)
    (hv : n.natAbs - 1 ≥ nv) : BadLine nv (some l) :=
  badLine_vline' nv l hp ⟨w, List.mem_of_head? hw, Or.inr ⟨n, hn, h0, hv⟩⟩

theorem badLine_vline_two_zeroes (nv : Nat) (t : Str) (a : List Str) (z1 : Str) (b : List Str)
    (z2 : Str) (c : List Str) (hs : splitAsciiWs t = a ++ z1 :: (b ++ z2 :: c))
    (h1 : parseIsize z1 = some 0) (h2 : parseIsize z2 = some 0) :
    BadLine nv (some (118 :: 32 :: t)) := by
  intro st
  rw [replyLine_vline, hs, List.append_cons]
  refine error_of_not_ok fun _ h => ?_
  -- once `z1` has been read the line has ended, so `z2` cannot follow
  obtain ⟨s, ha, hb⟩ := vTokens_append_ok h
  have he : s.ended = true := (vTokens_ended ha).1.2 (.inr ⟨z1, by simp, h1⟩)
  exact (vTokens_ended hb).2 he z2 (by simp) h2

def StatusLine (l : Option Str) : Prop := l = some sSat ∨ l = some sUnsat

theorem replyLine_statusLine (nv : Nat) (st : PSt) (l : Option Str) (hl : StatusLine l) :
    ∃ b, replyLine nv st l =
      if st.status.isSome then .error "multiple status lines" else .ok { st with status := some b } := by
  rcases hl with rfl | rfl
  · exact ⟨true, replyLine_sSat nv st⟩
  · exact ⟨false, replyLine_sUnsat nv st⟩

theorem replyLine_statusLine_ok (nv : Nat) (st st' : PSt) (l : Option Str) (hl : StatusLine l)
    (h : replyLine nv st l = .ok st') : st'.status.isSome = true := by
  obtain ⟨b, hb⟩ := replyLine_statusLine nv st l hl
  rw [hb] at h
  split at h
  · cases h
  · cases h; rfl

theorem foldLines_status_isSome (nv : Nat) : ∀ (ls : List (Option Str)) (st st' : PSt),
    foldLines (replyLine nv) st ls = .ok st' → st.status.isSome = true → st'.status.isSome = true :=
  fun _ _ _ h hs => by
    rcases (replyFold_origin h).2.1 with e | ⟨hn, _⟩
    · exact e ▸ hs
    · rw [hn] at hs; cases hs

theorem accepted_no_status {nv : Nat} {ls : List (Option Str)} {st st' : PSt}
    (h : foldLines (replyLine nv) st ls = .ok st') (hs : st.status.isSome = true) :
    ∀ l ∈ ls, ¬ StatusLine l := by
  intro l hl hsl
  obtain ⟨a, b, rfl⟩ := List.append_of_mem hl
  obtain ⟨s1, s2, h1, h2, _⟩ := foldLines_split_ok h
  obtain ⟨_, hb⟩ := replyLine_statusLine nv s1 l hsl
  rw [hb, if_pos (foldLines_status_isSome nv a st s1 h1 hs)] at h2
  cases h2

/-- **after a status line** (in particular `s UNSATISFIABLE`), a bad line or a further status line
anywhere in the rest of the reply aborts: the rest of the reply is read and checked -/
theorem status_then_anything_bad (nv : Nat) (out : List UInt8) (a b : List (Option Str))
    (s : Option Str) (hs : StatusLine s) (hl : lines out = a ++ s :: b)
    (hb : ∃ l ∈ b, BadLine nv l ∨ StatusLine l) : ∃ e, parseReply nv out = .abort e := by
  refine parseReply_abort_of_not_ok nv out fun _ h => ?_
  rw [hl] at h
  obtain ⟨s1, s2, _, h2, h3⟩ := foldLines_split_ok h
  obtain ⟨l, hlb, hbad | hst⟩ := hb
  · exact accepted_not_bad h3 l hlb hbad
  · exact accepted_no_status h3 (replyLine_statusLine_ok nv s1 s2 s hs h2) l hlb hst

/-- **two status lines anywhere abort**: whatever the two status lines (equal or different, in any
order) and whatever is before, between and after them -/
theorem two_status_lines_abort (nv : Nat) (out : List UInt8) (a b c : List (Option Str))
    (s1 s2 : Option Str) (h1 : StatusLine s1) (h2 : StatusLine s2)
    (hl : lines out = a ++ s1 :: (b ++ s2 :: c)) : ∃ e, parseReply nv out = .abort e :=
  status_then_anything_bad nv out a _ s1 h1 hl ⟨s2, by simp, .inr h2⟩

theorem two_status_lines_abort_idx (nv : Nat) (out : List UInt8) (i j : Nat) (hij : i < j)
    (s1 s2 : Option Str) (h1 : StatusLine s1) (h2 : StatusLine s2)
    (hi : (lines out)[i]? = some s1) (hj : (lines out)[j]? = some s2) :
    ∃ e, parseReply nv out = .abort e := by
  obtain ⟨hil, rfl⟩ := List.getElem?_eq_some_iff.1 hi
  have hl : lines out = (lines out).take i ++ (lines out)[i] :: (lines out).drop (i + 1) := by
    rw [← List.drop_eq_getElem_cons hil, List.take_append_drop]
  refine status_then_anything_bad nv out _ _ _ h1 hl ⟨s2, List.mem_of_getElem? (i := j - (i + 1)) ?_, .inr h2⟩
  rw [List.getElem?_drop, show i + 1 + (j - (i + 1)) = j by omega, hj]

theorem accepted_no_zero {nv : Nat} {ls : List (Option Str)} {st st' : PSt}
    (h : foldLines (replyLine nv) st ls = .ok st') (he : st.ended = true) :
    ∀ l ∈ ls, ¬ ZeroLine l := by
  rintro l hl ⟨t, rfl, w, hw, h0⟩
  obtain ⟨a, b, rfl⟩ := List.append_of_mem hl
  obtain ⟨s1, s2, h1, h2, _⟩ := foldLines_split_ok h
  rw [replyLine_vline] at h2
  refine (vTokens_ended h2).2 ?_ w hw h0
  rcases (replyFold_origin h1).2.2 with e | ⟨hf, _⟩
  · exact e.trans he
  · rw [hf] at he; cases he

/-- **two terminating zeroes anywhere abort** (on two value lines; for the same line see
`badLine_vline_two_zeroes`) -/
theorem two_zeroes_abort (nv : Nat) (out : List UInt8) (a b c : List (Option Str))
    (z1 z2 : Option Str) (h1 : ZeroLine z1) (h2 : ZeroLine z2)
    (hl : lines out = a ++ z1 :: (b ++ z2 :: c)) : ∃ e, parseReply nv out = .abort e := by
  refine parseReply_abort_of_not_ok nv out fun _ h => ?_
  rw [hl] at h
  obtain ⟨s1, s2, _, hz, h3⟩ := foldLines_split_ok h
  obtain ⟨t, rfl, hw⟩ := h1
  rw [replyLine_vline] at hz
  exact accepted_no_zero h3 ((vTokens_ended hz).1.2 (.inr hw)) z2 (by simp) h2

/-- **`s UNSATISFIABLE` followed, anywhere, by a bad line or a status line is not "unsat"** -/
theorem unsat_then_anything_bad (nv : Nat) (out : List UInt8) (a b : List (Option Str))
    (hl : lines out = a ++ some sUnsat :: b) (hb : ∃ l ∈ b, BadLine nv l ∨ StatusLine l) :
    (∃ e, parseReply nv out = .abort e) ∧ parseReply nv out ≠ .unsat := by
  have h := status_then_anything_bad nv out a b _ (Or.inr rfl) hl hb
  exact ⟨h, (abort_not_result _ h).1⟩

theorem sat_then_anything_bad (nv : Nat) (out : List UInt8) (a b : List (Option Str))
    (hl : lines out = a ++ some sSat :: b) (hb : ∃ l ∈ b, BadLine nv l ∨ StatusLine l) :
    (∃ e, parseReply nv out = .abort e) ∧ ∀ m, parseReply nv out ≠ .sat m := by
  have h := status_then_anything_bad nv out a b _ (Or.inl rfl) hl hb
  exact ⟨h, (abort_not_result _ h).2.2⟩

/-- contrapositive: whenever a result (`sat`, `unsat` or `unknown`) is returned, **every** line of
the reply was acceptable in some state -/
theorem result_all_lines_accepted (nv : Nat) (out : List UInt8)
    (h : ∀ e, parseReply nv out ≠ .abort e) : ∀ l ∈ lines out, ¬ BadLine nv l :=
  fun l hl hb => by
    obtain ⟨e, he⟩ := bad_line_aborts nv out ⟨l, hl, hb⟩
    exact h e he

theorem result_status_unique (nv : Nat) (out : List UInt8) (h : ∀ e, parseReply nv out ≠ .abort e)
    (i j : Nat) (s1 s2 : Option Str) (h1 : StatusLine s1) (h2 : StatusLine s2)
    (hi : (lines out)[i]? = some s1) (hj : (lines out)[j]? = some s2) : i = j := by
  rcases Nat.lt_trichotomy i j with hij | hij | hij
  · obtain ⟨e, he⟩ := two_status_lines_abort_idx nv out i j hij s1 s2 h1 h2 hi hj
    exact absurd he (h e)
  · exact hij
  · obtain ⟨e, he⟩ := two_status_lines_abort_idx nv out j i hij s2 s1 h2 h1 hj hi
    exact absurd he (h e)

/-! ## non-vacuity: concrete replies -/

/-- `s UNSATISFIABLE\nfoo\n` : the line `foo` after the status line is checked -/
example (nv : Nat) : ∃ e, parseReply nv
    [115, 32, 85, 78, 83, 65, 84, 73, 83, 70, 73, 65, 66, 76, 69, 10, 102, 111, 111, 10] = .abort e :=
  And.left (unsat_then_anything_bad nv _ [] [some [102, 111, 111]] (by decide)
    ⟨_, List.mem_singleton.2 rfl, Or.inl (badLine_unexpected nv _ (by decide) (by decide) (by simp)
      (by simp) (by decide) (by decide) (by decide))⟩)

/-- `s UNSATISFIABLE\nv x\n` : a non-literal on a value line after the status line -/
example (nv : Nat) : ∃ e, parseReply nv
    [115, 32, 85, 78, 83, 65, 84, 73, 83, 70, 73, 65, 66, 76, 69, 10, 118, 32, 120, 10] = .abort e :=
  And.left (unsat_then_anything_bad nv _ [] [some [118, 32, 120]] (by decide)
    ⟨_, List.mem_singleton.2 rfl, Or.inl (badLine_vline nv [120] ⟨[120], by decide, Or.inl (by decide)⟩)⟩)

/-- `s UNSATISFIABLE\nc x\ns SATISFIABLE\n` : contradictory status lines -/
example (nv : Nat) : ∃ e, parseReply nv
    [115, 32, 85, 78, 83, 65, 84, 73, 83, 70, 73, 65, 66, 76, 69, 10, 99, 32, 120, 10,
     115, 32, 83, 65, 84, 73, 83, 70, 73, 65, 66, 76, 69, 10] = .abort e :=
  two_status_lines_abort nv _ [] [some [99, 32, 120]] [] _ _ (Or.inr rfl) (Or.inl rfl) (by decide)

end Crusta.Sat
