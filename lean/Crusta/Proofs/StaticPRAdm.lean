import Crusta.Proofs.StaticPR

/-!
# SE-PR with the admissibility encoder

For the problem string literally `SE-PR` and the encoding `aux_var`, the command line hands the
preferred solver the encoder of the **admissible sets** (`solve_command.rs`, `create_encoder`), not
the encoder of the complete extensions that `CfgOK .PR` asks for.  The search of `compute_maximal`
(start from the grounded extension, ask for a strict superset in the encoded family until UNSAT) is
correct for both: the grounded extension is admissible, and a ⊆-maximal admissible set is a
preferred extension by definition (`PrefFam`, `SolvePR.lean`; `pr_se_okF`, `StaticPR.lean`).
-/

namespace Crusta
open Prog (mkSolver doReserve addClause addClauses getNVars doSolve)

theorem base_admissible_of {k : EncKind} (h : k = .auxADM) : ∀ af T, k.Base af T ↔ Admissible af T := by
  subst h; intro af T; rfl

theorem pr_se_totalF {F : AF → ASet → Prop} (hF : PrefFam F) (cfg : Cfg) (hk : ∀ af T, cfg.enc.Base af T ↔ F af T)
    (v : FwView) (g : G) (hv : v.Ok g) (w : World) (hb : w.Bounded)
    (hfuel : cfg.fuel ≥ fuelFor (1 + v.maxId.getD 0)) :
    wp False (prSE cfg v) w (fun res _ => SEOK .PR g res) :=
  wp_conseq (fun h => absurd hfuel (Nat.not_le_of_lt h)) _ _ _ _ (fun _ _ h => h) (pr_se_okF hF cfg hk v g hv w hb)

/-- `--encoding aux_var` is the default of the command line -/
theorem pr_se_ok_adm (cfg : Cfg) (henc : cfg.enc = .auxADM) (v : FwView) (g : G) (hv : v.Ok g)
    (w : World) (hb : w.Bounded) :
    wp True (prSE cfg v) w (fun res _ => SEOK .PR g res) :=
  wp_conseq (fun _ => trivial) _ _ _ _ (fun _ _ h => h)
    (pr_se_okF prefFam_admissible cfg (base_admissible_of henc) v g hv w hb)

theorem pr_se_total_adm (cfg : Cfg) (henc : cfg.enc = .auxADM) (v : FwView) (g : G) (hv : v.Ok g)
    (w : World) (hb : w.Bounded) (hfuel : cfg.fuel ≥ fuelFor (1 + v.maxId.getD 0)) :
    wp False (prSE cfg v) w (fun res _ => SEOK .PR g res) :=
  pr_se_totalF prefFam_admissible cfg (base_admissible_of henc) v g hv w hb hfuel

end Crusta
