import Crusta.Proofs.Deciders

/-!
# Counting the candidates of a search

A duplicate-free (as sets) list of members of a family injects into the exact enumeration of the
family: `length_le_extsCO`, `length_le_extsPR` are the bounds (`Search.Bound`) that `Search.Cnt` turns
into bounds on SAT calls and loop iterations (`length_le_extsCF`: the same for the conflict-free sets,
which no search enumerates).
-/

namespace Crusta

def DistinctS (l : List (List Nat)) : Prop := l.Pairwise (fun a b => ofList a ≠ ofList b)

def Search.Bound (F : ASet → Prop) (N : Nat) : Prop :=
  ∀ l : List (List Nat), DistinctS l → (∀ e ∈ l, F (ofList e)) → l.length ≤ N

theorem length_le_of_distinct (seen : List (List Nat)) : ∀ (L : List (List Nat)), DistinctS seen →
    (∀ e ∈ seen, ∃ l ∈ L, ofList l = ofList e) → seen.length ≤ L.length := by
  induction seen with
  | nil => intro _ _ _; exact Nat.zero_le _
  | cons e t ih =>
    intro L hd hm
    obtain ⟨l, hl, hle⟩ := hm e List.mem_cons_self
    have hd' := List.pairwise_cons.1 hd
    -- the rest of `seen` is found in `L` without `l`: its members differ from `e` as sets
    have := ih (L.erase l) hd'.2 (by
      intro e' he'
      obtain ⟨l', hl', hle'⟩ := hm e' (List.mem_cons_of_mem _ he')
      refine ⟨l', (List.mem_erase_of_ne ?_).2 hl', hle'⟩
      intro heq
      apply hd'.1 e' he'
      rw [← hle, ← hle', heq])
    rw [List.length_erase_of_mem hl] at this
    exact Nat.le_trans (Nat.succ_le_succ this) (Nat.le_of_eq (Nat.succ_pred_eq_of_pos (List.length_pos_of_mem hl)))

theorem length_le_fam (af : AF) (P : ASet → Prop) (fam : List (List Nat))
    (hfam : ∀ l, l ∈ fam ↔ l ∈ subsets af.n ∧ P (ofList l)) (hsub : ∀ T, P T → Sub af T) :
    Search.Bound P fam.length := by
  intro seen hd hP
  apply length_le_of_distinct seen fam hd
  intro e he
  obtain ⟨l, hl, hle⟩ := exists_list_of_sub af (ofList e) (hsub _ (hP e he))
  exact ⟨l, (hfam l).2 ⟨hl, by rw [hle]; exact hP e he⟩, hle⟩

theorem length_le_extsCO (af : AF) : Search.Bound (Complete af) (extsCO af).length :=
  length_le_fam af (Complete af) _ (mem_extsCO af) (fun _ h => co_sub h)

theorem length_le_extsPR (af : AF) : Search.Bound (Preferred af) (extsPR af).length :=
  length_le_fam af (Preferred af) _ (mem_extsPR af) (fun _ h => adm_sub h.1)

theorem length_le_extsCF (af : AF) (seen : List (List Nat)) (hd : DistinctS seen)
    (hP : ∀ e ∈ seen, ConflictFree af (ofList e)) : seen.length ≤ (extsCF af).length :=
  length_le_fam af (ConflictFree af) _ (mem_extsCF af) (fun _ h => cf_sub h) seen hd hP

end Crusta
