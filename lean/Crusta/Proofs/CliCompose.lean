import Crusta.Model.Cli
import Crusta.Proofs.StaticPRAdm
import Crusta.Proofs.StaticTotal

/-!
# The composition theorem for the command line

`solve_command.rs` answers a problem `t-σ` (`t` ∈ SE / DC / DS, `σ` one of the seven semantics) by
building one solver object (`dispatchSolver t σ`), handing it the encoder chosen by the `--encoding`
option (`dispatchEncoder`), and calling one entry point on it.  The solver object is **not** always
the solver of `σ`: SE-CO and DS-CO are answered by the grounded solver, DC-PR by the complete
solver; and the encoder is **not** always the one the solver type is specified for: for the problem
string literally `SE-PR` and the encoding `aux_var` the preferred solver is given the encoder of
the admissible sets.

This file composes the dispatch tables with the solver theorems (`static_entry_total`, and
`pr_se_totalF` for the admissibility encoder) and the spec-level bridges between the semantics, into
`cli_answer_valid`: the dispatched program never crashes and returns what the problem asks for
(`ProblemOK`).
-/

namespace Crusta.Cli
open Crusta

/-- the entry point called for a task (`cert` = `--with-certificate`, `args` = the queried arguments) -/
def entryOf : Task → Bool → List Nat → Entry
  | .SE, _, _ => .se
  | .DC, cert, args => .dc cert args
  | .DS, cert, args => .ds cert args

theorem entryOf_eq (t : Task) (cert : Bool) (args : List Nat) :
    entryOf t cert args = (match t with | .SE => .se | .DC => .dc cert args | .DS => .ds cert args) := by
  cases t <;> rfl

/-- credulous acceptance with the status decided under `σ` and the YES certificate an extension
under `τ` that contains a queried argument (`DCOK σ` when `τ = σ`) -/
def DCWOK (σ τ : Sem) (g : G) (args : List Nat) (cert : Bool) (a : AccAns) : Prop :=
  (a.status = true → (∃ S, σ.GExt g S ∧ HitsL args S) ∧
    (cert = true → ∃ e, a.cert = some e ∧ τ.GExt g (ofList e) ∧ HitsL args (ofList e))) ∧
  (a.status = false → (¬ ∃ S, σ.GExt g S ∧ HitsL args S) ∧ (cert = true → a.cert = none))

theorem DCWOK.dcok {σ τ : Sem} {g : G} {args : List Nat} {cert : Bool} {a : AccAns} (h : DCWOK σ τ g args cert a) :
    DCOK σ g args false ⟨a.status, none⟩ :=
  ⟨fun hs => ⟨(h.1 hs).1, fun hc => by cases hc⟩, fun hs => ⟨(h.2 hs).1, fun hc => by cases hc⟩⟩

theorem DCWOK_self (σ : Sem) (g : G) (args : List Nat) (cert : Bool) (a : AccAns) :
    DCWOK σ σ g args cert a ↔ DCOK σ g args cert a := Iff.rfl

/-- **what the command line must answer for the problem `t-σ`** on the graph `g` (what it prints for that answer: `ShownOK`, `CliOut`):
* SE: an extension of `g` under `σ`; "no extension" only if there is none;
* DC: YES iff some `σ`-extension contains a queried argument; a YES certificate (when requested) is
  an extension under `witnessSem .DC σ` containing a queried argument (`σ` itself, except for DC-PR:
  a complete extension, which lies inside a preferred one, `C05.dc_pr_witness_extends`); NO has none;
* DS: YES iff every `σ`-extension contains a queried argument; a NO certificate (when requested) is a
  `σ`-extension containing none; YES has none.
Without `--with-certificate` no certificate is printed. -/
def ProblemOK (t : Task) (σ : Sem) (g : G) (e : Entry) (ans : Ans) : Prop :=
  match t, e, ans with
  | .SE, .se, .ext res => SEOK σ g res
  | .DC, .dc cert args, .acc a cv =>
    cv = cert ∧ DCWOK σ (witnessSem .DC σ) g args cert a ∧ (cert = false → a.cert = none)
  | .DS, .ds cert args, .acc a cv => cv = cert ∧ DSOK σ g args cert a ∧ (cert = false → a.cert = none)
  | _, _, _ => False

/-- the grounded extension is a complete extension: SE-CO through the grounded solver -/
theorem seok_co_of_gr {g : G} (hex : ∃ S, g.Grounded S) {res : Option (List Nat)} (h : SEOK .GR g res) :
    SEOK .CO g res :=
  ⟨fun e he => (h.1 e he).1, fun hn => absurd hex (h.2 hn)⟩

/-- the grounded extension is complete and contained in every complete extension: DS-CO through
the grounded solver (a queried argument is in every complete extension iff it is in the grounded
one; the grounded extension is the counterexample otherwise) -/
theorem dsok_co_of_gr {g : G} (hex : ∃ S, g.Grounded S) {args : List Nat} {cert : Bool} {a : AccAns}
    (h : DSOK .GR g args cert a) : DSOK .CO g args cert a := by
  obtain ⟨G0, hG0⟩ := hex
  refine ⟨fun hs => ⟨fun S hS => ?_, (h.1 hs).2⟩, fun hs => ⟨?_, fun hc => ?_⟩⟩
  · exact hitsL_mono (hG0.2 S hS) ((h.1 hs).1 G0 hG0)
  · obtain ⟨S, hS, hn⟩ := (h.2 hs).1
    exact ⟨S, hS.1, hn⟩
  · obtain ⟨e, he, hS, hn⟩ := (h.2 hs).2 hc
    exact ⟨e, he, hS.1, hn⟩

/-- every preferred extension is complete; every complete extension lies inside a preferred one -/
theorem dc_co_iff_dc_pr_G {g : G} (hfin : g.Fin) (args : List Nat) :
    (∃ S, g.Complete S ∧ HitsL args S) ↔ (∃ S, g.Preferred S ∧ HitsL args S) := by
  constructor
  · rintro ⟨S, hS, hh⟩
    obtain ⟨P, hP, hSP⟩ := g.exists_preferred_above hfin S hS.1
    exact ⟨P, hP, hitsL_mono hSP hh⟩
  · rintro ⟨S, hS, hh⟩
    exact ⟨S, G.preferred_complete hS, hh⟩

theorem dcwok_pr_of_co {g : G} (hfin : g.Fin) {args : List Nat} {cert : Bool}
    {a : AccAns} (h : DCOK .CO g args cert a) : DCWOK .PR .CO g args cert a :=
  ⟨fun hs => ⟨(dc_co_iff_dc_pr_G hfin args).1 (h.1 hs).1, (h.1 hs).2⟩,
   fun hs => ⟨fun hn => (h.2 hs).1 ((dc_co_iff_dc_pr_G hfin args).2 hn), (h.2 hs).2⟩⟩

/-- **the dispatch table is semantically right**: an answer that conforms for the semantics of the
dispatched solver and the entry point of the task is what the problem asks for -/
theorem problemOK_of_entryOK (t : Task) (σ : Sem) {g : G} (hex : ∃ S, g.Grounded S)
    (hfin : g.Fin) (cert : Bool) (args : List Nat) (ans : Ans)
    (h : EntryOK (dispatchSolver t σ).sem g (entryOf t cert args) ans) :
    ProblemOK t σ g (entryOf t cert args) ans := by
  -- `(dispatchSolver t σ).sem` is `σ` except for SE-CO, DS-CO (grounded) and DC-PR (complete): `| _ => exact h'`
  cases t with
  | SE =>
    cases ans with
    | acc a cv => exact h
    | ext res =>
      have h' : SEOK (dispatchSolver .SE σ).sem g res := h
      show SEOK σ g res
      cases σ with
      | CO => exact seok_co_of_gr hex h'
      | _ => exact h'
  | DC =>
    cases ans with
    | ext res => exact h
    | acc a cv =>
      have h' : cv = cert ∧ DCOK (dispatchSolver .DC σ).sem g args cert a ∧ (cert = false → a.cert = none) := h
      show cv = cert ∧ DCWOK σ (witnessSem .DC σ) g args cert a ∧ (cert = false → a.cert = none)
      cases σ with
      | PR => exact ⟨h'.1, dcwok_pr_of_co hfin h'.2.1, h'.2.2⟩
      | _ => exact h'
  | DS =>
    cases ans with
    | ext res => exact h
    | acc a cv =>
      have h' : cv = cert ∧ DSOK (dispatchSolver .DS σ).sem g args cert a ∧ (cert = false → a.cert = none) := h
      show cv = cert ∧ DSOK σ g args cert a ∧ (cert = false → a.cert = none)
      cases σ with
      | CO => exact ⟨h'.1, dsok_co_of_gr hex h'.2.1, h'.2.2⟩
      | _ => exact h'

/-- the configurations the command line produces: those of `CfgOK`, and for the `se` entry point of
the preferred solver also an encoder of the admissible sets -/
def CliCfgOK (sk : SolverKind) (e : Entry) (cfg : Cfg) : Prop :=
  CfgOK sk cfg ∨ (sk = .PR ∧ e = .se ∧ ∀ af T, cfg.enc.Base af T ↔ Admissible af T)

theorem CliCfgOK.of_cfgOK {sk : SolverKind} {e : Entry} {cfg : Cfg} (h : CfgOK sk cfg) : CliCfgOK sk e cfg :=
  Or.inl h

theorem dispatchEncoder_co (σ : Sem) (enc : Option String) (l : Bool)
    (hσ : σ = .CO ∨ σ = .SST ∨ σ = .ID ∨ (σ = .PR ∧ l = false)) :
    ∃ k, dispatchEncoder σ enc l = some k ∧ (k = .auxCO ∨ k = .expCO ∨ k = .hyb) := by
  have h : dispatchEncoder σ enc l = dispatchEncoder .CO enc l := by
    rcases hσ with rfl | rfl | rfl | ⟨rfl, rfl⟩ <;> rfl
  rw [h]
  unfold dispatchEncoder
  simp only
  split
  · exact ⟨_, rfl, Or.inl rfl⟩
  · exact ⟨_, rfl, Or.inr (Or.inl rfl)⟩
  · exact ⟨_, rfl, Or.inr (Or.inr rfl)⟩

theorem dispatchEncoder_sepr (enc : Option String) :
    ∃ k, dispatchEncoder .PR enc true = some k ∧ (k = .auxADM ∨ k = .expCO ∨ k = .hyb) := by
  unfold dispatchEncoder
  simp only [if_true]
  split
  · exact ⟨_, rfl, Or.inl rfl⟩
  · exact ⟨_, rfl, Or.inr (Or.inl rfl)⟩
  · exact ⟨_, rfl, Or.inr (Or.inr rfl)⟩

theorem dispatchEncoder_stg (enc : Option String) (l : Bool) :
    ∃ k, dispatchEncoder .STG enc l = some k ∧ (k = .auxCF ∨ k = .expCF) := by
  unfold dispatchEncoder
  simp only
  split
  · exact ⟨_, rfl, Or.inl rfl⟩
  · exact ⟨_, rfl, Or.inr rfl⟩

/-- with the default `--encoding` the problem string `SE-PR` gets the admissibility encoder -/
theorem dispatchEncoder_sepr_default : dispatchEncoder .PR none true = some .auxADM := rfl

theorem cfg_pr {enc : Option String} {literal : Bool} {cfg : Cfg}
    (henc : ∀ k, dispatchEncoder .PR enc literal = some k → cfg.enc = k) (e : Entry) (he : literal = true → e = .se) :
    CliCfgOK .PR e cfg := by
  cases literal with
  | false =>
    obtain ⟨k, hk, hk'⟩ := dispatchEncoder_co .PR enc false (Or.inr (Or.inr (Or.inr ⟨rfl, rfl⟩)))
    exact Or.inl (base_complete_of _ (henc k hk ▸ hk'))
  | true =>
    obtain ⟨k, hk, hk'⟩ := dispatchEncoder_sepr enc
    rcases hk' with h | h | h
    · exact Or.inr ⟨rfl, he rfl, base_admissible_of (henc k hk ▸ h)⟩
    · exact Or.inl (base_complete_of _ (henc k hk ▸ Or.inr (Or.inl h)))
    · exact Or.inl (base_complete_of _ (henc k hk ▸ Or.inr (Or.inr h)))

/-- **the dispatched encoder suits the dispatched solver**: for every problem `t-σ`, every value of
the `--encoding` option and either spelling of the problem string (`literal = true`: the string is
literally `SE-PR`, which forces `t = SE` and `σ = PR`), a configuration whose encoder is the one
`create_encoder` returns (any encoder when it returns none: GR and ST take no encoder) satisfies
the hypothesis of the solver `dispatchSolver t σ` for the entry point of `t` -/
theorem cli_dispatch_cfg_ok (t : Task) (σ : Sem) (enc : Option String) (literal : Bool)
    (hlit : literal = true → t = .SE ∧ σ = .PR) (cfg : Cfg)
    (henc : ∀ k, dispatchEncoder σ enc literal = some k → cfg.enc = k) (cert : Bool) (args : List Nat) :
    CliCfgOK (dispatchSolver t σ) (entryOf t cert args) cfg := by
  have hco : σ = .CO ∨ σ = .SST ∨ σ = .ID ∨ (σ = .PR ∧ literal = false) →
      cfg.enc = .auxCO ∨ cfg.enc = .expCO ∨ cfg.enc = .hyb := fun h => by
    obtain ⟨k, hk, hk'⟩ := dispatchEncoder_co σ enc literal h
    exact henc k hk ▸ hk'
  have hnl : t ≠ .SE → literal = false := fun ht => by
    cases hl : literal with
    | false => rfl
    | true => exact absurd (hlit hl).1 ht
  cases σ with
  | GR => cases t <;> exact Or.inl trivial
  | ST => cases t <;> exact Or.inl trivial
  | SST => cases t <;> exact Or.inl (hco (Or.inr (Or.inl rfl)))
  | ID => cases t <;> exact Or.inl (base_complete_of _ (hco (Or.inr (Or.inr (Or.inl rfl)))))
  | STG =>
    obtain ⟨k, hk, hk'⟩ := dispatchEncoder_stg enc literal
    have hcf : cfg.enc = .auxCF ∨ cfg.enc = .expCF := henc k hk ▸ hk'
    cases t <;> exact Or.inl hcf
  | CO =>
    -- SE-CO and DS-CO go to the grounded solver
    cases t
    · exact Or.inl trivial
    · exact Or.inl (base_complete_of _ (hco (Or.inl rfl)))
    · exact Or.inl trivial
  | PR =>
    -- DC-PR goes to the complete solver; both it and the preferred solver's `ds` want complete extensions
    cases t
    · exact cfg_pr henc _ (fun _ => rfl)
    · exact Or.inl (base_complete_of _ (hco (Or.inr (Or.inr (Or.inr ⟨rfl, hnl (fun h => by cases h)⟩)))))
    · exact Or.inl (base_complete_of _ (hco (Or.inr (Or.inr (Or.inr ⟨rfl, hnl (fun h => by cases h)⟩)))))

/-- `static_entry_total` under `CliCfgOK`: it covers also the `se` entry point of the preferred solver
with the admissibility encoder -/
theorem static_entry_total_cli (sk : SolverKind) (e : Entry) (cfg : Cfg) (hcfg : CliCfgOK sk e cfg) (v : FwView)
    (g : G) (hv : v.Ok g) (hargs : ∀ a, a ∈ e.argsList → g.live a = true)
    (p : Prog Ans) (hp : entryProg sk cfg v e = some p) (w : World) (hb : w.Bounded)
    (hfuel : cfg.fuel ≥ fuelFor (1 + v.maxId.getD 0)) :
    wp False p w (fun ans _ => EntryOK sk.sem g e ans) := by
  rcases hcfg with hcfg | ⟨rfl, rfl, hk⟩
  · exact static_entry_total sk cfg hcfg v g hv e hargs p hp w hb hfuel
  · -- `entryProg .PR _ _ .se` is `prSE` followed by the wrapping of its result
    simp only [entryProg, Option.some.injEq] at hp
    subst hp
    simp only [Prog.bind_eq]
    rw [wp_bind]
    exact pr_se_totalF prefFam_admissible cfg hk v g hv w hb hfuel

/-- the hypothesis `hargs` of `cli_answer_valid`, for the one argument of the command line -/
theorem entryOf_args_live {g : G} {t : Task} {cert : Bool} {a : Nat} (h : t ≠ .SE → g.live a = true) :
    ∀ x, x ∈ (entryOf t cert [a]).argsList → g.live x = true := by
  intro x hx
  cases t with
  | SE => cases hx
  | DC => cases List.mem_singleton.1 hx; exact h (fun h => by cases h)
  | DS => cases List.mem_singleton.1 hx; exact h (fun h => by cases h)

/-- every problem is routed to a solver that offers the entry point of its task -/
theorem cli_dispatch_total (t : Task) (σ : Sem) (cfg : Cfg) (v : FwView) (cert : Bool) (args : List Nat) :
    ∃ p, entryProg (dispatchSolver t σ) cfg v (entryOf t cert args) = some p := by
  cases t <;> cases σ <;> exact ⟨_, rfl⟩

/-- **the command line answers the problem it was asked** (the statement of the header) -/
theorem cli_answer_valid (t : Task) (σ : Sem) (enc : Option String) (literal : Bool)
    (hlit : literal = true → t = .SE ∧ σ = .PR) (cfg : Cfg)
    (henc : ∀ k, dispatchEncoder σ enc literal = some k → cfg.enc = k)
    (v : FwView) (g : G) (hv : v.Ok g) (cert : Bool) (args : List Nat)
    (hargs : ∀ a, a ∈ (entryOf t cert args).argsList → g.live a = true)
    (p : Prog Ans) (hp : entryProg (dispatchSolver t σ) cfg v (entryOf t cert args) = some p)
    (w : World) (hb : w.Bounded) (hfuel : cfg.fuel ≥ fuelFor (1 + v.maxId.getD 0)) :
    wp False p w (fun ans _ => ProblemOK t σ g (entryOf t cert args) ans) := by
  have hcfg := cli_dispatch_cfg_ok t σ enc literal hlit cfg henc cert args
  have hex : ∃ S, g.Grounded S := ⟨_, (groundedV_spec v g hv).1⟩
  refine wp_mono _ _ _ _ ?_
    (static_entry_total_cli (dispatchSolver t σ) (entryOf t cert args) cfg hcfg v g hv hargs p hp w hb hfuel)
  intro ans _ h
  exact problemOK_of_entryOK t σ hex hv.fin cert args ans h

theorem cli_never_panics (t : Task) (σ : Sem) (enc : Option String) (literal : Bool)
    (hlit : literal = true → t = .SE ∧ σ = .PR) (cfg : Cfg)
    (henc : ∀ k, dispatchEncoder σ enc literal = some k → cfg.enc = k)
    (v : FwView) (g : G) (hv : v.Ok g) (cert : Bool) (args : List Nat)
    (hargs : ∀ a, a ∈ (entryOf t cert args).argsList → g.live a = true)
    (p : Prog Ans) (hp : entryProg (dispatchSolver t σ) cfg v (entryOf t cert args) = some p)
    (w : World) (hb : w.Bounded) (hfuel : cfg.fuel ≥ fuelFor (1 + v.maxId.getD 0))
    (rs : List Reply) (hs : RunSound p rs w) :
    ∀ msg w', interp p rs w ≠ (.crashed msg, w') :=
  wp_no_crash p rs w _ (cli_answer_valid t σ enc literal hlit cfg henc v g hv cert args hargs p hp w hb hfuel) hs

theorem cli_run_total (t : Task) (σ : Sem) (enc : Option String) (literal : Bool)
    (hlit : literal = true → t = .SE ∧ σ = .PR) (cfg : Cfg)
    (henc : ∀ k, dispatchEncoder σ enc literal = some k → cfg.enc = k)
    (v : FwView) (g : G) (hv : v.Ok g) (cert : Bool) (args : List Nat)
    (hargs : ∀ a, a ∈ (entryOf t cert args).argsList → g.live a = true)
    (p : Prog Ans) (hp : entryProg (dispatchSolver t σ) cfg v (entryOf t cert args) = some p)
    (w : World) (hb : w.Bounded) (hfuel : cfg.fuel ≥ fuelFor (1 + v.maxId.getD 0))
    (rs : List Reply) (hs : RunSound p rs w) :
    (∃ ans w', interp p rs w = (.done ans, w') ∧ ProblemOK t σ g (entryOf t cert args) ans) ∨
    (∃ w', interp p rs w = (.abort, w')) ∨ (∃ w', interp p rs w = (.starved, w')) :=
  wp_run_total p rs w _ (cli_answer_valid t σ enc literal hlit cfg henc v g hv cert args hargs p hp w hb hfuel) hs

/-- two runs of the command line on the same problem (whatever the encoding option, the spelling
of the problem string, the certificate flag's effect on the code path and the SAT solver's
choices) print the same acceptance status -/
theorem cli_status_determined (t : Task) (σ : Sem) (g : G) (c1 c2 : Bool) (args : List Nat) (a1 a2 : AccAns)
    (cv1 cv2 : Bool) (ht : t ≠ .SE)
    (h1 : ProblemOK t σ g (entryOf t c1 args) (.acc a1 cv1))
    (h2 : ProblemOK t σ g (entryOf t c2 args) (.acc a2 cv2)) : a1.status = a2.status := by
  cases t with
  | SE => exact absurd rfl ht
  | DC => exact Bool.eq_iff_iff.2 (h1.2.1.dcok.status_iff.trans h2.2.1.dcok.status_iff.symm)
  | DS => exact (status_determined σ g args c1 c2 a1 a2).2 h1.2.1 h2.2.1

/-- the code points of the string `SE-PR`, the only spelling for which `create_encoder` takes its
special branch (the comparison there is case-sensitive, unlike `read_problem_string`) -/
def s_SEPR : Str := [83, 69, 45, 80, 82]

theorem literal_guard (s : Str) (t : Task) (σ : Sem) (hread : readProblem s = some (t, σ)) :
    decide (s = s_SEPR) = true → t = .SE ∧ σ = .PR := by
  intro hs
  have hs' : s = s_SEPR := of_decide_eq_true hs
  subst hs'
  have : readProblem s_SEPR = some (.SE, .PR) := by decide
  rw [this] at hread
  injection hread with hread
  injection hread with h1 h2
  exact ⟨h1.symm, h2.symm⟩

/-- **`cli_answer_valid` from the problem string**: for every string `read_problem_string` accepts,
in any letter case, the flag that selects the special encoder branch being computed from the string -/
theorem cli_answer_valid_read (s : Str) (t : Task) (σ : Sem) (hread : readProblem s = some (t, σ))
    (enc : Option String) (cfg : Cfg)
    (henc : ∀ k, dispatchEncoder σ enc (decide (s = s_SEPR)) = some k → cfg.enc = k)
    (v : FwView) (g : G) (hv : v.Ok g) (cert : Bool) (args : List Nat)
    (hargs : ∀ a, a ∈ (entryOf t cert args).argsList → g.live a = true)
    (w : World) (hb : w.Bounded) (hfuel : cfg.fuel ≥ fuelFor (1 + v.maxId.getD 0)) :
    ∃ p, entryProg (dispatchSolver t σ) cfg v (entryOf t cert args) = some p ∧
      wp False p w (fun ans _ => ProblemOK t σ g (entryOf t cert args) ans) := by
  obtain ⟨p, hp⟩ := cli_dispatch_total t σ cfg v cert args
  exact ⟨p, hp, cli_answer_valid t σ enc _ (literal_guard s t σ hread) cfg henc v g hv cert args hargs p hp w hb hfuel⟩

end Crusta.Cli
