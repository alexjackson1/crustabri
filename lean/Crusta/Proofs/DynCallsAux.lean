import Crusta.Proofs.Calls
import Crusta.Model.DynAtt

/-!
# SAT calls of the dynamic solvers, for arbitrary replies (C18, dynamic part)

`Bounded p n` (`Calls.lean`): whatever the replies (sound or not, `unknown` included, reply list
exhausted or not), running `p` makes at most `n` SAT calls.  Here: the programs of `Model/Dyn.lean`
and `Model/DynAtt.lean`.

* the replay of the buffer (`update_encoding`) and the cache path make no SAT call;
* a credulous query and a skeptical query of the stable solver make at most **one** call;
* each iteration of the loop of the preferred solver makes at most one call, so the preferred
  skeptical query is bounded by the fuel of the model's loop (`prSkepSolve` is defined here; the
  correctness proof in `DynPR.lean` is about it);
* for the solvers of `Model/DynAtt.lean` (namespace `Crusta.DynAtt`): the same two bounds of one call.
-/

namespace Crusta.Dyn
open Prog (addClause addClauses getNVars doSolve)

theorem bounded_addClause (s : Nat) (c : Clause) : Bounded (addClause s c) 0 :=
  bounded_clause (bounded_pure _ _)

theorem bounded_newSolverVar (e : Enc) (t : VarType) : Bounded (newSolverVar e t) 0 :=
  bounded_nVars (fun _ => bounded_pure _ _)

theorem bounded_removeSelector (e : Enc) (s : Nat) : Bounded (removeSelector e s) 0 := by
  unfold removeSelector
  refine bounded_bind_free (bounded_addClause _ _) (fun _ => ?_)
  cases e.assumptions.findIdx? (fun l => l == pl s) with
  | none => exact bounded_crash _ _
  | some p => exact bounded_pure _ _

theorem bounded_dropSel (e : Enc) (to : Nat) : Bounded (dropSel e to) 0 := by
  unfold dropSel
  cases e.selVar.getD to none with
  | none => exact bounded_pure _ _
  | some s => exact bounded_bind_free (bounded_removeSelector _ _) (fun _ => bounded_pure _ _)

theorem bounded_emitAttackClauses (st : Store) (e : Enc) (to sv : Nat) : Bounded (emitAttackClauses st e to sv) 0 := by
  unfold emitAttackClauses
  refine Bounded.ite (bounded_crash _ _) ?_
  cases e.argVar.getD to none with
  | none => exact bounded_crash _ _
  | some xt =>
    cases optAll ((st.iterTo to).map (fun p => e.argVar.getD p.1 none)) with
    | none => exact bounded_crash _ _
    | some xs => exact bounded_bind_free (bounded_addClauses _ _) (fun _ => bounded_pure _ _)

theorem bounded_updateAttacksTo (st : Store) (e : Enc) (to : Nat) : Bounded (updateAttacksTo st e to) 0 := by
  unfold updateAttacksTo
  exact Bounded.ite (bounded_pure _ _) (Bounded.ite (bounded_crash _ _)
    (bounded_bind_free (bounded_dropSel _ _) (fun _ =>
      bounded_bind_free (bounded_newSolverVar _ _) (fun _ => bounded_emitAttackClauses _ _ _ _))))

theorem bounded_foldProg {α β : Type} (f : β → α → Prog β) (hf : ∀ b a, Bounded (f b a) 0) :
    ∀ (l : List α) (b : β), Bounded (foldProg f l b) 0 := by
  intro l
  induction l with
  | nil => exact fun b => bounded_pure _ _
  | cons a r ih => exact fun b => bounded_bind_free (hf b a) (fun b' => ih b')

theorem bounded_allocArg (e : Enc) (id : Nat) : Bounded (allocArg e id) 0 := by
  unfold allocArg
  refine bounded_bind_free (bounded_newSolverVar _ _) (fun r => ?_)
  cases e.sem with
  | ST => exact bounded_pure _ _
  | CO | PR =>
    exact bounded_bind_free (bounded_newSolverVar _ _) (fun _ =>
      bounded_bind_free (bounded_addClause _ _) (fun _ => bounded_pure _ _))

theorem bounded_encNewArgument (st : Store) (e : Enc) (l : Nat) : Bounded (encNewArgument st e l) 0 := by
  unfold encNewArgument
  cases (st.newArgument l).maxId with
  | none => exact bounded_crash _ _
  | some id =>
    exact bounded_bind_free (bounded_allocArg _ _) (fun _ =>
      bounded_bind_free (bounded_updateAttacksTo _ _ _) (fun _ => bounded_pure _ _))

theorem bounded_forgetArg (e : Enc) (id v : Nat) : Bounded (forgetArg e id v) 0 := by
  unfold forgetArg
  apply bounded_bind_free (bounded_dropSel _ _); intro _
  apply bounded_bind_free (bounded_addClause _ _); intro _
  exact bounded_pure _ _

theorem bounded_encRemoveArgument (st : Store) (e : Enc) (l : Nat) : Bounded (encRemoveArgument st e l) 0 := by
  unfold encRemoveArgument
  cases st.getArg l with
  | none => exact bounded_crash _ _
  | some id =>
    dsimp only
    cases st.removeArgument l with
    | err _ => exact bounded_crash _ _
    | panic => exact bounded_crash _ _
    | ok st' =>
      dsimp only
      cases e.argVar.getD id none with
      | none => exact bounded_crash _ _
      | some v =>
        exact bounded_bind_free (bounded_forgetArg _ _ _) (fun _ =>
          bounded_bind_free (bounded_foldProg _ (fun b a => bounded_updateAttacksTo _ b a) _ _) (fun _ =>
            bounded_pure _ _))

theorem bounded_encAttack (add : Bool) (st : Store) (e : Enc) (a b : Nat) : Bounded (encAttack add st e a b) 0 := by
  unfold encAttack
  cases (if add then st.newAttack a b else st.removeAttack a b) with
  | err _ => exact bounded_crash _ _
  | panic => exact bounded_crash _ _
  | ok st' =>
    dsimp only
    cases st'.getArg b with
    | none => exact bounded_crash _ _
    | some to => exact bounded_bind_free (bounded_updateAttacksTo _ _ _) (fun _ => bounded_pure _ _)

theorem bounded_needArg (st : Store) (l : Nat) : Bounded (needArg st l) 0 := by
  unfold needArg
  cases st.getArg l with
  | none => exact bounded_crash _ _
  | some i => exact bounded_pure _ _

theorem bounded_replayEvent (r : Replay) (ev : Event) : Bounded (replayEvent r ev) 0 := by
  cases ev with
  | newArg l =>
    unfold replayEvent
    apply bounded_bind_free (bounded_encNewArgument _ _ _); intro _
    apply bounded_bind_free (bounded_needArg _ _); intro _
    exact bounded_pure _ _
  | remArg l =>
    unfold replayEvent
    apply bounded_bind_free (bounded_needArg _ _); intro _
    apply bounded_bind_free (bounded_encRemoveArgument _ _ _); intro _
    exact bounded_pure _ _
  | newAtt a b =>
    unfold replayEvent
    apply bounded_bind_free (bounded_encAttack _ _ _ _ _); intro _
    apply bounded_bind_free (bounded_needArg _ _); intro _
    exact bounded_pure _ _
  | remAtt a b =>
    unfold replayEvent
    apply bounded_bind_free (bounded_encAttack _ _ _ _ _); intro _
    apply bounded_bind_free (bounded_needArg _ _); intro _
    exact bounded_pure _ _
  | cred _ _ _ => exact bounded_pure _ _
  | skep _ _ _ => exact bounded_pure _ _

theorem bounded_updateEncoding (d : DState) : Bounded d.updateEncoding 0 := by
  unfold DState.updateEncoding
  apply bounded_bind_free (bounded_foldProg _ bounded_replayEvent _ _); intro r
  apply bounded_bind_free (bounded_foldProg _ (fun b a => bounded_updateAttacksTo _ b a) _ _); intro _
  exact bounded_pure _ _

theorem bounded_needLabels (st : Store) (ids : List Nat) : Bounded (needLabels st ids) 0 := by
  unfold needLabels
  cases labelsOf st ids with
  | none => exact bounded_crash _ _
  | some ls => exact bounded_pure _ _

/-- a query answers from its cache without a call, or runs `g` -/
theorem bounded_cached {α : Type} (c : Option Bool × Option (List Nat)) {f : Bool → List Nat → Prog α} {g : Prog α}
    {n : Nat} (hf : ∀ b e, Bounded (f b e) 0) (hg : Bounded g n) :
    Bounded (match c with | (some b, some e) => f b e | _ => g) n := by
  rcases c with ⟨_ | b, _ | e⟩
  · exact hg
  · exact hg
  · exact hg
  · exact (hf b e).mono (Nat.zero_le n)

theorem bounded_argLit (d : DState) (l : Nat) : Bounded (d.argLit l) 0 := by
  unfold DState.argLit
  cases d.af.getArg l with
  | none => exact bounded_crash _ _
  | some id =>
    dsimp only
    cases d.enc.argVar.getD id none with
    | none => exact bounded_crash _ _
    | some x => exact bounded_pure _ _

theorem bounded_fromCache (d : DState) (b : Bool) (e : List Nat) : Bounded (fromCache d b e) 0 := by
  unfold fromCache
  apply bounded_bind_free (bounded_needLabels _ _); intro _
  exact bounded_pure _ _

theorem bounded_credSolve (d : DState) (l : Nat) : Bounded (credSolve d l) 1 := by
  unfold credSolve
  apply bounded_bind_free (bounded_argLit _ _); intro x
  apply bounded_solve; intro r
  cases r with
  | none => exact bounded_pure _ _
  | some m =>
    apply bounded_bind_free (bounded_needLabels _ _); intro _
    apply bounded_bind_free (bounded_needLabels _ _); intro _
    exact bounded_pure _ _

theorem dyn_cred_bounded (d : DState) (l : Nat) : Bounded (credQuery d l) 1 :=
  bounded_cached _ (bounded_fromCache d) (bounded_bind_free (bounded_updateEncoding _) fun d' => bounded_credSolve d' l)

theorem bounded_stSkepSolve (d : DState) (l : Nat) : Bounded (stSkepSolve d l) 1 := by
  unfold stSkepSolve
  apply bounded_bind_free (bounded_argLit _ _); intro x
  apply bounded_solve; intro r
  cases r with
  | none =>
    apply bounded_bind_free (bounded_needArg _ _); intro _
    apply bounded_bind_free (bounded_needLabels _ _); intro _
    exact bounded_pure _ _
  | some m =>
    apply bounded_bind_free (bounded_needLabels _ _); intro _
    apply bounded_bind_free (bounded_needLabels _ _); intro _
    exact bounded_pure _ _

theorem dyn_stSkep_bounded (d : DState) (l : Nat) : Bounded (stSkepQuery d l) 1 :=
  bounded_cached _ (bounded_fromCache d) (bounded_bind_free (bounded_updateEncoding _) fun d' => bounded_stSkepSolve d' l)

theorem bounded_block (d : DState) (m : DMEC) : Bounded (m.block d) 0 := by
  unfold DMEC.block
  cases splitSparse d m.cur with
  | none => exact bounded_crash _ _
  | some p => exact bounded_bind_free (bounded_addClause _ _) (fun _ => bounded_pure _ _)

theorem bounded_dsolve (d : DState) (m : DMEC) (as : List Lit) : Bounded (m.solve d as) 1 := by
  unfold DMEC.solve
  simp only [Prog.bind_eq, Prog.doSolve, Prog.bind]
  apply bounded_solve; intro r
  cases r with
  | none => exact bounded_pure _ _
  | some mdl =>
    apply bounded_bind_free (bounded_needLabels _ _); intro _
    exact bounded_pure _ _

theorem bounded_newSearch (d : DState) (m : DMEC) : Bounded (m.newSearch d) 1 := by
  unfold DMEC.newSearch
  simp only [Prog.bind_eq]
  exact bounded_bind (m := 0) (bounded_dsolve d m [nl m.sel]) (fun r => by cases r <;> exact bounded_pure _ _)

theorem bounded_computeNext (d : DState) (m : DMEC) : Bounded (m.computeNext d) 1 := by
  unfold DMEC.computeNext
  cases m.state with
  | init => exact bounded_pure _ _
  | intermediate =>
    exact bounded_bind_free (bounded_block _ _) (fun as =>
      bounded_bind (m := 0) (bounded_dsolve d m as) (fun r => by cases r <;> exact bounded_pure _ _))
  | maximal => exact bounded_bind_free (bounded_block _ _) (fun _ => bounded_newSearch _ _)
  | justDiscarded => exact bounded_newSearch _ _
  | none => exact bounded_crash _ _

theorem bounded_prLoop (d : DState) (argId len : Nat) : ∀ (fuel : Nat) (m : DMEC) (st : PrSt),
    Bounded (prLoop d argId len fuel m st) fuel := by
  intro fuel
  induction fuel with
  | zero => exact fun _ _ => bounded_crash _ _
  | succ fuel ih =>
    intro m st
    unfold prLoop
    rw [Nat.add_comm]
    refine bounded_bind (bounded_computeNext d m) (fun m' => ?_)
    cases m'.state with
    | maximal => exact Bounded.ite (bounded_pure _ _) (ih _ _)
    | intermediate => exact Bounded.ite (bounded_bind_free (bounded_block _ _) (fun _ => ih _ _)) (ih _ _)
    | none => exact bounded_pure _ _
    | init => exact ih _ _
    | justDiscarded => exact ih _ _

/-- the part of `prSkepQuery` that runs on an up-to-date encoding -/
def prSkepSolve (fuel : Nat) (d : DState) (l : Nat) : Prog (DState × AccAns) := do
  let nv ← getNVars 0
  let m : DMEC := { sel := nv + 1, additional := d.enc.assumptions }
  let argId ← needArg d.af l
  let len := 1 + (d.af.maxId.getD 0)
  let (m, res, accB, refB, ext) ← prLoop d argId len fuel m { missing := List.replicate len false }
  addClause 0 [pl m.sel]
  pure ({ d with buffer := d.buffer ++ [.skep (boolLabels d accB) (boolLabels d refB) ext] }, ⟨res, ext⟩)

theorem prSkepQuery_eq (fuel : Nat) (d : DState) (l : Nat) :
    prSkepQuery fuel d l =
      match cachedSkep d.buffer.reverse l with
      | (some b, some e) => fromCache d b e
      | _ => d.updateEncoding.bind fun d' => prSkepSolve fuel d' l := by
  unfold prSkepQuery
  generalize cachedSkep d.buffer.reverse l = c
  rcases c with ⟨_ | b, _ | e⟩ <;> rfl

theorem bounded_prSkepSolve (fuel : Nat) (d : DState) (l : Nat) : Bounded (prSkepSolve fuel d l) fuel := by
  unfold prSkepSolve
  refine bounded_bind_free (bounded_nVars (fun _ => bounded_pure _ _)) (fun nv => ?_)
  refine bounded_bind_free (bounded_needArg _ _) (fun argId => ?_)
  exact bounded_bind (m := 0) (bounded_prLoop d argId _ fuel _ _) (fun r =>
    bounded_bind_free (bounded_addClause _ _) (fun _ => bounded_pure _ _))

/-- **the skeptical query of the preferred dynamic solver is bounded by the fuel of its loop**: at
most one SAT call per iteration, none outside the loop -/
theorem dyn_prSkep_bounded_fuel (fuel : Nat) (d : DState) (l : Nat) : Bounded (prSkepQuery fuel d l) fuel := by
  rw [prSkepQuery_eq]
  exact bounded_cached _ (bounded_fromCache d)
    (bounded_bind_free (bounded_updateEncoding _) fun d' => bounded_prSkepSolve fuel d' l)

theorem dyn_query_bounded (fuel : Nat) (d : DState) (q : DQuery) (l : Nat) :
    Bounded (query fuel d q l) (max 1 fuel) := by
  unfold query
  cases d.enc.sem <;> cases q
  · exact (dyn_cred_bounded d l).mono (Nat.le_max_left _ _)
  · exact bounded_crash _ _
  · exact (dyn_cred_bounded d l).mono (Nat.le_max_left _ _)
  · exact (dyn_stSkep_bounded d l).mono (Nat.le_max_left _ _)
  · exact bounded_crash _ _
  · exact (dyn_prSkep_bounded_fuel fuel d l).mono (Nat.le_max_right _ _)

end Crusta.Dyn

namespace Crusta.DynAtt
open Prog (addClause addClauses)
open Crusta.Dyn (DSem Event UpdRes cachedCred cachedSkep foldProg needArg needLabels)
open Crusta.Dyn (bounded_addClause bounded_foldProg bounded_needArg bounded_needLabels bounded_cached)

theorem bounded_assumptions (e : AEnc) (st : Store) : Bounded (e.assumptions st) 0 := by
  unfold AEnc.assumptions
  cases e.assumptionsOpt st with
  | none => exact bounded_crash _ _
  | some a => exact bounded_pure _ _

theorem bounded_encNewArgument (st : Store) (e : AEnc) (l : Nat) : Bounded (encNewArgument st e l) 0 := by
  unfold encNewArgument
  refine Bounded.ite (bounded_pure _ _) ?_
  cases (st.newArgument l).maxId with
  | none => exact bounded_crash _ _
  | some id =>
    refine Bounded.ite (bounded_crash _ _) ?_
    cases e.sem with
    | CO => exact Bounded.ite (bounded_crash _ _) (bounded_pure _ _)
    | ST => exact bounded_pure _ _
    | PR => exact bounded_pure _ _

theorem bounded_encRemoveArgument (st : Store) (e : AEnc) (l : Nat) : Bounded (encRemoveArgument st e l) 0 := by
  unfold encRemoveArgument
  cases st.getArg l with
  | none => exact bounded_crash _ _
  | some id =>
    dsimp only
    cases st.removeArgument l with
    | err _ => exact bounded_crash _ _
    | panic => exact bounded_crash _ _
    | ok st' =>
      refine Bounded.ite ?_ (bounded_pure _ _)
      cases e.argVar.getD id none with
      | none => exact bounded_pure _ _
      | some v =>
        exact Bounded.ite (bounded_crash _ _)
          (bounded_bind_free (bounded_addClause _ _) (fun _ => bounded_pure _ _))

theorem bounded_encAttack (add : Bool) (st : Store) (e : AEnc) (a b : Nat) : Bounded (encAttack add st e a b) 0 := by
  unfold encAttack
  cases (if add then st.newAttack a b else st.removeAttack a b) with
  | ok st' => exact bounded_pure _ _
  | err _ => exact bounded_crash _ _
  | panic => exact bounded_crash _ _

theorem bounded_replayEvent (r : Store × AEnc) (ev : Event) : Bounded (replayEvent r ev) 0 := by
  cases ev with
  | newArg l => exact bounded_encNewArgument _ _ _
  | remArg l => exact bounded_encRemoveArgument _ _ _
  | newAtt a b => exact bounded_encAttack _ _ _ _ _
  | remAtt a b => exact bounded_encAttack _ _ _ _ _
  | cred _ _ _ => exact bounded_pure _ _
  | skep _ _ _ => exact bounded_pure _ _

theorem bounded_auxLoop (k : Nat) (cell : Nat → Nat → Cnf) : ∀ (l : List Nat) (acc : Clause),
    Bounded (auxLoop k cell l acc) 0 := by
  intro l
  induction l with
  | nil => exact fun _ => bounded_pure _ _
  | cons a rest ih =>
    intro acc
    exact bounded_nVars (fun nv => bounded_bind_free (bounded_addClauses _ _) (fun _ => ih _))

theorem bounded_rowLoop (k n : Nat) (pre : Nat → Cnf) (head : Nat → Lit) (cell : Nat → Nat → Nat → Cnf) :
    ∀ (l : List Nat), Bounded (rowLoop k n pre head cell l) 0 := by
  intro l
  induction l with
  | nil => exact bounded_pure _ _
  | cons x rest ih =>
    exact bounded_bind_free (bounded_addClauses _ _) (fun _ =>
      bounded_bind_free (bounded_auxLoop _ _ _ _) (fun _ => bounded_clause ih))

theorem bounded_encUpdateEncoding (e : AEnc) (st : Store) : Bounded (e.updateEncoding st) 0 := by
  unfold AEnc.updateEncoding
  refine Bounded.ite (bounded_crash _ _) (Bounded.ite (bounded_pure _ _) (Bounded.ite (bounded_crash _ _)
    (bounded_newSolver (fun k => ?_))))
  cases e.sem with
  | ST =>
    exact bounded_reserve (bounded_bind_free (bounded_rowLoop _ _ _ _ _ _) (fun _ => bounded_pure _ _))
  | CO | PR =>
    exact bounded_reserve (bounded_bind_free (bounded_rowLoop _ _ _ _ _ _) (fun _ =>
      bounded_bind_free (bounded_rowLoop _ _ _ _ _ _) (fun _ => bounded_pure _ _)))

theorem bounded_updateEncoding (d : ADState) : Bounded d.updateEncoding 0 := by
  unfold ADState.updateEncoding
  apply bounded_bind_free (bounded_foldProg _ bounded_replayEvent _ _); intro r
  apply bounded_bind_free (bounded_encUpdateEncoding _ _); intro _
  exact bounded_pure _ _

theorem bounded_argLit (d : ADState) (l : Nat) : Bounded (d.argLit l) 0 := by
  unfold ADState.argLit
  cases d.af.getArg l with
  | none => exact bounded_crash _ _
  | some id =>
    dsimp only
    cases d.enc.argVar.getD id none with
    | none => exact bounded_crash _ _
    | some x => exact bounded_pure _ _

theorem bounded_fromCache (d : ADState) (b : Bool) (e : List Nat) : Bounded (fromCache d b e) 0 := by
  unfold fromCache
  apply bounded_bind_free (bounded_needLabels _ _); intro _
  exact bounded_pure _ _

theorem bounded_credSolve (d : ADState) (l : Nat) : Bounded (credSolve d l) 1 := by
  unfold credSolve
  apply bounded_bind_free (bounded_assumptions _ _); intro as
  apply bounded_bind_free (bounded_argLit _ _); intro x
  apply bounded_solve; intro r
  cases r with
  | none => exact bounded_pure _ _
  | some m =>
    apply bounded_bind_free (bounded_needLabels _ _); intro _
    apply bounded_bind_free (bounded_needLabels _ _); intro _
    exact bounded_pure _ _

theorem dynatt_cred_bounded (d : ADState) (l : Nat) : Bounded (credQuery d l) 1 :=
  bounded_cached _ (bounded_fromCache d) (bounded_bind_free (bounded_updateEncoding _) fun d' => bounded_credSolve d' l)

theorem bounded_stSkepSolve (d : ADState) (l : Nat) : Bounded (stSkepSolve d l) 1 := by
  unfold stSkepSolve
  apply bounded_bind_free (bounded_assumptions _ _); intro as
  apply bounded_bind_free (bounded_argLit _ _); intro x
  apply bounded_solve; intro r
  cases r with
  | none =>
    apply bounded_bind_free (bounded_needArg _ _); intro _
    apply bounded_bind_free (bounded_needLabels _ _); intro _
    exact bounded_pure _ _
  | some m =>
    apply bounded_bind_free (bounded_needLabels _ _); intro _
    apply bounded_bind_free (bounded_needLabels _ _); intro _
    exact bounded_pure _ _

theorem dynatt_stSkep_bounded (d : ADState) (l : Nat) : Bounded (stSkepQuery d l) 1 :=
  bounded_cached _ (bounded_fromCache d) (bounded_bind_free (bounded_updateEncoding _) fun d' => bounded_stSkepSolve d' l)

end Crusta.DynAtt
