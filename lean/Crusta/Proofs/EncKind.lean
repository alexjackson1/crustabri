import Crusta.Proofs.EncDecode
import Crusta.Proofs.EncHyb

/-!
# One interface for the seven encoders

`EncKind.Base k af` is the family of sets encoder `k` describes, `EncKind.S k af ν` the set read off
an assignment.
-/

namespace Crusta

def EncKind.S (k : EncKind) (af : AF) (ν : Asg) : ASet := setOfAsg af.n k.argVar ν

def EncKind.Base (k : EncKind) (af : AF) (T : ASet) : Prop :=
  match k with
  | .auxCF | .expCF => ConflictFree af T
  | .auxADM => Admissible af T
  | .auxCO | .expCO | .hyb => Complete af T
  | .stb => Stable af T

theorem EncKind.S_lt (k : EncKind) {af : AF} {ν : Asg} {a : Nat} (h : a < af.n) :
    k.S af ν a = ν (k.argVar a) := setOfAsg_lt h

theorem EncKind.S_sub (k : EncKind) (af : AF) (ν : Asg) : Sub af (k.S af ν) := setOfAsg_sub af _ ν

theorem EncKind.S_agree (k : EncKind) (af : AF) {ν ν' : Asg} (h : ∀ a, a < af.n → ν (k.argVar a) = ν' (k.argVar a)) :
    k.S af ν = k.S af ν' := by
  funext a
  by_cases ha : a < af.n
  · rw [k.S_lt ha, k.S_lt ha, h a ha]
  · have hS : ∀ ν, k.S af ν a = false := fun ν => Bool.eq_false_iff.2 fun hν => ha (k.S_sub af ν a hν)
    rw [hS, hS]

theorem EncKind.S_set_fresh (k : EncKind) (af : AF) (ν : Asg) (v : Nat) (b : Bool)
    (h : ∀ a, a < af.n → k.argVar a ≠ v) : k.S af (ν.set v b) = k.S af ν :=
  k.S_agree af (fun a ha => Asg.set_ne ν b (h a ha))

theorem EncKind.S_aux (k : EncKind) (af : AF) (ν : Asg) (h : k = .auxCF ∨ k = .auxADM ∨ k = .auxCO) :
    k.S af ν = Aux.S af ν := by
  rcases h with rfl | rfl | rfl <;> rfl

theorem EncKind.sound (k : EncKind) (af : AF) (hwf : af.WF) (ν : Asg)
    (h : cnfTrue ν (k.clauses af) = true) : k.Base af (k.S af ν) := by
  cases k with
  | auxCF => exact (Aux.cf_iff af hwf ν).1 h
  | auxADM => exact ((Aux.adm_iff af hwf ν).1 h).2
  | auxCO => exact ((Aux.co_iff af hwf ν).1 h).2
  | expCF => exact (Exp.cf_iff af hwf ν).1 h
  | expCO => exact (Exp.co_iff af hwf ν).1 h
  | hyb => exact ((Hyb.co_iff _ af hwf ν).1 h).1
  | stb => exact (Stb.enc_iff af hwf ν).1 h

theorem EncKind.complete (k : EncKind) (af : AF) (hwf : af.WF) (T : ASet) (hT : k.Base af T) :
    ∃ ν, cnfTrue ν (k.clauses af) = true ∧ k.S af ν = T := by
  cases k with
  | auxCF => exact Aux.cf_surj af hwf T hT
  | auxADM => exact Aux.adm_surj af hwf T hT
  | auxCO => exact Aux.co_surj af hwf T hT
  | expCF => exact Exp.cf_surj af hwf T hT
  | expCO => exact Exp.co_surj af hwf T hT
  | hyb => exact Hyb.co_surj _ af hwf T hT
  | stb => exact Stb.enc_surj af hwf T hT

theorem EncKind.decode_spec (k : EncKind) (af : AF) (m : List (Option Bool)) (a : Nat) :
    a ∈ k.decode af.n m ↔ k.S af (asgOfModel m) a = true := by
  cases k with
  | auxCF => exact Aux.decode_eq_S af m a
  | auxADM => exact Aux.decode_eq_S af m a
  | auxCO => exact Aux.decode_eq_S af m a
  | expCF => exact Exp.decode_eq_S af m a
  | expCO => exact Exp.decode_eq_S af m a
  | hyb => exact Exp.decode_eq_S af m a
  | stb => exact Stb.decode_eq_S af m a

theorem EncKind.ofList_decode (k : EncKind) (af : AF) (m : List (Option Bool)) :
    ofList (k.decode af.n m) = k.S af (asgOfModel m) := by
  funext a
  rw [Bool.eq_iff_iff]
  unfold ofList
  rw [List.contains_iff_mem]
  exact k.decode_spec af m a

end Crusta
