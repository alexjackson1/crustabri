import Crusta.Proofs.StoreObs
import Crusta.Proofs.StoreOps
import Crusta.Proofs.RoundTrip

/-!
# Store ∘ Aspartix writer ∘ Aspartix reader

The store invariant (`Store.inv_reachable`: every update history reaches a state satisfying
`Store.Inv`) composed with the Aspartix round trip (`IO.apx_write_read`): **whatever update history
produced the framework, writing it in Aspartix format and reading it back gives the same
framework** — the same labels in the same order and the same attacks in the same order, as positions
in the list of live arguments (`Store.attPos`).  Stated for any injective naming of the labels into
identifiers, for `Store.runOps` and for the fold and the two comparisons of the run-time driver
(`Driver/IO.lean`, `runWrite`).  The naming `a<l>` of the harness is an instance; the bare `usize`
labels are **not**: a decimal numeral is not an identifier of the Aspartix reader
(`IO.not_validId_natToStr`), and the text written for a store with at least one live argument is
rejected (`apx_numerals_rejected`; for stores `C14.numeral_labels_do_not_read_back`).
-/

namespace Crusta
open _root_.Crusta.IO

namespace Store

def posOf (s : Store) (i : Nat) : Nat := (s.liveArgs.map (·.1)).idxOf i

/-- the live attacks, in push order, as pairs of positions in the list of live arguments -/
def attPos (s : Store) : List (Nat × Nat) := s.iterAttacks.map (fun p => (s.posOf p.1, s.posOf p.2))

theorem posOf_spec (s : Store) {a : Nat} (h : s.hasId a = true) :
    s.posOf a < s.liveArgs.length ∧ (s.liveArgs.map (·.1))[s.posOf a]? = some a ∧
      ∀ nameOf : Nat → Str,
        (s.liveArgs.map (fun p => nameOf p.2)).getD (s.posOf a) [] = nameOf ((s.labelOf a).getD 0) := by
  have hlt : s.posOf a < (s.liveArgs.map (·.1)).length :=
    List.idxOf_lt_length_of_mem ((Store.mem_liveArgs s a).2 h)
  have hget : (s.liveArgs.map (·.1))[s.posOf a] = a := List.getElem_idxOf hlt
  rw [List.length_map] at hlt
  rw [List.getElem_map] at hget
  -- the entry at that position is `(a, l)` with `l` the label of `a`
  obtain ⟨l, hl⟩ : ∃ l, s.liveArgs[s.posOf a]? = some (a, l) :=
    ⟨_, (List.getElem?_eq_getElem hlt).trans (congrArg some (Prod.ext hget rfl))⟩
  have hlab := (mem_liveArgs_iff s a l).1 (List.mem_of_getElem? hl)
  refine ⟨hlt, ?_, fun nameOf => ?_⟩
  · rw [List.getElem?_map, hl]; rfl
  · rw [List.getD_eq_getElem?_getD, List.getElem?_map, hl, hlab]; rfl

theorem posOf_inj (s : Store) {a b : Nat} (ha : s.hasId a = true) (hb : s.hasId b = true)
    (h : s.posOf a = s.posOf b) : a = b := by
  have h1 := (posOf_spec s ha).2.1
  have h2 := (posOf_spec s hb).2.1
  rw [h, h2] at h1
  injection h1 with h1; exact h1.symm

theorem liveLabels_nodup {s : Store} (hinv : s.Inv) : (s.liveArgs.map (·.2)).Nodup := by
  have h1 : List.Pairwise (fun p q : Nat × Nat => p.1 ≠ q.1) s.liveArgs :=
    List.pairwise_map.1 (Store.liveArgs_nodup s)
  refine List.pairwise_map.2 ((List.Pairwise.and_mem.1 h1).imp ?_)
  rintro ⟨i, l⟩ ⟨j, l'⟩ ⟨hp, hq, hne⟩ e
  simp only at e hne
  subst e
  exact hne (hinv.label_inj i j l ((mem_liveArgs_iff s i l).1 hp) ((mem_liveArgs_iff s j l).1 hq))

theorem names_nodup {s : Store} (hinv : s.Inv) (nameOf : Nat → Str)
    (hinj : ∀ a b, nameOf a = nameOf b → a = b) : (s.liveArgs.map (fun p => nameOf p.2)).Nodup := by
  have h := liveLabels_nodup hinv
  refine List.pairwise_map.2 ((List.pairwise_map.1 h).imp ?_)
  intro p q hne e
  exact hne (hinj _ _ e)

theorem iterAttacks_live {s : Store} (hinv : s.Inv) {p : Nat × Nat} (hp : p ∈ s.iterAttacks) :
    s.hasId p.1 = true ∧ s.hasId p.2 = true := by
  obtain ⟨i, hi⟩ := (mem_iterAttacks p.1 p.2).1 hp
  exact hinv.ends_live i p.1 p.2 hi

theorem attPos_nodup {s : Store} (hinv : s.Inv) : s.attPos.Nodup := by
  unfold attPos
  refine List.pairwise_map.2 ((List.Pairwise.and_mem.1 (iterAttacks_nodup hinv)).imp ?_)
  rintro ⟨a, b⟩ ⟨c, d⟩ ⟨hp, hq, hne⟩ e
  simp only [Prod.mk.injEq] at e
  have h1 := iterAttacks_live hinv hp
  have h2 := iterAttacks_live hinv hq
  apply hne
  have e1 : a = c := posOf_inj s h1.1 h2.1 e.1
  have e2 : b = d := posOf_inj s h1.2 h2.2 e.2
  rw [e1, e2]

/-- **write/read round trip of a store satisfying the invariant**: the text written for the store
reads back as the same labels in the same order, and the attack list `attPos` -/
theorem write_read_of_inv {s : Store} (hinv : s.Inv)
    (nameOf : Nat → Str) (hinj : ∀ a b, nameOf a = nameOf b → a = b) (hval : ∀ l, ValidId (nameOf l)) :
    readApx (encodeUtf8 (writeApx (s.liveArgs.map (fun p => nameOf p.2))
        (s.iterAttacks.map (fun p => (nameOf ((s.labelOf p.1).getD 0), nameOf ((s.labelOf p.2).getD 0))))))
      = .ok ⟨s.liveArgs.map (fun p => nameOf p.2), s.attPos⟩ := by
  have hatts : s.iterAttacks.map (fun p => (nameOf ((s.labelOf p.1).getD 0), nameOf ((s.labelOf p.2).getD 0)))
      = s.attPos.map (fun p => ((s.liveArgs.map (fun p => nameOf p.2)).getD p.1 [],
          (s.liveArgs.map (fun p => nameOf p.2)).getD p.2 [])) := by
    unfold attPos
    rw [List.map_map]
    apply List.map_congr_left
    intro p hp
    have h := iterAttacks_live hinv hp
    simp only [Function.comp]
    rw [(posOf_spec s h.1).2.2 nameOf, (posOf_spec s h.2).2.2 nameOf]
  rw [hatts]
  apply apx_write_read
  · intro l hl
    obtain ⟨p, _, rfl⟩ := List.mem_map.1 hl
    exact hval _
  · exact names_nodup hinv nameOf hinj
  · intro q hq
    unfold attPos at hq
    obtain ⟨p, hp, rfl⟩ := List.mem_map.1 hq
    have h := iterAttacks_live hinv hp
    simp only [List.length_map]
    exact ⟨(posOf_spec s h.1).1, (posOf_spec s h.2).1⟩
  · exact attPos_nodup hinv

theorem attPos_spec {s : Store} (hinv : s.Inv) :
    s.attPos.length = s.iterAttacks.length ∧
    ∀ k (hk : k < s.attPos.length), ∃ a b, s.iterAttacks[k]? = some (a, b) ∧
      (s.liveArgs.map (·.1))[(s.attPos[k]).1]? = some a ∧
      (s.liveArgs.map (·.1))[(s.attPos[k]).2]? = some b := by
  refine ⟨List.length_map .., fun k hk => ?_⟩
  have hk' : k < s.iterAttacks.length := List.length_map (as := s.iterAttacks) _ ▸ hk
  have h := iterAttacks_live hinv (List.getElem_mem hk')
  have e : s.attPos[k] = (s.posOf (s.iterAttacks[k]).1, s.posOf (s.iterAttacks[k]).2) := List.getElem_map ..
  exact ⟨_, _, List.getElem?_eq_getElem hk', e ▸ (posOf_spec s h.1).2.1,
    e ▸ (posOf_spec s h.2).2.1⟩

/-- the fold of the run-time driver from the state `s` (a rejected operation leaves the state as
returned, a panic — which never happens — would leave it unchanged) -/
def foldFrom (s : Store) (ops : List StoreOp) : Store :=
  ops.foldl (fun s o => match s.step o with | .ok s' => s' | .err s' => s' | .panic => s) s

def foldOps (ops : List StoreOp) : Store := foldFrom Store.empty ops

theorem foldl_of_runOps (ops : List StoreOp) : ∀ (s s' : Store), runOps s ops = some s' → foldFrom s ops = s' := by
  induction ops with
  | nil => exact fun _ _ h => Option.some.inj h
  | cons op ops ih =>
    intro s s' h
    unfold runOps at h
    rw [foldFrom, List.foldl_cons]
    cases hs : s.step op <;> rw [hs] at h
    · exact ih _ s' h
    · exact ih _ s' h
    · cases h

theorem runOps_foldOps (ops : List StoreOp) : runOps Store.empty ops = some (foldOps ops) := by
  obtain ⟨s, hs, _⟩ := inv_reachable ops
  rw [hs, foldOps, foldl_of_runOps ops _ _ hs]

theorem inv_of_runOps {ops : List StoreOp} {s : Store} (hs : runOps Store.empty ops = some s) : s.Inv := by
  obtain ⟨s', hs', hinv⟩ := inv_reachable ops
  rw [hs] at hs'; injection hs' with e; exact e ▸ hinv

/-- the text written for `s` with labels `nameOf` reads back: the same labels in the same order, and
an attack list whose `k`-th entry gives the positions, among the live arguments, of the ends of the
`k`-th live attack -/
def ReadsBack (s : Store) (nameOf : Nat → Str) : Prop :=
    let labels := s.liveArgs.map (fun p => nameOf p.2)
    let lab := fun i => nameOf ((s.labelOf i).getD 0)
    let atts := s.iterAttacks.map (fun p => (lab p.1, lab p.2))
    ∃ attIdx : List (Nat × Nat),
      readApx (encodeUtf8 (writeApx labels atts)) = .ok ⟨labels, attIdx⟩ ∧
      attIdx.length = s.iterAttacks.length ∧
      (∀ k (hk : k < attIdx.length),
         ∃ a b, s.iterAttacks[k]? = some (a, b) ∧
           (s.liveArgs.map (·.1))[(attIdx[k]).1]? = some a ∧ (s.liveArgs.map (·.1))[(attIdx[k]).2]? = some b)

end Store

/-- **Whatever update history produced the framework, writing it in Aspartix format and reading it
back gives the same framework**: the same labels in the same order, and the same attacks in the
same order.  (`runOps` goes on after a rejected operation and returns `none` only on a panic, which
never happens: `Store.inv_reachable`.) -/
theorem store_write_read (ops : List StoreOp) (s : Store) (hs : Store.runOps Store.empty ops = some s)
    (nameOf : Nat → Str) (hinj : ∀ a b, nameOf a = nameOf b → a = b) (hval : ∀ l, ValidId (nameOf l)) :
    s.ReadsBack nameOf := by
  have hinv := Store.inv_of_runOps hs
  exact ⟨s.attPos, Store.write_read_of_inv hinv nameOf hinj hval, Store.attPos_spec hinv⟩

/-- the same for the fold of the run-time driver (`Driver/IO.lean`, `runWrite`), for every list of
operations (no hypothesis: no history panics) -/
theorem store_write_read_fold (ops : List StoreOp)
    (nameOf : Nat → Str) (hinj : ∀ a b, nameOf a = nameOf b → a = b) (hval : ∀ l, ValidId (nameOf l)) :
    (Store.foldOps ops).ReadsBack nameOf :=
  store_write_read ops _ (Store.runOps_foldOps ops) nameOf hinj hval

/-- the two comparisons of the driver's verdict (`runWrite`: labels equal, attacks equal to the
written attacks located in the label list by `idxOf`) succeed for every history; `9999` is what
`runWrite` puts for a label it does not find, which never happens: every written label is found -/
theorem store_write_read_driver (ops : List StoreOp)
    (nameOf : Nat → Str) (hinj : ∀ a b, nameOf a = nameOf b → a = b) (hval : ∀ l, ValidId (nameOf l)) :
    let s := Store.foldOps ops
    let labels := s.liveArgs.map (fun p => nameOf p.2)
    let lab := fun i => nameOf ((s.labelOf i).getD 0)
    let atts := s.iterAttacks.map (fun p => (lab p.1, lab p.2))
    readApx (encodeUtf8 (writeApx labels atts)) =
      .ok ⟨labels, atts.map (fun p => ((idxOf labels p.1).getD 9999, (idxOf labels p.2).getD 9999))⟩ := by
  intro s labels lab atts
  have hinv : s.Inv := Store.inv_of_runOps (Store.runOps_foldOps ops)
  have h := Store.write_read_of_inv hinv nameOf hinj hval
  have hnd := Store.names_nodup hinv nameOf hinj
  have e : atts.map (fun p => ((idxOf labels p.1).getD 9999, (idxOf labels p.2).getD 9999)) = s.attPos := by
    simp only [atts, Store.attPos, List.map_map]
    apply List.map_congr_left
    intro p hp
    have hl := Store.iterAttacks_live hinv hp
    have h1 := Store.posOf_spec s hl.1
    have h2 := Store.posOf_spec s hl.2
    simp only [Function.comp, lab]
    rw [← h1.2.2 nameOf, ← h2.2.2 nameOf, idxOf_getD labels hnd _ ((List.length_map ..).symm ▸ h1.1),
      idxOf_getD labels hnd _ ((List.length_map ..).symm ▸ h2.1)]
    rfl
  rw [e]; exact h

theorem store_write_read_prefixed (pfx : Str) (hp : ValidId pfx) (ops : List StoreOp) (s : Store)
    (hs : Store.runOps Store.empty ops = some s) :
    s.ReadsBack (fun l => pfx ++ natToStr l) :=
  store_write_read ops s hs (fun l => pfx ++ natToStr l) (prefixed_inj pfx) (validId_prefixed pfx hp)

/-- the default naming of the harness, `a<l>` -/
theorem store_write_read_default (ops : List StoreOp) (s : Store)
    (hs : Store.runOps Store.empty ops = some s) :
    let nameOf := fun l : Nat => strOf "a" ++ natToStr l
    let labels := s.liveArgs.map (fun p => nameOf p.2)
    let lab := fun i => nameOf ((s.labelOf i).getD 0)
    let atts := s.iterAttacks.map (fun p => (lab p.1, lab p.2))
    ∃ attIdx : List (Nat × Nat),
      readApx (encodeUtf8 (writeApx labels atts)) = .ok ⟨labels, attIdx⟩ ∧
      attIdx.length = s.iterAttacks.length ∧
      (∀ k (hk : k < attIdx.length),
         ∃ a b, s.iterAttacks[k]? = some (a, b) ∧
           (s.liveArgs.map (·.1))[(attIdx[k]).1]? = some a ∧ (s.liveArgs.map (·.1))[(attIdx[k]).2]? = some b) :=
  store_write_read_prefixed (strOf "a") validId_a ops s hs

example : readApx (encodeUtf8 (strOf "arg(1).\n")) = .error "syntax error" := by
  -- the literal in the shape `apx_numerals_rejected` speaks of (maps of `natToStr ∘ f`, here `f := id`)
  rw [show strOf "arg(1).\n" = writeApx ([1].map fun p => natToStr (id p))
    (([] : List Nat).map fun p => (natToStr (id p), natToStr (id p))) from by decide +kernel]
  exact apx_numerals_rejected 1 [] id [] id id

end Crusta
