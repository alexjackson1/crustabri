import Crusta.Proofs.StaticSpec

/-!
# Sparse graphs: the compact case, the pointwise semantics as one notion, the fundamental lemma

On `af.g` attacks are the same proposition as on `af` and liveness is `decide (a < af.n)`, so every
definition of `GSem.lean` / `GSem2.lean` / `ViewSpec.lean` is the one of `Spec/AF.lean` up to
`decide_eq_true_iff` under the binders (`AF.g_cf` … `AF.g_ext`).  `G.Local φ` states conflict-free,
admissible, complete and stable as one condition, which `Decomp2.lean` and `Renum.lean` rest on.
-/

namespace Crusta

/-- the seven semantics on a graph; `Sem.GExt` of `StaticSpec.lean`, in which the specification of the
solver programs is written, is the same with the arguments in the other order (`gext_iff`), and both
unfold to the plain predicate (`g.Ext .ID S`, `Sem.GExt .ID g S`, `g.Ideal S` are one proposition) -/
def G.Ext (g : G) : Sem → ASet → Prop
  | .GR => g.Grounded
  | .CO => g.Complete
  | .PR => g.Preferred
  | .ST => g.Stable
  | .SST => g.SemiStable
  | .STG => g.Stage
  | .ID => g.Ideal

theorem gext_iff (σ : Sem) (g : G) (S : ASet) : σ.GExt g S ↔ g.Ext σ S := by cases σ <;> rfl

theorem G.ext_sub_live {g : G} {σ : Sem} {S : ASet} (h : g.Ext σ S) : ∀ a, S a = true → g.live a = true := by
  cases σ with
  | GR => exact h.1.1.1.1
  | CO => exact h.1.1.1
  | PR => exact h.1.1.1
  | ST => exact h.1.1
  | SST => exact h.1.1.1.1
  | STG => exact h.1.1
  | ID => exact h.1.1.1.1

theorem G.ext_of_eq {g1 g2 : G} (hlive : ∀ a, g1.live a = g2.live a) (hatt : ∀ a b, g1.att a b ↔ g2.att a b) :
    g1 = g2 := by
  cases g1; cases g2
  simp only [G.mk.injEq]
  exact ⟨funext hlive, funext fun a => funext fun b => propext (hatt a b)⟩

namespace AF

variable (af : AF) (S : ASet)

theorem g_cf : af.g.CF S ↔ ConflictFree af S :=
  and_congr (forall_congr' fun _ => imp_congr_right fun _ => decide_eq_true_iff) Iff.rfl

theorem g_admissible : af.g.Admissible S ↔ Admissible af S :=
  and_congr (af.g_cf S) Iff.rfl

theorem g_complete : af.g.Complete S ↔ Complete af S :=
  and_congr (af.g_admissible S) (forall_congr' fun _ => imp_congr decide_eq_true_iff Iff.rfl)

theorem g_stable : af.g.Stable S ↔ Stable af S :=
  and_congr (af.g_cf S) (forall_congr' fun _ => imp_congr decide_eq_true_iff Iff.rfl)

theorem g_preferred : af.g.Preferred S ↔ Preferred af S :=
  and_congr (af.g_admissible S) (forall_congr' fun T => imp_congr (af.g_admissible T) Iff.rfl)

theorem g_grounded : af.g.Grounded S ↔ Grounded af S :=
  and_congr (af.g_complete S) (forall_congr' fun T => imp_congr (af.g_complete T) Iff.rfl)

theorem g_semistable : af.g.SemiStable S ↔ SemiStable af S :=
  and_congr (af.g_complete S) (forall_congr' fun T => imp_congr (af.g_complete T) Iff.rfl)

theorem g_stage : af.g.Stage S ↔ Stage af S :=
  and_congr (af.g_cf S) (forall_congr' fun T => imp_congr (af.g_cf T) Iff.rfl)

theorem g_idealCand : af.g.IdealCand S ↔ IdealCand af S :=
  and_congr (af.g_admissible S) (forall_congr' fun P => imp_congr (af.g_preferred P) Iff.rfl)

theorem g_ideal : af.g.Ideal S ↔ Ideal af S :=
  and_congr (af.g_idealCand S) (forall_congr' fun T => imp_congr (af.g_idealCand T) Iff.rfl)

theorem g_ext (σ : Sem) : af.g.Ext σ S ↔ σ.Ext af S := by
  cases σ
  · exact af.g_grounded S
  · exact af.g_complete S
  · exact af.g_preferred S
  · exact af.g_stable S
  · exact af.g_semistable S
  · exact af.g_stage S
  · exact af.g_ideal S

theorem g_ext_eq (σ : Sem) : af.g.Ext σ = σ.Ext af :=
  funext fun S => propext (af.g_ext S σ)

end AF


/-! ## The four pointwise semantics as one notion

Conflict-free, admissible, complete and stable sets are sets of live arguments every live argument of
which meets a condition `φ` on three observables: is it in the set, is it attacked by the set, is it
defended by the set.  Whatever preserves liveness and the observables (restriction to an
attack-closed part: `local_parts`; renumbering: `Renum.Iso.local_iff`) preserves all four. -/

def G.Local (φ : Bool → Prop → Prop → Prop) (g : G) (S : ASet) : Prop :=
  SubsetS S g.live ∧ ∀ a, g.live a = true → φ (S a) (g.AttackedBy S a) (g.Defended S a)

def cfφ : Bool → Prop → Prop → Prop := fun s att _ => s = true → ¬ att
def admφ : Bool → Prop → Prop → Prop := fun s att df => s = true → ¬ att ∧ df
def coφ : Bool → Prop → Prop → Prop := fun s att df => (s = true → ¬ att ∧ df) ∧ (df → s = true)
def stφ : Bool → Prop → Prop → Prop := fun s att _ => (s = true → ¬ att) ∧ (s = false → att)

namespace G

theorem cf_eq_local (g : G) : g.CF = g.Local cfφ :=
  funext fun _ => propext ⟨fun h => ⟨h.1, fun a _ => h.2 a⟩, fun h => ⟨h.1, fun a ha => h.2 a (h.1 a ha) ha⟩⟩

theorem admissible_eq_local (g : G) : g.Admissible = g.Local admφ :=
  funext fun _ => propext ⟨fun h => ⟨h.1.1, fun a _ ha => ⟨h.1.2 a ha, h.2 a ha⟩⟩,
    fun h => ⟨⟨h.1, fun a ha => (h.2 a (h.1 a ha) ha).1⟩, fun a ha => (h.2 a (h.1 a ha) ha).2⟩⟩

theorem complete_eq_local (g : G) : g.Complete = g.Local coφ :=
  funext fun _ => propext ⟨fun h => ⟨h.1.1.1, fun a hl => ⟨fun ha => ⟨h.1.1.2 a ha, h.1.2 a ha⟩, h.2 a hl⟩⟩,
    fun h => ⟨⟨⟨h.1, fun a ha => ((h.2 a (h.1 a ha)).1 ha).1⟩, fun a ha => ((h.2 a (h.1 a ha)).1 ha).2⟩,
      fun a hl => (h.2 a hl).2⟩⟩

theorem stable_eq_local (g : G) : g.Stable = g.Local stφ :=
  funext fun _ => propext ⟨fun h => ⟨h.1.1, fun a hl => ⟨h.1.2 a, h.2 a hl⟩⟩,
    fun h => ⟨⟨h.1, fun a ha => (h.2 a (h.1 a ha)).1 ha⟩, fun a hl => (h.2 a hl).2⟩⟩

end G

def addArg (S : ASet) (a : Nat) : ASet := fun x => S x || x == a

theorem addArg_true (S : ASet) (x a : Nat) : addArg S x a = true ↔ (S a = true ∨ a = x) := by
  simp [addArg]

theorem subset_addArg (S : ASet) (a : Nat) : SubsetS S (addArg S a) :=
  fun x hx => (addArg_true S a x).2 (Or.inl hx)

def unionS (S T : ASet) : ASet := fun a => S a || T a

theorem unionS_true {S T : ASet} {a : Nat} : unionS S T a = true ↔ S a = true ∨ T a = true := by
  simp [unionS]

namespace G

theorem admissible_empty (g : G) : g.Admissible (fun _ => false) := by
  refine ⟨⟨?_, ?_⟩, ?_⟩ <;> intro a ha <;> cases ha

/-- Dung's fundamental lemma -/
theorem admissible_addArg {g : G} {S : ASet} (hS : g.Admissible S) {x : Nat} (hx : g.live x = true)
    (hd : g.Defended S x) : g.Admissible (addArg S x) := by
  have hcf : ∀ c, S c = true → ¬ g.AttackedBy S c := hS.1.2
  -- `S` attacks every attacker of a member of `S ∪ {x}`, and nothing it attacks is in `S ∪ {x}`
  have hdef : ∀ a, addArg S x a = true → g.Defended S a := by
    intro a ha
    rcases (addArg_true S x a).1 ha with ha | rfl
    · exact hS.2 a ha
    · exact hd
  have hfree : ∀ a, addArg S x a = true → ¬ g.AttackedBy S a := by
    rintro a ha ⟨c, hca, hc⟩
    exact hcf c hc (hdef a ha c hca)
  have hmono : ∀ a, g.AttackedBy S a → g.AttackedBy (addArg S x) a :=
    fun a ⟨b, hba, hb⟩ => ⟨b, hba, subset_addArg S x b hb⟩
  refine ⟨⟨?_, ?_⟩, fun a ha b hba => hmono b (hdef a ha b hba)⟩
  · intro a ha
    rcases (addArg_true S x a).1 ha with ha | rfl
    · exact hS.1.1 a ha
    · exact hx
  · rintro a ha ⟨b, hba, hb⟩
    exact hfree b hb (hdef a ha b hba)

theorem preferred_complete {g : G} {S : ASet} (h : g.Preferred S) : g.Complete S :=
  ⟨h.1, fun a ha hd =>
    h.2 _ (admissible_addArg h.1 ha hd) (subset_addArg S a) a ((addArg_true S a a).2 (Or.inr rfl))⟩

/-- how the propagation algorithms conclude; `hex` is there to make `S` conflict-free -/
theorem grounded_of_closed {g : G} {S : ASet} (hex : ∃ E, g.Complete E)
    (hlive : SubsetS S g.live) (hleast : ∀ T, g.Complete T → SubsetS S T)
    (hdef : ∀ a, S a = true → g.Defended S a)
    (hcl : ∀ a, g.live a = true → g.Defended S a → S a = true) : g.Grounded S :=
  let ⟨E, hE⟩ := hex
  ⟨⟨⟨⟨hlive, fun d hd ⟨a, had, ha⟩ => hE.1.1.2 d (hleast E hE d hd) ⟨a, had, hleast E hE a ha⟩⟩, hdef⟩, hcl⟩, hleast⟩

end G

end Crusta
