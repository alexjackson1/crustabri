import Crusta.Proofs.CompAlg
import Crusta.Proofs.CompIso
import Crusta.Proofs.Decomp2
import Crusta.Proofs.Wp
import Crusta.Proofs.Deciders

/-!
# From components to the framework

Every semantics decomposes over a partition of a finite graph into closed parts, and the components
of a view form such a partition; so one extension per component, mapped back to original ids and
concatenated, is an extension of the framework (`assemble_ext`; both directions are `ext_parts`).
The loop over the components in the calculus follows (`wp_forEachComp`), and its reading "no crash
node" (`Safe`, which nothing further uses).
-/

namespace Crusta
open Prog (mkSolver doReserve addClause addClauses getNVars doSolve)

theorem inter_ofList_flatten (ls : List (List Nat)) (Us : List (Nat → Bool))
    (hlen : ls.length = Us.length)
    (hmem : ∀ (i : Nat) (l : List Nat) (U : Nat → Bool), ls[i]? = some l → Us[i]? = some U → ∀ a ∈ l, U a = true)
    (hdisj : Us.Pairwise (fun U V => ∀ a, ¬ (U a = true ∧ V a = true))) :
    ∀ (i : Nat) (l : List Nat) (U : Nat → Bool), ls[i]? = some l → Us[i]? = some U →
      inter (ofList ls.flatten) U = ofList l := by
  intro i l U hl hU
  funext a
  refine Bool.eq_iff_iff.2 ?_
  rw [inter_true, ofList_true, ofList_true, List.mem_flatten]
  constructor
  · -- `a` lies in some `ls[j]`, hence in `Us[j]` and in `Us[i]`: so `j = i`
    rintro ⟨⟨l', hl', hal'⟩, hUa⟩
    obtain ⟨j, hj, rfl⟩ := List.getElem_of_mem hl'
    have hjU : j < Us.length := hlen ▸ hj
    have hV := hmem j ls[j] Us[j] (List.getElem?_eq_getElem hj) (List.getElem?_eq_getElem hjU) a hal'
    obtain ⟨hi, rfl⟩ := List.getElem?_eq_some_iff.1 hl
    obtain ⟨hiU, rfl⟩ := List.getElem?_eq_some_iff.1 hU
    rcases Nat.lt_trichotomy i j with hij | rfl | hij
    · exact absurd ⟨hUa, hV⟩ (List.pairwise_iff_getElem.1 hdisj i j hiU hjU hij a)
    · exact hal'
    · exact absurd ⟨hV, hUa⟩ (List.pairwise_iff_getElem.1 hdisj j i hjU hiU hij a)
  · exact fun hal => ⟨⟨l, List.mem_of_getElem? hl, hal⟩, hmem i l U hl hU a hal⟩

theorem ext_parts {g : G} {parts : List (Nat → Bool)} (hp : Parts g parts)
    (hfin : g.Fin) (σ : Sem) (S : ASet) (hS : SubsetS S g.live) :
    g.Ext σ S ↔ ∀ U ∈ parts, (g.restrict U).Ext σ (inter S U) := by
  cases σ with
  | GR => exact grounded_parts hp S hS
  | CO => exact complete_parts hp S hS
  | PR => exact preferred_parts hp S hS
  | ST => exact stable_parts hp S hS
  | SST => exact semistable_parts hp S hS
  | STG => exact stage_parts hp S hS
  | ID => exact ideal_parts_fin hp hfin S hS

theorem FwView.Ok.fin {v : FwView} {g : G} (h : v.Ok g) : g.Fin :=
  ⟨v.maxId.getD 0 + 1, fun a ha => by
    obtain ⟨m, hm, hle⟩ := h.maxId_ge a ha
    rw [hm]
    exact Nat.lt_succ_of_le hle⟩

theorem GoodComp.closedB {g : G} {c : Comp} (hc : GoodComp g c) : g.ClosedB c.memB := by
  intro a b hab
  have := hc.closed a b hab
  unfold Comp.memB
  rw [Bool.eq_iff_iff]
  simp only [List.contains_iff_mem]
  exact this

section
variable {g : G} {cs : List Comp}

theorem Comps.parts (h : Comps g (fun _ => False) cs) : Parts g (cs.map Comp.memB) := by
  refine ⟨?_, ?_, ?_⟩
  · intro U hU
    obtain ⟨c, hc, rfl⟩ := List.mem_map.1 hU
    exact (h.good c hc).closedB
  · rw [List.pairwise_map]
    refine h.disj.imp ?_
    intro c c' h a ⟨h1, h2⟩
    simp only [Comp.memB, List.contains_iff_mem] at h1 h2
    exact h a h1 h2
  · intro a ha
    obtain ⟨c, hc, hac⟩ := (h.cover a ha).resolve_left id
    exact ⟨c.memB, List.mem_map_of_mem hc, by simpa [Comp.memB] using hac⟩

end

theorem Comps.of_view {v : FwView} {g : G} (h : v.Ok g) :
    ∃ cs : List Comp, allComps v = cs.map some ∧ Comps g (fun _ => False) cs :=
  have ⟨cs, hcs, H, _⟩ := allComps_spec v g h
  ⟨cs, hcs, H⟩

/-- `r` lists, in original ids, a `σ`-extension of the part of `g` that the component `c` covers -/
def ExtOn (g : G) (σ : Sem) (c : Comp) (r : List Nat) : Prop :=
  (g.restrict c.memB).Ext σ (ofList r) ∧ ∀ a ∈ r, a ∈ c.ids

/-- `e` lists, in positions, a `σ`-extension of the component's own framework: what the solvers return
for one component, before `Comp.back` -/
def ExtIn (σ : Sem) (c : Comp) (e : List Nat) : Prop :=
  σ.Ext c.af (ofList e) ∧ ∀ a ∈ e, a < c.af.n

theorem Comp.ext_back {g : G} {c : Comp} (hc : GoodComp g c) {σ : Sem} {e : List Nat} (he : ExtIn σ c e) :
    ExtOn g σ c (c.back e) :=
  ⟨(Comp.ext_back_iff hc σ e he.2).1 he.1, Comp.back_mem c e⟩

/-- one extension per component (lists of original ids inside the component), concatenated, is an
extension of the whole framework -/
theorem assemble_ext {g : G} {cs : List Comp} (hp : Parts g (cs.map Comp.memB)) (hgood : ∀ c ∈ cs, GoodComp g c)
    (hfin : g.Fin) (σ : Sem) (rs : List (List Nat)) (hlen : rs.length = cs.length)
    (h : ∀ (i : Nat) (c : Comp) (r : List Nat), cs[i]? = some c → rs[i]? = some r → ExtOn g σ c r) :
    g.Ext σ (ofList rs.flatten) := by
  have hS : ∀ a, ofList rs.flatten a = true → g.live a = true := by
    intro a ha
    rw [ofList_true, List.mem_flatten] at ha
    obtain ⟨r, hr, har⟩ := ha
    obtain ⟨i, hi, hri⟩ := List.mem_iff_getElem.1 hr
    have hi' : i < cs.length := hlen ▸ hi
    have hc : cs[i]? = some cs[i] := List.getElem?_eq_getElem hi'
    have hr' : rs[i]? = some r := by rw [List.getElem?_eq_getElem hi, hri]
    exact (hgood _ (List.getElem_mem hi')).live a ((h i _ r hc hr').2 a har)
  rw [ext_parts hp hfin σ _ hS]
  intro U hU
  obtain ⟨c, hc, rfl⟩ := List.mem_map.1 hU
  obtain ⟨i, hi, hci⟩ := List.mem_iff_getElem.1 hc
  have hc' : cs[i]? = some c := by rw [List.getElem?_eq_getElem hi, hci]
  have hi' : i < rs.length := hlen.symm ▸ hi
  have hr' : rs[i]? = some rs[i] := List.getElem?_eq_getElem hi'
  rw [inter_ofList_flatten rs (cs.map Comp.memB) (by simp [hlen]) ?_ hp.disjoint i _ c.memB hr'
    (by rw [List.getElem?_map, hc']; rfl)]
  · exact (h i c _ hc' hr').1
  · intro j l U hl hU a ha
    simp only [List.getElem?_map, Option.map_eq_some_iff] at hU
    obtain ⟨c', hc', rfl⟩ := hU
    simpa [Comp.memB] using (h j c' l hc' hl).2 a ha

/- From here on, and in the files that repeat the attribute below, `wp` is not unfolded: with the recursive definition visible,
every `exact` / `apply` against a goal `wp C p w Q` makes Lean try to evaluate the program `p`.  The
calculus is used through its rules; where a `match` on a reply or a result has already reduced, a
`show wp _ (p.bind _) _ _` exposes the `bind` that `wp_bind` rewrites. -/
attribute [local irreducible] wp

theorem wp_forEachComp {C : Prop} (f : Comp → Prog (List Nat)) (Good : Comp → Prop) (P : Comp → List Nat → Prop)
    (hf : ∀ c w, w.Bounded → Good c → wp C (f c) w (fun r _ => P c r)) (cs : List Comp) :
    ∀ (acc : List Nat) (w : World), w.Bounded → (∀ c ∈ cs, Good c) →
      wp C (forEachComp f (cs.map some) acc) w (fun res w' => w'.Bounded ∧ ∃ rs : List (List Nat),
        rs.length = cs.length ∧ res = acc ++ rs.flatten ∧
        ∀ (i : Nat) (c : Comp) (r : List Nat), cs[i]? = some c → rs[i]? = some r → P c r) := by
  induction cs with
  | nil =>
    intro acc w hb _
    rw [List.map_nil]
    unfold forEachComp
    exact (wp_pure _ _ _).2 ⟨hb, [], rfl, by simp, fun i c r h => by simp at h⟩
  | cons c cs ih =>
    intro acc w hb hg
    rw [List.map_cons]
    unfold forEachComp
    simp only [Prog.bind_eq]
    rw [wp_bind]
    refine (wp_pure c w _).2 ?_
    rw [wp_bind]
    refine wp_mono _ _ _ _ ?_ (wp_bounded _ _ _ hb (hf c w hb (hg c List.mem_cons_self)))
    rintro r w1 ⟨hb1, hP⟩
    refine wp_mono _ _ _ _ ?_ (ih (acc ++ r) w1 hb1 (fun c' hc' => hg c' (List.mem_cons_of_mem _ hc')))
    rintro res w2 ⟨hb2, rs, hlen, hres, hall⟩
    exact ⟨hb2, r :: rs, by simp [hlen], by simp [hres], forall_getElem?_cons hP hall⟩

/-! ## `Safe`: the reading "no crash node, and the world stays bounded" of the loop over all components

Nothing outside this section uses it; `safe_forEachComp` has `Safe` written out. -/

abbrev Safe {α : Type} (p : Prog α) (w : World) : Prop := wp False p w (fun _ w' => w'.Bounded)

theorem safe_forEachComp (f : Comp → Prog (List Nat)) (Good : Comp → Prop)
    (hf : ∀ c w, w.Bounded → Good c → wp False (f c) w (fun _ w' => w'.Bounded)) :
    ∀ (cs : List Comp) (acc : List Nat) (w : World), w.Bounded → (∀ c ∈ cs, Good c) →
      wp False (forEachComp f (cs.map some) acc) w (fun _ w' => w'.Bounded) :=
  fun cs acc w hb hg => wp_mono _ _ _ _ (fun _ _ h => h.1) (wp_forEachComp f Good (fun _ _ => True)
    (fun c w hb hc => wp_mono _ _ _ _ (fun _ _ _ => trivial) (hf c w hb hc)) cs acc w hb hg)

theorem Safe.bind {α β : Type} {p : Prog α} {f : α → Prog β} {w : World} (hp : Safe p w)
    (hf : ∀ a w', w'.Bounded → Safe (f a) w') : Safe (p.bind f) w :=
  (wp_bind p f w _).2 (wp_mono _ _ _ _ hf hp)

theorem se_safe {v : FwView} {g : G} (hv : v.Ok g) (f : Comp → Prog (List Nat))
    (hf : ∀ c w, w.Bounded → GoodComp g c → Safe (f c) w) (w : World) (hb : w.Bounded) :
    Safe (forEachComp f (allComps v) []) w :=
  have ⟨cs, hcs, H⟩ := Comps.of_view hv
  hcs ▸ safe_forEachComp f (GoodComp g) hf cs [] w hb H.good

end Crusta
