import Crusta.Proofs.SearchSys
import Crusta.Proofs.SolveRGAux
import Crusta.Proofs.Maximal
import Crusta.Proofs.SolveCO
import Crusta.Proofs.SolveMEC

/-!
# `MaximalExtensionComputer` as a computer of the search layer

A computer of any kind holds a *key*: the current set itself for the kinds `.preferred` / `.ideal`, the
current range for `.range`; `MEC.kv` is the variable that stands for position `a` of the key, and
`blockAndAssume` has one equation for the three kinds.  `Den F K m₀ w blocked` says what the solver of
the computer *means*, with no reference to which clauses it holds: its models are the members `T` of
`F`, the key variables that are true lie in the key `K T`, every member has a model whose key variables
are exactly `K T`, and with the selector false the key avoids every blocked key.  Three rules use it:
`wp_ask` (a call under assumptions), `Den.block` (a blocking clause), `Den.guard` (clauses switched off
by a retired selector); `wp_askExact` and `wp_askExactHit` are the calls of the range acceptance check.
`Den.of_new` and its instances say what the solver means when a computer is created on it, `VarsBelow`
what stays true of its world.  From them: the five triples of `SearchSys` for `MEC.asSys`, and
`wp_growMax`, `compute_maximal` for the computers whose budget is the size of the key (the range search,
and the model of the ideal one in `SolveID`; the preferred one is proved on `MInvF` in `SolvePR`).
-/

namespace Crusta
open Prog (doSolve)
open Search

theorem clauseTrue_block (kv : Nat → Nat) (n : Nat) (R : Nat → Bool) (sel : Nat) (ν : Asg) :
    clauseTrue ν (kOut kv n R ++ [pl sel]) = true ↔ (∃ a, a < n ∧ R a = false ∧ ν (kv a) = true) ∨ ν sel = true := by
  rw [clauseTrue_append, clauseTrue_singleton, litTrue_pl, Bool.or_eq_true, clauseTrue_iff, kOut_true]

theorem assumps_kIn (kv : Nat → Nat) (n : Nat) (R : Nat → Bool) (sel : Nat) (extra : List Lit) (ν : Asg) :
    assumpsTrue ν (kIn kv n R ++ [nl sel] ++ extra) = true ↔
      ((∀ a, a < n → R a = true → ν (kv a) = true) ∧ ν sel = false ∧ assumpsTrue ν extra = true) := by
  rw [assumpsTrue_append_iff, assumpsTrue_append_iff, assumpsTrue_singleton, litTrue_nl, Bool.not_eq_true',
    assumpsTrue_iff ν (kIn kv n R), kIn_true, and_assoc]

theorem assumps_exact (kv : Nat → Nat) (n : Nat) (R : Nat → Bool) (sel : Nat) (extra : List Lit) (ν : Asg) :
    assumpsTrue ν (kIn kv n R ++ (kOut kv n R).map Lit.neg ++ [pl sel] ++ extra) = true ↔
      ((∀ a, a < n → ν (kv a) = R a) ∧ ν sel = true ∧ assumpsTrue ν extra = true) := by
  rw [assumpsTrue_append_iff, assumpsTrue_append_iff, assumpsTrue_append_iff, assumpsTrue_singleton, litTrue_pl,
    assumpsTrue_iff ν (kIn kv n R), assumpsTrue_iff ν ((kOut kv n R).map Lit.neg), kIn_true, kOut_neg_true]
  constructor
  · rintro ⟨⟨⟨h1, h2⟩, h3⟩, h4⟩
    refine ⟨fun a ha => ?_, h3, h4⟩
    cases hR : R a with
    | true => exact h1 a ha hR
    | false => exact h2 a ha hR
  · rintro ⟨h1, h2, h3⟩
    exact ⟨⟨⟨fun a ha hR => by rw [h1 a ha, hR], fun a ha hR => by rw [h1 a ha, hR]⟩, h2⟩, h3⟩

def MEC.kv (m : MEC) : Nat → Nat :=
  match m.kind with
  | .range => m.enc.rv m.af.n
  | _ => m.enc.argVar

def MEC.key (m : MEC) : Nat → Bool :=
  match m.kind with
  | .range => m.inR
  | _ => fun i => m.cur.contains i

/-- the assumptions a computer of kind `.ideal` adds to its increase step -/
def MEC.forb (m : MEC) : List Lit :=
  match m.kind with
  | .ideal f => f
  | _ => []

def MEC.next (m : MEC) (mdl : Model) : MEC :=
  { m with cur := m.enc.decode m.af.n mdl, model := some mdl, state := .intermediate }

/-- the closing `rfl`s read `argLit enc i` as `pl (enc.argVar i)` and `cur.contains` as the key: `inL`/`outL`
of `SolveMEC` are `kIn`/`kOut` of the argument variables -/
theorem MEC.blockAndAssume_eq (m : MEC) : m.blockAndAssume =
    (kOut m.kv m.af.n m.key ++ [pl m.sel], kIn m.kv m.af.n m.key ++ [nl m.sel] ++ m.forb) := by
  unfold MEC.blockAndAssume MEC.kv MEC.key MEC.forb
  cases m.kind with
  | preferred => simp only [splitInExt_eq, List.append_nil]; rfl
  | ideal f => simp only [splitInExt_eq]; rfl
  | range => simp only [splitInRange_eq, List.append_nil]

theorem splitInRange_eq_k {m : MEC} (hk : m.kind = .range) :
    splitInRange m = (kIn m.kv m.af.n m.key, kOut m.kv m.af.n m.key) := by
  unfold MEC.kv MEC.key; rw [hk]; exact splitInRange_eq m

/-- `m` is the computer `m₀` at a later time: the fields a search never changes agree -/
structure MEC.Same (m₀ m : MEC) : Prop where
  af : m.af = m₀.af
  enc : m.enc = m₀.enc
  sid : m.sid = m₀.sid
  sel : m.sel = m₀.sel
  kind : m.kind = m₀.kind
  add : m.additional = m₀.additional

theorem MEC.Same.trans {m₀ m m' : MEC} (h : m₀.Same m) (h' : m.Same m') : m₀.Same m' :=
  ⟨h'.af.trans h.af, h'.enc.trans h.enc, h'.sid.trans h.sid, h'.sel.trans h.sel, h'.kind.trans h.kind,
    h'.add.trans h.add⟩
theorem MEC.same_upd (m : MEC) (c : List Nat) (md : Option Model) (s : MState) :
    m.Same { m with cur := c, model := md, state := s } := ⟨rfl, rfl, rfl, rfl, rfl, rfl⟩

theorem MEC.Same.kv {m₀ m : MEC} (h : m₀.Same m) : m.kv = m₀.kv := by
  unfold MEC.kv; rw [h.kind, h.enc, h.af]
theorem MEC.Same.forb {m₀ m : MEC} (h : m₀.Same m) : m.forb = m₀.forb := by
  unfold MEC.forb; rw [h.kind]

theorem MEC.key_congr {m m' : MEC} (hk : m'.kind = m.kind) (hc : m'.cur = m.cur) (hm : m'.model = m.model)
    (ha : m'.af = m.af) (he : m'.enc = m.enc) : m'.key = m.key := by
  unfold MEC.key MEC.inR; rw [hk, hc, hm, ha, he]

theorem MEC.key_of_not_range {m : MEC} (hk : m.kind ≠ .range) : m.key = ofList m.cur := by
  unfold MEC.key
  cases h : m.kind with
  | range => exact absurd h hk
  | preferred => rfl
  | ideal f => rfl

theorem setKey_exact {m : MEC} (hk : m.kind ≠ .range) (n : Nat) : In n SetKey (ofList m.cur) m.key := by
  rw [MEC.key_of_not_range hk]; exact fun _ _ h => h

theorem MEC.kv_of_not_range {m : MEC} (hk : m.kind ≠ .range) : m.kv = m.enc.argVar := by
  unfold MEC.kv
  cases h : m.kind with
  | range => exact absurd h hk
  | preferred => rfl
  | ideal f => rfl

theorem MEC.key_model_of_not_range {m : MEC} (hk : m.kind ≠ .range) (mdl : Model) {a : Nat} (ha : a < m.af.n) :
    (m.next mdl).key a = asgOfModel mdl (m.kv a) := by
  rw [MEC.kv_of_not_range hk, ← m.enc.S_lt (af := m.af) (ν := asgOfModel mdl) ha, ← m.enc.ofList_decode,
    MEC.key_of_not_range (m := m.next mdl) hk]
  rfl

theorem MEC.Same.solve {m₀ m : MEC} (h : m₀.Same m) (as : List Lit) : m.solve as = m₀.solve as := by
  unfold MEC.solve; rw [h.sid, h.add, h.enc, h.af]

theorem MEC.Same.decode {m₀ m : MEC} (h : m₀.Same m) (mdl : Model) :
    m.enc.decode m.af.n mdl = m₀.enc.decode m₀.af.n mdl := by rw [h.enc, h.af]

abbrev MEC.init (af : AF) (enc : EncKind) (s sel : Nat) (kind : MKind) : MEC :=
  { af := af, enc := enc, sid := s, sel := sel, kind := kind }

theorem wp_MEC_new_iff {C : Prop} (af : AF) (enc : EncKind) (sid : Nat) (kind : MKind) (w : World)
    (Q : MEC → World → Prop) :
    wp C (MEC.new af enc sid kind) w Q ↔
      Q (MEC.init af enc sid (w.nVarsOf sid + 1) kind) (w.onNVars sid) := Iff.rfl

/-- The solver of the computer `m₀` in world `w` means the family `F` with keys `K`, cut down by the
blocked keys.  In `complete` the selector can be given either value (on: the blocking clauses are off,
as the acceptance check and a second computer need); `key_model` is there because a range key is read
off the model.  `sel_used` is the only trace of the shape of the database: once a key is
blocked the selector occurs in it, hence lies below `n_vars`. -/
structure Den (F : ASet → Prop) (K : ASet → Nat → Prop) (m₀ : MEC) (w : World) (blocked : List (Nat → Bool)) : Prop where
  no_add : m₀.additional = []
  sound : ∀ ν, cnfTrue ν (w.db m₀.sid) = true → F (m₀.enc.S m₀.af ν) ∧
    (∀ a, a < m₀.af.n → ν (m₀.kv a) = true → K (m₀.enc.S m₀.af ν) a) ∧
    (ν m₀.sel = false → FreshK m₀.af.n (fun a => ν (m₀.kv a)) blocked)
  complete : ∀ T, F T → ∀ b : Bool, (b = false → ∀ B ∈ blocked, ∃ a, a < m₀.af.n ∧ B a = false ∧ K T a) →
    ∃ ν, cnfTrue ν (w.db m₀.sid) = true ∧ m₀.enc.S m₀.af ν = T ∧
      (∀ a, a < m₀.af.n → (ν (m₀.kv a) = true ↔ K T a)) ∧ ν m₀.sel = b
  key_model : ∀ mdl, ModelTotal mdl (w.db m₀.sid) → ∀ a, a < m₀.af.n →
    (m₀.next mdl).key a = asgOfModel mdl (m₀.kv a)
  sel_used : blocked ≠ [] → ∃ c ∈ w.db m₀.sid, pl m₀.sel ∈ c

section den
variable {F : ASet → Prop} {K : ASet → Nat → Prop} {m₀ : MEC} {w : World} {blocked : List (Nat → Bool)}

theorem Den.congr_db {w' : World} (h : Den F K m₀ w blocked) (hdb : w'.db m₀.sid = w.db m₀.sid) :
    Den F K m₀ w' blocked :=
  ⟨h.no_add, by rw [hdb]; exact h.sound, by rw [hdb]; exact h.complete, by rw [hdb]; exact h.key_model,
    by rw [hdb]; exact h.sel_used⟩

theorem Den.block (h : Den F K m₀ w blocked) (R : Nat → Bool) :
    Den F K m₀ (w.onClause m₀.sid (kOut m₀.kv m₀.af.n R ++ [pl m₀.sel])) (R :: blocked) := by
  refine ⟨h.no_add, ?_, ?_, ?_, fun _ => ⟨_, by rw [db_onClause_same]; exact List.mem_cons_self, by simp⟩⟩
  · intro ν hν
    rw [db_onClause_same, cnfTrue_cons_iff, clauseTrue_block] at hν
    obtain ⟨h1, h2, h3⟩ := h.sound ν hν.2
    refine ⟨h1, h2, fun hsel => List.forall_mem_cons.2 ⟨?_, h3 hsel⟩⟩
    exact hν.1.resolve_right (by rw [hsel]; exact Bool.false_ne_true)
  · intro T hT b hb
    obtain ⟨ν, hν, hS, hK, hsel⟩ := h.complete T hT b (fun hf => (List.forall_mem_cons.1 (hb hf)).2)
    refine ⟨ν, ?_, hS, hK, hsel⟩
    rw [db_onClause_same, cnfTrue_cons_iff, clauseTrue_block]
    refine ⟨?_, hν⟩
    cases b with
    | true => exact Or.inr hsel
    | false =>
      obtain ⟨a, ha, hRa, hTa⟩ := (List.forall_mem_cons.1 (hb rfl)).1
      exact Or.inl ⟨a, ha, hRa, (hK a ha).2 hTa⟩
  · intro mdl ht
    apply h.key_model mdl
    intro c hc
    exact ht c (by rw [db_onClause_same]; exact List.mem_cons_of_mem _ hc)

theorem Den.block' {m : MEC} (h : Den F K m₀ w blocked) (hs : m₀.Same m) (R : Nat → Bool) :
    Den F K m₀ (w.onClause m.sid (kOut m.kv m.af.n R ++ [pl m.sel])) (R :: blocked) := by
  rw [hs.sid, hs.kv, hs.af, hs.sel]; exact h.block R

theorem Den.guard {w' : World} (h : Den F K m₀ w blocked) (v : Nat) (cs : Cnf)
    (hdb : w'.db m₀.sid = cs ++ w.db m₀.sid) (hcs : ∀ c ∈ cs, nl v ∈ c)
    (hfresh : ∀ c ∈ w.db m₀.sid, ∀ l ∈ c, l.var ≠ v) (hsel : m₀.sel ≠ v)
    (harg : ∀ a, a < m₀.af.n → m₀.enc.argVar a ≠ v) (hkv : ∀ a, a < m₀.af.n → m₀.kv a ≠ v) :
    Den F K m₀ w' blocked := by
  have hsub : ∀ ν, cnfTrue ν (w'.db m₀.sid) = true → cnfTrue ν (w.db m₀.sid) = true := by
    intro ν hν
    rw [hdb, cnfTrue_append_iff] at hν
    exact hν.2
  refine ⟨h.no_add, fun ν hν => h.sound ν (hsub ν hν), ?_, ?_, fun hne => ?_⟩
  · intro T hT b hb
    obtain ⟨ν, hν, hS, hK, hs⟩ := h.complete T hT b hb
    refine ⟨ν.set v false, ?_, ?_, fun a ha => ?_, ?_⟩
    · rw [hdb, cnfTrue_append_iff, cnfTrue_set_fresh _ _ _ hfresh]
      exact ⟨(cnfTrue_iff _ _).2 fun c hc => (clauseTrue_iff _ _).2 ⟨nl v, hcs c hc, by simp⟩, hν⟩
    · rw [m₀.enc.S_set_fresh m₀.af ν _ _ harg, hS]
    · rw [Asg.set_ne _ _ (hkv a ha)]; exact hK a ha
    · rw [Asg.set_ne _ _ hsel]; exact hs
  · intro mdl ht
    apply h.key_model mdl
    intro c hc
    exact ht c (by rw [hdb]; exact List.mem_append_right _ hc)
  · obtain ⟨c, hc, hl⟩ := h.sel_used hne
    exact ⟨c, by rw [hdb]; exact List.mem_append_right _ hc, hl⟩

structure SatReply (F : ASet → Prop) (K : ASet → Nat → Prop) (m₀ : MEC) (blocked : List (Nat → Bool)) (R : Nat → Bool)
    (mdl : Model) : Prop where
  mem : F (ofList (m₀.enc.decode m₀.af.n mdl))
  lt : ∀ a ∈ m₀.enc.decode m₀.af.n mdl, a < m₀.af.n
  above : SubK m₀.af.n R (m₀.next mdl).key
  sound : Above m₀.af.n K (m₀.next mdl).key (ofList (m₀.enc.decode m₀.af.n mdl))
  fresh : FreshK m₀.af.n (m₀.next mdl).key blocked

theorem exists_of_not_sub {n : Nat} {P : Nat → Prop} {B : Nat → Bool}
    (h : ¬ ∀ a, a < n → P a → B a = true) : ∃ a, a < n ∧ P a ∧ B a = false := by
  apply Classical.byContradiction
  intro hn
  apply h
  intro a ha hPa
  cases hBa : B a with
  | true => rfl
  | false => exact absurd ⟨a, ha, hPa, hBa⟩ hn

/-- **a call under assumptions**: a member above `R` outside the blocked keys, or there is none (`wp` of
a `solve` node is the conjunction of the SAT and the UNSAT case, `wp_solve`: hence the `constructor`) -/
theorem wp_ask {C : Prop} {m : MEC} (h : Den F K m₀ w blocked) (hs : m₀.Same m) (R : Nat → Bool) (extra : List Lit)
    (Q : Option (Model × List Nat) → World → Prop)
    (hsat : ∀ mdl w', Den F K m₀ w' blocked → w'.calls = w.calls + 1 →
      SatReply F K m₀ blocked R mdl → assumpsTrue (asgOfModel mdl) extra = true →
      Q (some (mdl, m₀.enc.decode m₀.af.n mdl)) w')
    (hunsat : ∀ w', Den F K m₀ w' blocked → w'.calls = w.calls + 1 →
      (∀ T, F T → Above m₀.af.n K R T →
        (∀ ν, m₀.enc.S m₀.af ν = T → ν m₀.sel = false → assumpsTrue ν extra = true) →
        ∃ B ∈ blocked, In m₀.af.n K T B) → Q none w') :
    wp C (m.solve (kIn m.kv m.af.n R ++ [nl m.sel] ++ extra)) w Q := by
  rw [hs.kv, hs.af, hs.sel, hs.solve]
  unfold MEC.solve
  simp only [h.no_add, List.append_nil]
  rw [wp_bind']
  have hdb : ∀ r, ((w.onSolve m₀.sid (kIn m₀.kv m₀.af.n R ++ [nl m₀.sel] ++ extra)).onReply m₀.sid r).db m₀.sid =
      w.db m₀.sid := by
    intro r; simp
  constructor
  · rintro mdl ⟨htot, hΓ, hA⟩
    obtain ⟨hA1, hA2, hA3⟩ := (assumps_kIn _ _ _ _ _ _).1 hA
    obtain ⟨h1, h2, h3⟩ := h.sound _ hΓ
    have hS := m₀.enc.ofList_decode m₀.af mdl
    have hk := h.key_model mdl htot
    refine hsat mdl _ (h.congr_db (hdb _)) rfl ⟨hS ▸ h1, ?_, ?_, ?_, ?_⟩ hA3
    · exact fun a ha => m₀.enc.S_sub m₀.af _ a ((m₀.enc.decode_spec m₀.af mdl a).1 ha)
    · exact fun a ha hRa => (hk a ha).trans (hA1 a ha hRa)
    · intro a ha hka
      rw [hS]
      exact h2 a ha ((hk a ha).symm.trans hka)
    · intro B hB
      obtain ⟨a, ha, hBa, hνa⟩ := h3 hA2 B hB
      exact ⟨a, ha, hBa, (hk a ha).trans hνa⟩
  · intro hun
    refine hunsat _ (h.congr_db (hdb _)) rfl ?_
    intro T hT hRT hextra
    apply Classical.byContradiction
    intro hno
    have hblk : ∀ B ∈ blocked, ∃ a, a < m₀.af.n ∧ B a = false ∧ K T a := by
      intro B hB
      obtain ⟨a, ha, hTa, hBa⟩ := exists_of_not_sub (fun hh => hno ⟨B, hB, hh⟩)
      exact ⟨a, ha, hBa, hTa⟩
    obtain ⟨ν, hν, hSν, hKν, hsel⟩ := h.complete T hT false (fun _ => hblk)
    exact hun ν ⟨hν, (assumps_kIn _ _ _ _ _ _).2 ⟨fun a ha hRa => (hKν a ha).2 (hRT a ha hRa), hsel, hextra ν hSν hsel⟩⟩

/-- **a call about the members whose key is exactly `R`** (selector on: the blocking clauses are off) -/
theorem wp_askExact {C : Prop} {m : MEC} (h : Den F K m₀ w blocked) (hs : m₀.Same m) (R : Nat → Bool)
    (extra : List Lit) (Q : Option Model → World → Prop)
    (hsat : ∀ mdl w', w.Step w' → Den F K m₀ w' blocked → w'.calls = w.calls + 1 →
      F (ofList (m₀.enc.decode m₀.af.n mdl)) → (∀ a ∈ m₀.enc.decode m₀.af.n mdl, a < m₀.af.n) →
      Above m₀.af.n K R (ofList (m₀.enc.decode m₀.af.n mdl)) →
      assumpsTrue (asgOfModel mdl) extra = true → Q (some mdl) w')
    (hunsat : ∀ w', w.Step w' → Den F K m₀ w' blocked → w'.calls = w.calls + 1 →
      (∀ T, F T → (∀ a, a < m₀.af.n → (K T a ↔ R a = true)) →
        (∀ ν, m₀.enc.S m₀.af ν = T → assumpsTrue ν extra = true) → False) → Q none w') :
    wp C (doSolve m.sid (kIn m.kv m.af.n R ++ (kOut m.kv m.af.n R).map Lit.neg ++ [pl m.sel] ++ extra)) w Q := by
  rw [hs.sid, hs.kv, hs.af, hs.sel]
  have hdb : ∀ as r, ((w.onSolve m₀.sid as).onReply m₀.sid r).db m₀.sid = w.db m₀.sid := by intro as r; simp
  constructor
  · rintro mdl ⟨_, hΓ, hA⟩
    obtain ⟨hA1, _, hA3⟩ := (assumps_exact _ _ _ _ _ _).1 hA
    obtain ⟨h1, h2, _⟩ := h.sound _ hΓ
    have hS := m₀.enc.ofList_decode m₀.af mdl
    refine hsat mdl _ (.solve _ _ _ _) (h.congr_db (hdb _ _)) rfl (hS ▸ h1)
      (fun a ha => m₀.enc.S_sub m₀.af _ a ((m₀.enc.decode_spec m₀.af mdl a).1 ha)) (fun a ha hRa => ?_) hA3
    rw [hS]
    exact h2 a ha ((hA1 a ha).trans hRa)
  · intro hun
    refine hunsat _ (.solve _ _ _ _) (h.congr_db (hdb _ _)) rfl ?_
    intro T hT hKT hextra
    obtain ⟨ν, hν, hSν, hKν, hsel⟩ := h.complete T hT true (fun hf => by cases hf)
    refine hun ν ⟨hν, (assumps_exact _ _ _ _ _ _).2 ⟨fun a ha => ?_, hsel, hextra ν hSν⟩⟩
    rw [Bool.eq_iff_iff, hKν a ha]
    exact hKT a ha

/-- the same about the members that contain one of the positions `L`, asked under a selector `v` that
occurs nowhere else: `w1` is the world after the clause "one of `L`, or not `v`" -/
theorem wp_askExactHit {C : Prop} {m : MEC} (h : Den F K m₀ w blocked) (hs : m₀.Same m) (R : Nat → Bool)
    (L : List Nat) (v : Nat)
    (hfresh : ∀ c ∈ w.db m₀.sid, ∀ l ∈ c, l.var ≠ v) (hsel : m₀.sel ≠ v)
    (harg : ∀ a, a < m₀.af.n → m₀.enc.argVar a ≠ v) (hkv : ∀ a, a < m₀.af.n → m₀.kv a ≠ v)
    {w1 : World} (hw1 : w1.db m.sid = hitClause m.enc L v :: w.db m.sid) (Q : Option Model → World → Prop)
    (hsat : ∀ mdl w', w1.Step w' → w'.db m₀.sid = w1.db m₀.sid → w'.calls = w1.calls + 1 →
      F (ofList (m₀.enc.decode m₀.af.n mdl)) → (∀ a ∈ m₀.enc.decode m₀.af.n mdl, a < m₀.af.n) →
      Above m₀.af.n K R (ofList (m₀.enc.decode m₀.af.n mdl)) →
      ((∀ p ∈ L, p < m₀.af.n) → ∃ p ∈ L, ofList (m₀.enc.decode m₀.af.n mdl) p = true) → Q (some mdl) w')
    (hunsat : ∀ w', w1.Step w' → w'.db m₀.sid = w1.db m₀.sid → w'.calls = w1.calls + 1 →
      ((∀ p ∈ L, p < m₀.af.n) → ∀ T, F T → (∀ a, a < m₀.af.n → (K T a ↔ R a = true)) → ¬ ∃ p ∈ L, T p = true) →
      Q none w') :
    wp C (doSolve m.sid (kIn m.kv m.af.n R ++ (kOut m.kv m.af.n R).map Lit.neg ++ [pl m.sel] ++ [pl v])) w1 Q := by
  rw [hs.sid, hs.enc] at hw1
  rw [hs.sid, hs.kv, hs.af, hs.sel]
  have hdb : ∀ as r, ((w1.onSolve m₀.sid as).onReply m₀.sid r).db m₀.sid = w1.db m₀.sid := by intro as r; simp
  constructor
  · rintro mdl ⟨_, hΓ, hA⟩
    obtain ⟨hA1, _, hA3⟩ := (assumps_exact _ _ _ _ _ _).1 hA
    have hv : asgOfModel mdl v = true := by rwa [assumpsTrue_singleton, litTrue_pl] at hA3
    rw [hw1, cnfTrue_cons_iff] at hΓ
    obtain ⟨h1, h2, _⟩ := h.sound _ hΓ.2
    have hS := m₀.enc.ofList_decode m₀.af mdl
    refine hsat mdl _ (.solve _ _ _ _) (hdb _ _) rfl (hS ▸ h1)
      (fun a ha => m₀.enc.S_sub m₀.af _ a ((m₀.enc.decode_spec m₀.af mdl a).1 ha)) (fun a ha hRa => ?_) (fun hL => ?_)
    · rw [hS]; exact h2 a ha ((hA1 a ha).trans hRa)
    · rcases (clauseTrue_hit _ _ _ _).1 hΓ.1 with ⟨p, hp, hpt⟩ | hf
      · exact ⟨p, hp, by rw [hS, m₀.enc.S_lt (hL p hp)]; exact hpt⟩
      · rw [hv] at hf; cases hf
  · intro hun
    refine hunsat _ (.solve _ _ _ _) (hdb _ _) rfl ?_
    rintro hL T hT hKT ⟨p, hp, hTp⟩
    obtain ⟨ν, hν, hSν, hKν, hs⟩ := h.complete T hT true (fun hf => by cases hf)
    refine hun (ν.set v true) ⟨?_, (assumps_exact _ _ _ _ _ _).2
      ⟨fun a ha => ?_, ?_, by rw [assumpsTrue_singleton, litTrue_pl, Asg.set_self]⟩⟩
    · rw [hw1, cnfTrue_cons_iff, cnfTrue_set_fresh _ _ _ hfresh]
      refine ⟨(clauseTrue_hit _ _ _ _).2 (Or.inl ⟨p, hp, ?_⟩), hν⟩
      rw [Asg.set_ne _ _ (harg p (hL p hp)), ← m₀.enc.S_lt (ν := ν) (hL p hp), hSν]; exact hTp
    · rw [Asg.set_ne _ _ (hkv a ha), Bool.eq_iff_iff, hKν a ha]; exact hKT a ha
    · rw [Asg.set_ne _ _ hsel]; exact hs

end den

/-- what every event of a run keeps (`wp_varsBelow`) and a new selector `n_vars + 1` needs -/
structure VarsBelow (m₀ : MEC) (w : World) : Prop where
  bnd : w.Bounded
  sid_lt : m₀.sid < w.solvers.length
  arg_lt : ∀ a, a < m₀.af.n → m₀.enc.argVar a < m₀.sel
  kv_lt : ∀ a, a < m₀.af.n → m₀.kv a < m₀.sel

theorem VarsBelow.step {m₀ : MEC} {w w' : World} (hs : w.Step w') (h : VarsBelow m₀ w) : VarsBelow m₀ w' :=
  ⟨h.bnd.step hs, Nat.lt_of_lt_of_le h.sid_lt hs.len_le, h.arg_lt, h.kv_lt⟩

theorem wp_varsBelow {α : Type} {C : Prop} {m₀ : MEC} (p : Prog α) (w : World) (Q : α → World → Prop)
    (h : VarsBelow m₀ w) (hp : wp C p w Q) : wp C p w (fun a w' => VarsBelow m₀ w' ∧ Q a w') :=
  wp_inv (I := VarsBelow m₀) (fun _ _ hs hI => hI.step hs) p w Q h hp

theorem VarsBelow.new_sel {F : ASet → Prop} {K : ASet → Nat → Prop} {m₀ : MEC} {w : World} {blocked : List (Nat → Bool)}
    (h : VarsBelow m₀ w) (hD : Den F K m₀ w blocked) (hne : blocked ≠ []) :
    (∀ c ∈ w.db m₀.sid, ∀ l ∈ c, l.var ≠ w.nVarsOf m₀.sid + 1) ∧ m₀.sel ≠ w.nVarsOf m₀.sid + 1 ∧
    (∀ a, a < m₀.af.n → m₀.enc.argVar a ≠ w.nVarsOf m₀.sid + 1) ∧
    (∀ a, a < m₀.af.n → m₀.kv a ≠ w.nVarsOf m₀.sid + 1) := by
  have hdb : ∀ c ∈ w.db m₀.sid, ∀ l ∈ c, l.var ≤ w.nVarsOf m₀.sid := h.bnd m₀.sid h.sid_lt
  obtain ⟨c, hc, hl⟩ := hD.sel_used hne
  have hsel : m₀.sel ≤ w.nVarsOf m₀.sid := hdb c hc _ hl
  exact ⟨fun c hc l hl => Nat.ne_of_lt (Nat.lt_succ_of_le (hdb c hc l hl)), Nat.ne_of_lt (Nat.lt_succ_of_le hsel),
    fun a ha => Nat.ne_of_lt (Nat.lt_succ_of_le (Nat.le_trans (Nat.le_of_lt (h.arg_lt a ha)) hsel)),
    fun a ha => Nat.ne_of_lt (Nat.lt_succ_of_le (Nat.le_trans (Nat.le_of_lt (h.kv_lt a ha)) hsel))⟩

/-- a computer created by `MEC.new` on a solver whose clauses mean `F`: the selector `n_vars + 1` lies above
everything, so either value of it extends a model -/
theorem Den.of_new {F : ASet → Prop} {K : ASet → Nat → Prop} {af : AF} {enc : EncKind} {s : Nat} {kind : MKind}
    {w : World} (hb : w.Bounded) (hs : s < w.solvers.length)
    (hsound : ∀ ν, cnfTrue ν (w.db s) = true → F (enc.S af ν) ∧
      ∀ a, a < af.n → ν (MEC.kv (MEC.init af enc s (w.nVarsOf s + 1) kind) a) = true →
        K (enc.S af ν) a)
    (hcomplete : ∀ T, F T → ∃ ν, cnfTrue ν (w.db s) = true ∧ enc.S af ν = T ∧ ∀ a, a < af.n →
      (ν (MEC.kv (MEC.init af enc s (w.nVarsOf s + 1) kind) a) = true ↔ K T a))
    (harg : ∀ a, a < af.n → enc.argVar a ≤ w.nVarsOf s)
    (hkv : ∀ a, a < af.n → MEC.kv (MEC.init af enc s (w.nVarsOf s + 1) kind) a ≤ w.nVarsOf s)
    (hkm : ∀ mdl, ModelTotal mdl (w.db s) → ∀ a, a < af.n →
      (MEC.next (MEC.init af enc s (w.nVarsOf s + 1) kind) mdl).key a =
        asgOfModel mdl (MEC.kv (MEC.init af enc s (w.nVarsOf s + 1) kind) a)) :
    Den F K (MEC.init af enc s (w.nVarsOf s + 1) kind) (w.onNVars s) [] ∧
      VarsBelow (MEC.init af enc s (w.nVarsOf s + 1) kind) (w.onNVars s) := by
  have hne : ∀ {x}, x ≤ w.nVarsOf s → x ≠ w.nVarsOf s + 1 := fun h => Nat.ne_of_lt (Nat.lt_succ_of_le h)
  refine ⟨⟨rfl, fun ν hν => ?_, fun T hT b _ => ?_, hkm, fun h => absurd rfl h⟩, Bounded_onNVars hb _, hs,
    fun a ha => Nat.lt_succ_of_le (harg a ha), fun a ha => Nat.lt_succ_of_le (hkv a ha)⟩
  · obtain ⟨h1, h2⟩ := hsound ν hν
    exact ⟨h1, h2, fun _ B hB => nomatch hB⟩
  · obtain ⟨ν, hν, hS, hK⟩ := hcomplete T hT
    refine ⟨ν.set (w.nVarsOf s + 1) b, ?_, ?_, fun a ha => ?_, Asg.set_self _ _ _⟩
    · exact (cnfTrue_set_fresh _ _ _ fun c hc l hl => hne (hb s hs c hc l hl)).trans hν
    · rw [enc.S_set_fresh af ν _ _ (fun a ha => hne (harg a ha)), hS]
    · rw [Asg.set_ne _ _ (hne (hkv a ha))]; exact hK a ha

theorem Den.of_encoded {F : ASet → Prop} {enc : EncKind} {af : AF} {s : Nat} {w : World}
    (henc : Encoded enc af s false w) (hwf : af.WF) (hF : ∀ T, enc.Base af T ↔ F T) {kind : MKind}
    (hkind : kind ≠ .range) :
    Den F SetKey (MEC.init af enc s (w.nVarsOf s + 1) kind)
        (w.onNVars s) [] ∧
      VarsBelow (MEC.init af enc s (w.nVarsOf s + 1) kind) (w.onNVars s) := by
  have hkv : MEC.kv (MEC.init af enc s (w.nVarsOf s + 1) kind) = enc.argVar :=
    MEC.kv_of_not_range hkind
  have hdb : ∀ ν, cnfTrue ν (w.db s) = cnfTrue ν (enc.clauses af) := henc.cnfTrue_db
  refine Den.of_new henc.bounded henc.exists_ (fun ν hν => ?_) (fun T hT => ?_) (fun a ha => henc.argVar_le ha)
    (fun a ha => hkv ▸ henc.argVar_le ha) (fun mdl _ a ha => MEC.key_model_of_not_range hkind mdl ha)
  · exact ⟨(hF _).1 (enc.sound af hwf ν ((hdb ν).symm.trans hν)), fun a ha hνa => (enc.S_lt ha).trans (hkv ▸ hνa)⟩
  · obtain ⟨ν, hν, hS⟩ := enc.complete af hwf T ((hF T).2 hT)
    exact ⟨ν, (hdb ν).trans hν, hS, fun a ha => by rw [hkv, ← enc.S_lt (af := af) (ν := ν) ha, hS]⟩

/-- the solver after its computer has been dropped: what it meant, and the unit clause of the selector -/
def Den.Dropped (F : ASet → Prop) (K : ASet → Nat → Prop) (m₀ : MEC) (w : World) : Prop :=
  ∃ w0 bl, Den F K m₀ w0 bl ∧ w.db m₀.sid = [pl m₀.sel] :: w0.db m₀.sid

theorem Den.dropped {F : ASet → Prop} {K : ASet → Nat → Prop} {m₀ m : MEC} {w : World} {bl : List (Nat → Bool)}
    (h : Den F K m₀ w bl) (hs : m₀.Same m) : Den.Dropped F K m₀ (w.onClause m.sid [pl m.sel]) :=
  ⟨w, bl, h, by rw [hs.sid, hs.sel, db_onClause_same]⟩

/-- a second computer on the solver of a dropped one: the blocking clauses of the first are switched off
by its selector, which the unit clause has made true -/
theorem Den.renew {F : ASet → Prop} {K : ASet → Nat → Prop} {m₀ : MEC} {w : World} (h : Den.Dropped F K m₀ w)
    (hV : VarsBelow m₀ w) (hk0 : m₀.kind ≠ .range) {kind : MKind} (hk : kind ≠ .range) :
    Den F K (MEC.init m₀.af m₀.enc m₀.sid (w.nVarsOf m₀.sid + 1) kind)
        (w.onNVars m₀.sid) [] ∧
      VarsBelow (MEC.init m₀.af m₀.enc m₀.sid (w.nVarsOf m₀.sid + 1) kind)
        (w.onNVars m₀.sid) := by
  obtain ⟨w0, bl, hD, hdb⟩ := h
  have hkv0 := MEC.kv_of_not_range hk0
  have hkv2 : MEC.kv (MEC.init m₀.af m₀.enc m₀.sid (w.nVarsOf m₀.sid + 1) kind) =
      m₀.enc.argVar := MEC.kv_of_not_range hk
  have hsel : m₀.sel ≤ w.nVarsOf m₀.sid :=
    hV.bnd m₀.sid hV.sid_lt [pl m₀.sel] (by rw [hdb]; exact List.mem_cons_self) (pl m₀.sel) (by simp)
  have harg : ∀ a, a < m₀.af.n → m₀.enc.argVar a ≤ w.nVarsOf m₀.sid :=
    fun a ha => Nat.le_trans (Nat.le_of_lt (hV.arg_lt a ha)) hsel
  refine Den.of_new hV.bnd hV.sid_lt (fun ν hν => ?_) (fun T hT => ?_) harg (fun a ha => hkv2 ▸ harg a ha)
    (fun mdl _ a ha => MEC.key_model_of_not_range hk mdl ha)
  · rw [hdb, cnfTrue_cons_iff] at hν
    obtain ⟨h1, h2, _⟩ := hD.sound ν hν.2
    exact ⟨h1, fun a ha hνa => h2 a ha (by rw [hkv0]; exact hkv2 ▸ hνa)⟩
  · obtain ⟨ν, hν, hS, hK, hs⟩ := hD.complete T hT true (fun hf => by cases hf)
    refine ⟨ν, ?_, hS, fun a ha => by rw [hkv2, ← hkv0]; exact hK a ha⟩
    rw [hdb, cnfTrue_cons_iff]
    exact ⟨by rwa [clauseTrue_singleton, litTrue_pl], hν⟩

theorem MEC.computeNext_init {m : MEC} (hst : m.state = .init) :
    m.computeNext = pure { m with cur := groundedV m.af.view, state := .intermediate } := by
  rw [MEC.computeNext, hst]

theorem computeMaximal_init {m : MEC} (hst : m.state = .init) (fuel : Nat) :
    MEC.computeMaximal (fuel + 1) m =
      MEC.computeMaximal fuel { m with cur := groundedV m.af.view, state := .intermediate } := by
  rw [MEC.computeMaximal, MEC.computeNext_init hst, hst]
  rfl

theorem rgAccLoop_init (cred : Bool) (pos : List Nat) {m : MEC} (hst : m.state = .init) (fuel : Nat) :
    rgAccLoop cred pos (fuel + 1) m =
      rgAccLoop cred pos fuel { m with cur := groundedV m.af.view, state := .intermediate } := by
  rw [rgAccLoop, MEC.computeNext_init hst]
  rfl

theorem idEnumLoop_init (grLen : Nat) {m : MEC} (hst : m.state = .init) (fuel : Nat) (ia : InAll) :
    idEnumLoop grLen (fuel + 1) m ia =
      idEnumLoop grLen fuel { m with cur := groundedV m.af.view, state := .intermediate } ia := by
  rw [idEnumLoop, MEC.computeNext_init hst]
  rfl

theorem wp_drop {C : Prop} (m : MEC) (w : World) (Q : Unit → World → Prop) :
    wp C m.drop w Q ↔ Q () (w.onClause m.sid [pl m.sel]) := Iff.rfl

theorem wp_computeMaximal_done {C : Prop} {m : MEC} (hst : m.state = .maximal) {fuel : Nat} (hf : C ∨ fuel ≥ 1)
    (w : World) (Q : List Nat → World → Prop) (hQ : Q m.cur (w.onClause m.sid [pl m.sel])) :
    wp C (MEC.computeMaximal fuel m) w Q := by
  cases fuel with
  | zero => exact hf.resolve_right (by omega)
  | succ fuel =>
    rw [MEC.computeMaximal]
    simp only [hst, beq_self_eq_true, if_true]
    rw [wp_bind']
    exact hQ

-- from here on `wp` is only used through its rules: keeping it folded spares the elaborator the attempt
-- to evaluate the program at every step
attribute [local irreducible] wp

/-- The computer `m₀` as a search loop sees it: `F₀` is the family of its encoder, `F` the family it
searches (`F₀` cut down by what the assumptions `forb` of an `.ideal` computer express; `F₀` itself for
the other kinds), `K` the keys.  A computer in the initial state has no model yet. -/
def MEC.asSys (F₀ F : ASet → Prop) (K : ASet → Nat → Prop) (m₀ : MEC) : Sys MEC where
  n := m₀.af.n
  F := F
  K := K
  st := MEC.state
  cur := MEC.cur
  key := MEC.key
  R := fun m w bl => m₀.Same m ∧ Den F₀ K m₀ w bl ∧ (m.state = .init → m.model = none)
  next := MEC.computeNext
  discard := MEC.discardCurrentSearch

theorem MEC.Same.key_upd {m₀ m : MEC} (h : m₀.Same m) (mdl : Model) :
    MEC.key { m with cur := m₀.enc.decode m₀.af.n mdl, model := some mdl, state := .intermediate } =
      (m₀.next mdl).key := MEC.key_congr h.kind rfl rfl h.af h.enc

section asSys
variable {F₀ F : ASet → Prop} {K : ASet → Nat → Prop} {G : ASet → Prop} {m₀ : MEC}

theorem MEC.asSys_st (m : MEC) : (MEC.asSys F₀ F K m₀).st m = m.state := rfl
theorem MEC.asSys_cur (m : MEC) : (MEC.asSys F₀ F K m₀).cur m = m.cur := rfl
theorem MEC.asSys_key (m : MEC) : (MEC.asSys F₀ F K m₀).key m = m.key := rfl

/-- the grounded extension is a member, and the key a computer without a model reads off it lies inside
its key -/
theorem MEC.asSys_init (hF : F (ofList (groundedV m₀.af.view))) (hlt : ∀ a ∈ groundedV m₀.af.view, a < m₀.af.n)
    (hkey : Above m₀.af.n K (MEC.key { m₀ with cur := groundedV m₀.af.view, model := none, state := .intermediate })
      (ofList (groundedV m₀.af.view))) : (MEC.asSys F₀ F K m₀).InitOK := by
  rintro C m w hst ⟨hs, hD, hmodel⟩
  show wp C m.computeNext w _
  rw [MEC.computeNext_init hst]
  have hgr : groundedV m.af.view = groundedV m₀.af.view := by rw [hs.af]
  have hk : MEC.key { m with cur := groundedV m.af.view, state := .intermediate } =
      MEC.key { m₀ with cur := groundedV m₀.af.view, model := none, state := .intermediate } :=
    MEC.key_congr hs.kind hgr (hmodel hst) hs.af hs.enc
  refine (wp_pure _ _ _).2 ⟨rfl, ⟨hgr ▸ hF, hgr ▸ hlt, ?_⟩,
    ⟨hs.trans (m.same_upd _ _ _), hD, fun h => nomatch h⟩, rfl⟩
  have := hkey
  rw [← hk, ← hgr] at this
  exact this

theorem MEC.asSys_grow (hFG : ∀ T, F T ↔ F₀ T ∧ G T)
    (hforb : ∀ ν, assumpsTrue ν m₀.forb = true ↔ G (m₀.enc.S m₀.af ν)) : (MEC.asSys F₀ F K m₀).GrowOK := by
  rintro C m w bl hst ⟨hs, hD, _⟩ _
  show wp C m.computeNext w _
  unfold MEC.computeNext
  rw [show m.state = .intermediate from hst]
  simp only [MEC.blockAndAssume_eq]
  rw [wp_bind', wp_addClause1, wp_bind']
  apply wp_ask (hD.block' hs m.key) hs m.key m.forb
  · intro mdl w' hD' hcal hr hex
    rw [hs.forb] at hex
    have h1 := hr.sound
    have h2 := hr.above
    have h3 := hr.fresh
    rw [← hs.key_upd mdl] at h1 h2 h3
    exact (wp_pure _ _ _).2 ⟨hcal, ⟨hs.trans (m.same_upd _ _ _), hD', fun h => nomatch h⟩, Or.inl ⟨rfl,
      ⟨(hFG _).2 ⟨hr.mem, (m₀.enc.ofList_decode m₀.af mdl) ▸ (hforb _).1 hex⟩, hr.lt, h1⟩, h2, h3⟩⟩
  · intro w' hD' hcal hun
    refine (wp_pure _ _ _).2 ⟨hcal, ⟨hs.trans (m.same_upd m.cur m.model .maximal), hD', fun h => nomatch h⟩,
      Or.inr ⟨rfl, rfl, rfl, fun T hT hab => ?_⟩⟩
    exact hun T ((hFG T).1 hT).1 hab fun ν hS _ => by rw [hs.forb]; exact (hforb ν).2 (hS ▸ ((hFG T).1 hT).2)

theorem wp_newSearch {C : Prop} {m : MEC} {w w₁ : World} {bl : List (Nat → Bool)}
    (hs : m₀.Same m) (hD : Den F K m₀ w₁ bl) (hcal : w₁.calls = w.calls) :
    wp C m.newSearch w₁ (fun m' w' => w'.calls = w.calls + 1 ∧ (MEC.asSys F F K m₀).R m' w' bl ∧
      ((m'.state = .intermediate ∧ (MEC.asSys F F K m₀).Member m' ∧ FreshK m₀.af.n m'.key bl) ∨
       (m'.state = .none ∧ ∀ T, F T → ∃ E ∈ bl, In m₀.af.n K T E))) := by
  unfold MEC.newSearch
  rw [wp_bind']
  have happ : [nl m.sel] = kIn m.kv m.af.n (fun _ => false) ++ [nl m.sel] ++ [] := by simp [kIn]
  rw [happ]
  apply wp_ask hD hs
  · intro mdl w' hD' hcal' hr _
    have h1 := hr.sound
    have h3 := hr.fresh
    rw [← hs.key_upd mdl] at h1 h3
    exact (wp_pure _ _ _).2 ⟨hcal ▸ hcal', ⟨hs.trans (m.same_upd _ _ _), hD', fun h => nomatch h⟩,
      Or.inl ⟨rfl, ⟨hr.mem, hr.lt, h1⟩, h3⟩⟩
  · intro w' hD' hcal' hun
    refine (wp_pure _ _ _).2 ⟨hcal ▸ hcal', ⟨hs.trans (m.same_upd m.cur m.model .none), hD', fun h => nomatch h⟩,
      Or.inr ⟨rfl, fun T hT => ?_⟩⟩
    exact hun T hT (fun _ _ hf => by cases hf) (fun _ _ _ => rfl)

theorem MEC.asSys_new : (MEC.asSys F F K m₀).NewOK := by
  rintro C m w bl hst ⟨hs, hD, _⟩
  show wp C m.computeNext w _
  unfold MEC.computeNext
  rw [show m.state = .justDiscarded from hst]
  exact wp_newSearch hs hD rfl

theorem MEC.asSys_max : (MEC.asSys F F K m₀).MaxOK := by
  rintro C m w bl hst ⟨hs, hD, _⟩
  show wp C m.computeNext w _
  unfold MEC.computeNext
  rw [show m.state = .maximal from hst]
  simp only [MEC.blockAndAssume_eq]
  rw [wp_bind', wp_addClause1]
  exact wp_newSearch hs (hD.block' hs m.key) rfl

theorem MEC.asSys_discard : (MEC.asSys F₀ F K m₀).DiscardOK := by
  rintro C m w bl hst ⟨hs, hD, _⟩
  show wp C m.discardCurrentSearch w _
  unfold MEC.discardCurrentSearch
  simp only [MEC.blockAndAssume_eq]
  rw [wp_bind', wp_addClause1]
  exact (wp_pure _ _ _).2 ⟨rfl, rfl, rfl,
    ⟨hs.trans (m.same_upd m.cur m.model .justDiscarded), hD.block' hs m.key, fun h => nomatch h⟩, rfl⟩

theorem MEC.asSys_grow_all (hforb : m₀.forb = []) : (MEC.asSys F F K m₀).GrowOK :=
  MEC.asSys_grow (G := fun _ => True) (fun _ => ⟨fun h => ⟨h, trivial⟩, fun h => h.1⟩)
    (fun ν => by rw [hforb]; exact ⟨fun _ => trivial, fun _ => rfl⟩)

theorem MEC.asSys_ok (hforb : m₀.forb = []) (hF : F (ofList (groundedV m₀.af.view)))
    (hlt : ∀ a ∈ groundedV m₀.af.view, a < m₀.af.n)
    (hkey : Above m₀.af.n K (MEC.key { m₀ with cur := groundedV m₀.af.view, model := none, state := .intermediate })
      (ofList (groundedV m₀.af.view))) : (MEC.asSys F F K m₀).OK :=
  ⟨MEC.asSys_init hF hlt hkey, MEC.asSys_grow_all hforb, MEC.asSys_new, MEC.asSys_discard⟩

end asSys

/-! ## the fuel of a loop whose iterations each make a call -/

theorem fuel_zero {a B : Nat} (h : a + 1 ≤ B) (hf : 0 + a ≥ B) : False :=
  Nat.not_succ_le_self a (Nat.le_trans h (Nat.zero_add a ▸ hf))

theorem fuel_step {fuel a a' B : Nat} (hf : fuel + 1 + a ≥ B) (hc : a' ≥ a + 1) : fuel + a' ≥ B :=
  Nat.le_trans hf (Nat.le_trans (Nat.le_of_eq (Nat.add_right_comm fuel 1 a)) (Nat.add_le_add_left hc fuel))

theorem fuel_pos {fuel a N : Nat} (hf : fuel + 1 + a ≥ N + 1) (h : a + 1 ≤ N) : fuel ≥ 1 := by
  have h2 : a + 2 ≤ fuel + 1 + a := Nat.le_trans (Nat.succ_le_succ h) hf
  rw [Nat.add_comm (fuel + 1) a] at h2
  exact Nat.le_of_succ_le_succ (Nat.le_of_add_le_add_left h2)

/-- **`compute_maximal`** from an intermediate state: the result is a member whose key lies above a
maximal key; `k` bounds the positions still outside the key, hence the calls -/
theorem wp_growMax {C : Prop} {F₀ F : ASet → Prop} {K : ASet → Nat → Prop} {m₀ : MEC}
    (hgrow : (MEC.asSys F₀ F K m₀).GrowOK) (fuel : Nat) :
    ∀ (k : Nat) (m : MEC) (w : World) (bl : List (Nat → Bool)), m.state = .intermediate →
    (MEC.asSys F₀ F K m₀).R m w bl → (MEC.asSys F₀ F K m₀).Member m → FreshK m₀.af.n m.key bl →
    outside m₀.af.n m.key + 1 ≤ k → C ∨ fuel ≥ k + 1 →
    wp C (MEC.computeMaximal fuel m) w (fun e w' =>
      (F (ofList e) ∧ (∀ a ∈ e, a < m₀.af.n) ∧
        ∃ key, Above m₀.af.n K key (ofList e) ∧ KeyMax m₀.af.n F K key) ∧
      w'.calls ≤ w.calls + k) := by
  induction fuel with
  | zero => intro k m w _ _ _ _ _ _ hf; exact (wp_crash _ _ _).2 (hf.resolve_right (Nat.not_succ_le_zero k))
  | succ fuel ih =>
    intro k m w bl hst hR hMem hfr hk hf
    obtain ⟨k, rfl⟩ := Nat.exists_eq_succ_of_ne_zero (Nat.ne_of_gt (Nat.lt_of_lt_of_le (Nat.succ_pos _) hk))
    unfold MEC.computeMaximal
    have hne : (m.state == MState.maximal) = false := by rw [hst]; rfl
    simp only [hne, Bool.false_eq_true, if_false]
    rw [wp_bind']
    refine wp_mono _ _ _ _ ?_ (hgrow hst hR hMem)
    rintro m' w' ⟨hcal, hR', ⟨hst', hMem', hsub, hfr'⟩ | ⟨hst', hcur, hkey, hun⟩⟩
    · have hcal' : w'.calls = w.calls + 1 := hcal
      refine wp_mono _ _ _ _ (fun e w'' h => ⟨h.1, ?_⟩)
        (ih k m' w' _ hst' hR' hMem' hfr' (Nat.le_trans (outside_lt hsub (hfr' _ List.mem_cons_self))
          (Nat.le_of_succ_le_succ hk)) (hf.imp_right Nat.le_of_succ_le_succ))
      have := h.2
      rw [hcal', Nat.add_right_comm] at this
      exact this
    · have hcur' : m'.cur = m.cur := hcur
      have hmax : KeyMax m₀.af.n F K m.key :=
        hfr.max_of_unsat hun
      refine wp_computeMaximal_done hst' (hf.imp_right fun h => Nat.le_trans (Nat.succ_pos _) (Nat.le_of_succ_le_succ h))
        _ _ ⟨⟨hcur' ▸ hMem.1, hcur' ▸ hMem.2.1, m.key, hcur' ▸ hMem.2.2, hmax⟩, ?_⟩
      show w'.calls ≤ _
      rw [show w'.calls = w.calls + 1 from hcal]
      exact Nat.add_le_add_left (Nat.succ_pos _) _

end Crusta
