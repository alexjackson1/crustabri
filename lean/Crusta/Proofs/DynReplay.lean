import Crusta.Proofs.DynOps

/-!
# Replaying the buffered updates (`update_encoding`) re-establishes a clean encoding

`EffRun`: the buffered updates are the effective ones (`Eff`); `Eff.updBy` reads off what each does.
`RInv` is the invariant of the replay loop, `DInv` the invariant of a solver between two API calls;
`wp_updateEncoding` re-establishes it.
-/

namespace Crusta.Dyn
open Prog (addClause addClauses getNVars doSolve)
open Crusta.Store

theorem foldProg_disabled (st : Store) : ∀ (l : List Nat) (e : Enc), e.enabled = false →
    foldProg (updateAttacksTo st) l e = .pure e := by
  intro l
  induction l with
  | nil => exact fun _ _ => rfl
  | cons a t ih =>
    intro e h
    show (updateAttacksTo st e a).bind (fun e' => foldProg (updateAttacksTo st) t e') = _
    rw [updateAttacksTo_disabled st e a h]
    exact ih e h

theorem wp_encNewArgument {C : Prop} {sem : DSem} {st : Store} {d : Nat → Prop} {e : Enc} {w : World}
    (hinv : st.Inv) (h : EInv sem st d e w) (hw : W0 w) (hen : e.enabled = false) {l : Nat}
    (hfresh : ∀ i, ¬ st.Live i l) :
    wp C (encNewArgument st e l) w (fun p w' => p.1 = st.pushArg l ∧
      EInv sem (st.pushArg l) (fun j => d j ∨ j = st.labels.length) p.2 w' ∧ p.2.enabled = false) := by
  unfold encNewArgument
  rw [newArgument_fresh hinv hfresh]
  rw [maxId_pushArg]
  simp only
  rw [wp_bind]
  refine wp_mono _ _ _ _ ?_ (wp_allocArg hinv h hw l)
  rintro e1 w1 ⟨hI, hen1⟩
  rw [updateAttacksTo_disabled _ _ _ (by rw [hen1, hen])]
  exact ⟨rfl, hI, by rw [hen1, hen]⟩

theorem wp_forgetArg {C : Prop} {sem : DSem} {st : Store} {d : Nat → Prop} {e : Enc} {w : World}
    (hinv : st.Inv) (h : EInv sem st d e w) {l id v : Nat} (hl : st.Live id l) (hv : e.av id = some v) :
    wp C (forgetArg e id v) w (fun e' w' =>
      EInv sem (st.dropArg l id) (fun j => d j ∨ st.HasAtt id j) e' w' ∧ e'.enabled = e.enabled) := by
  unfold forgetArg
  rw [wp_bind]
  refine wp_mono _ _ _ _ ?_ (wp_dropSel h id)
  rintro e1 w1 ⟨⟨hsem, T, F, hI⟩, hsv, hen1, hav1⟩
  rw [wp_bind, wp_addClause1]
  have hv1 : e1.av id = some v := by unfold Enc.av; rw [hav1]; exact hv
  have := inv_forgotten hinv hI hl hsv hv1
  show EInv sem (st.dropArg l id) _ (forgotten e1 id v) (w1.onClause 0 [pl v]) ∧ _
  refine ⟨⟨hsem, (fun x => T x || x == v), F, ?_⟩, hen1⟩
  rw [db_onClause_same]
  refine this.restrict ?_
  intro j hj hd
  rcases hd with (hd | hd) | hd
  · exact Or.inl hd
  · subst hd
    rw [hasId_dropArg] at hj
    simp at hj
  · exact Or.inr hd

theorem wp_encRemoveArgument {C : Prop} {sem : DSem} {st : Store} {d : Nat → Prop} {e : Enc} {w : World}
    (hinv : st.Inv) (h : EInv sem st d e w) (hen : e.enabled = false) {l id : Nat} (hl : st.Live id l) :
    wp C (encRemoveArgument st e l) w (fun p w' => p.1 = st.dropArg l id ∧
      EInv sem (st.dropArg l id) (fun j => d j ∨ st.HasAtt id j) p.2 w' ∧ p.2.enabled = false) := by
  unfold encRemoveArgument
  rw [(getArg_eq_some hinv).2 hl, (removeArgument_spec hinv l).1 id hl]
  simp only
  obtain ⟨v, hv, _⟩ := h.2.elim fun _ h => h.elim fun _ hI => hI.av_live id (hasId_iff.2 ⟨l, hl⟩)
  have hv' : e.argVar.getD id none = some v := hv
  rw [hv']
  simp only
  rw [wp_bind]
  refine wp_mono _ _ _ _ ?_ (wp_forgetArg hinv h hl hv)
  rintro e1 w1 ⟨hI, hen1⟩
  rw [foldProg_disabled _ _ _ (by rw [hen1, hen])]
  exact ⟨rfl, hI, by rw [hen1, hen]⟩

theorem wp_encAttack {C : Prop} {sem : DSem} {st st' : Store} {d : Nat → Prop} {e : Enc} {w : World}
    (h : EInv sem st d e w) (hen : e.enabled = false) {add : Bool} {la lb b : Nat}
    (hstep : (if add then st.newAttack la lb else st.removeAttack la lb) = .ok st') (hinv' : st'.Inv)
    (hb : st'.Live b lb) (hlen : st'.labels.length = st.labels.length) (hid : ∀ j, st'.hasId j = st.hasId j)
    (hatt : ∀ j, j ≠ b → attackersOf st' j = attackersOf st j) :
    wp C (encAttack add st e la lb) w (fun p w' => p.1 = st' ∧
      EInv sem st' (fun j => d j ∨ j = b) p.2 w' ∧ p.2.enabled = false) := by
  unfold encAttack
  rw [hstep]
  simp only
  rw [(getArg_eq_some hinv').2 hb]
  simp only
  rw [updateAttacksTo_disabled _ _ _ hen]
  obtain ⟨hsem, T, F, hI⟩ := h
  exact ⟨rfl, ⟨hsem, T, F, hI.frame hlen hid
    (fun j _ hn => ⟨fun hdj => hn (Or.inl hdj), hatt j (fun hjb => hn (Or.inr hjb))⟩) (fun _ hc => hc)
    (fun _ hc => Or.inl hc) (fun _ hv => hv) (fun _ hv => Or.inl hv)⟩, hen⟩

def Event.op : Event → Option StoreOp
  | .newArg l => some (.newArg l)
  | .remArg l => some (.remArg l)
  | .newAtt a b => some (.newAtt a b)
  | .remAtt a b => some (.remAtt a b)
  | _ => none

/-- the event an accepted update is buffered as -/
def Event.ofOp : StoreOp → Event
  | .newArg l => .newArg l
  | .remArg l => .remArg l
  | .newAtt a b => .newAtt a b
  | .remAtt a b => .remAtt a b

theorem Event.op_ofOp (op : StoreOp) : Event.op (Event.ofOp op) = some op := by cases op <;> rfl

theorem Event.isUpdate_ofOp (op : StoreOp) : (Event.ofOp op).isUpdate = true := by cases op <;> rfl

theorem op_none_of_not_update {ev : Event} (h : ev.isUpdate = false) : Event.op ev = none := by
  cases ev <;> first | rfl | cases h

/-- the update was accepted by the store and (for additions) changed it: what gets buffered -/
def Eff (st : Store) (op : StoreOp) (st' : Store) : Prop :=
  st.step op = .ok st' ∧
    (match op with
     | .newArg _ => st'.nArguments > st.nArguments
     | .newAtt _ _ => st'.nAttacks > st.nAttacks
     | _ => True)

def EffRun : Store → List Event → Store → Prop
  | st, [], st' => st' = st
  | st, ev :: rest, st' =>
    match Event.op ev with
    | none => EffRun st rest st'
    | some op => ∃ st1, Eff st op st1 ∧ EffRun st1 rest st'

theorem EffRun_cons {st st' : Store} {ev : Event} {rest : List Event} (h : EffRun st (ev :: rest) st') :
    ∃ st1, (match Event.op ev with | none => st1 = st | some op => Eff st op st1) ∧ EffRun st1 rest st' := by
  change (match Event.op ev with | none => _ | some op => _) at h
  cases hop : Event.op ev with
  | none => rw [hop] at h; exact ⟨st, rfl, h⟩
  | some op => rw [hop] at h; exact h

theorem Eff.updBy {st st1 : Store} {op : StoreOp} (h : Eff st op st1) (hinv : st.Inv) : UpdBy st op st1 := by
  rcases step_by hinv op with he | ⟨he, hadd⟩ | ⟨s', he, hu⟩
  · rw [h.1] at he; cases he
  · obtain rfl : st1 = st := StoreRes.ok.inj (h.1.symm.trans he)
    rcases hadd with ⟨l, rfl⟩ | ⟨la, lb, rfl⟩ <;> exact absurd h.2 (Nat.lt_irrefl _)
  · obtain rfl : s' = st1 := StoreRes.ok.inj (he.symm.trans h.1)
    exact hu

theorem Eff.inv {st st1 : Store} {op : StoreOp} (h : Eff st op st1) (hinv : st.Inv) : st1.Inv :=
  Upd.inv hinv ⟨op, h.updBy hinv⟩

theorem mem_mustL (upd : List Nat) (id j : Nat) : j ∈ mustL upd id ↔ (j ∈ upd ∨ j = id) := by
  unfold mustL
  split
  · rename_i h
    have : id ∈ upd := by simpa using h
    constructor
    · intro hj; exact Or.inl hj
    · rintro (hj | rfl)
      · exact hj
      · exact this
  · simp

theorem mem_foldl_mustL : ∀ (l upd : List Nat) (j : Nat), j ∈ l.foldl mustL upd ↔ (j ∈ upd ∨ j ∈ l) := by
  intro l
  induction l with
  | nil => exact fun upd j => ⟨Or.inl, fun h => h.elim id (fun h => nomatch h)⟩
  | cons a t ih =>
    intro upd j
    rw [List.foldl_cons, ih, mem_mustL, List.mem_cons, or_assoc]

def RInv (sem : DSem) (r : Replay) (w : World) : Prop :=
  r.af.Inv ∧ EInv sem r.af (fun j => j ∈ r.upd) r.enc w ∧ r.enc.enabled = false

/-- `st1`: the store after the event, in the shape `EffRun_cons` gives it -/
theorem wp_replayEvent {C : Prop} {sem : DSem} {r : Replay} {w : World} (h : RInv sem r w) (hw : W0 w)
    (ev : Event) : ∀ (st1 : Store), (match Event.op ev with | none => st1 = r.af | some op => Eff r.af op st1) →
    wp C (replayEvent r ev) w (fun r' w' => r'.af = st1 ∧ RInv sem r' w') := by
  obtain ⟨hinv, hE, hen⟩ := h
  cases ev with
  | cred a b c => intro st1 h1; exact ⟨h1.symm, hinv, hE, hen⟩
  | skep a b c => intro st1 h1; exact ⟨h1.symm, hinv, hE, hen⟩
  | newArg l =>
    intro st1 h1
    have hinv' := Eff.inv h1 hinv
    cases Eff.updBy h1 hinv with | pushArg hfresh => ?_
    unfold replayEvent
    rw [wp_bind]
    refine wp_mono _ _ _ _ ?_ (wp_encNewArgument hinv hE hw hen hfresh)
    rintro ⟨af', e'⟩ w' ⟨rfl, hE', hen'⟩
    rw [wp_bind, wp_needArg hinv' (live_pushArg.2 (Or.inr ⟨rfl, rfl⟩))]
    exact ⟨rfl, hinv', hE'.restrict (fun j _ hj => (mem_mustL _ _ _).2 hj), hen'⟩
  | remArg l =>
    intro st1 h1
    have hinv' := Eff.inv h1 hinv
    cases Eff.updBy h1 hinv with | @dropArg _ id hl => ?_
    unfold replayEvent
    rw [wp_bind, wp_needArg hinv hl, wp_bind]
    refine wp_mono _ _ _ _ ?_ (wp_encRemoveArgument hinv hE hen hl)
    rintro ⟨af', e'⟩ w' ⟨rfl, hE', hen'⟩
    refine ⟨rfl, hinv', hE'.restrict ?_, hen'⟩
    intro j hj hd
    rw [mem_foldl_mustL]
    rcases hd with hd | hd
    · exact Or.inl hd
    · right
      rw [hasId_dropArg] at hj
      simp only [Bool.and_eq_true, Bool.not_eq_true', beq_eq_false_iff_ne, ne_eq] at hj
      simp only [List.mem_filter, bne_iff_ne, ne_eq]
      exact ⟨(hinv.core.mem_attFrom id j).2 hd, hj.2⟩
  | newAtt la lb =>
    intro st1 h1
    have hinv' := Eff.inv h1 hinv
    cases Eff.updBy h1 hinv with | @pushAtt a b _ _ _ hb _ => ?_
    unfold replayEvent
    rw [wp_bind]
    refine wp_mono _ _ _ _ ?_ (wp_encAttack hE hen (add := true) h1.1 hinv' hb rfl (fun _ => rfl)
      (fun j hj => attackersOf_pushAtt hinv a b hj))
    rintro ⟨af', e'⟩ w' ⟨rfl, hE', hen'⟩
    rw [wp_bind, wp_needArg hinv' hb]
    exact ⟨rfl, hinv', hE'.restrict (fun j _ hj => (mem_mustL _ _ _).2 hj), hen'⟩
  | remAtt la lb =>
    intro st1 h1
    have hinv' := Eff.inv h1 hinv
    cases Eff.updBy h1 hinv with | @dropAtt a b k pf pt _ _ _ hb hk => ?_
    unfold replayEvent
    rw [wp_bind]
    refine wp_mono _ _ _ _ ?_ (wp_encAttack hE hen (add := false) h1.1 hinv' hb rfl (fun _ => rfl)
      (fun j hj => attackersOf_dropAtt hinv hk hj))
    rintro ⟨af', e'⟩ w' ⟨rfl, hE', hen'⟩
    rw [wp_bind, wp_needArg hinv' hb]
    exact ⟨rfl, hinv', hE'.restrict (fun j _ hj => (mem_mustL _ _ _).2 hj), hen'⟩

-- `EncInv` does not read `enabled`, but it is stated on `e`: each field of the new record is the old term
theorem EInv.set_enabled {sem : DSem} {st : Store} {d : Nat → Prop} {e : Enc} {w : World}
    (h : EInv sem st d e w) (b : Bool) : EInv sem st d { e with enabled := b } w := by
  obtain ⟨hs, T, F, h⟩ := h
  exact ⟨hs, T, F, h.vars_pos, h.sz_a, h.sz_s, h.av_live, h.sv_live, h.ty_arg, h.ty_sel, h.ty_disj, h.asm,
    h.asm_nodup, h.ghostT, h.ghostF, h.ghostTF, h.acc, h.act, h.disj_cl⟩

/-- the invariant of a dynamic solver between two calls of its API (`w0`: the shared SAT solver
exists and every variable of its clauses is counted by `n_vars`, so that `new_solver_var` and the
search selector of the preferred solver are fresh) -/
structure DInv (sem : DSem) (d : DState) (w : World) : Prop where
  w0 : W0 w
  af_inv : d.af.Inv
  clean : EInv sem d.af (fun _ => False) d.enc w
  disabled : d.enc.enabled = false
  sync : EffRun d.af (d.buffer.drop d.next) d.pending
  next_le : d.next ≤ d.buffer.length
  /-- as long as no update follows the last computation of the buffer (so that a query may answer
  from the cache) the solver's framework is the pending one -/
  tail_sync : d.buffer.reverse.takeWhile (fun ev => !ev.isUpdate) ≠ [] → d.af = d.pending

/-- **`update_encoding`**: whatever was buffered, afterwards the solver's framework is the pending
one and the clause database encodes it with no stale constraint -/
theorem wp_updateEncoding {C : Prop} {sem : DSem} {d : DState} {w : World} (h : DInv sem d w) :
    wp C d.updateEncoding w (fun d' w' => DInv sem d' w' ∧ d'.af = d.pending ∧ d'.pending = d.pending ∧
      d'.buffer = d.buffer ∧ d'.next = d.buffer.length) := by
  unfold DState.updateEncoding
  rw [wp_bind]
  have h0 : W0 w ∧ RInv sem { af := d.af, enc := d.enc } w ∧ EffRun d.af (d.buffer.drop d.next) d.pending := by
    exact ⟨h.w0, ⟨h.af_inv, h.clean.restrict (fun _ _ hj => hj.elim), h.disabled⟩, h.sync⟩
  have hfold := wp_foldProg (C := C) replayEvent
    (fun rest r w => W0 w ∧ RInv sem r w ∧ EffRun r.af rest d.pending)
    (d.buffer.drop d.next) { af := d.af, enc := d.enc } w h0 (by
      intro ev rest r w ⟨hw, hR, hrun⟩
      obtain ⟨st1, hstep, hrun'⟩ := EffRun_cons hrun
      refine wp_mono _ _ _ _ ?_ (wp_W0 _ _ _ hw (wp_replayEvent hR hw ev st1 hstep))
      rintro r' w' ⟨hw', haf, hR'⟩
      exact ⟨hw', hR', by rw [haf]; exact hrun'⟩)
  refine wp_mono _ _ _ _ ?_ hfold
  rintro r w1 ⟨hw1, ⟨hinv, hE, hen⟩, hrun⟩
  have haf : d.pending = r.af := hrun
  rw [wp_bind]
  have h1 : W0 w1 ∧ (∀ a ∈ r.upd.filter r.af.hasId, r.af.hasId a = true) ∧
      EInv sem r.af (fun j => j ∈ r.upd.filter r.af.hasId) { r.enc with enabled := true } w1 ∧
      ({ r.enc with enabled := true } : Enc).enabled = true := by
    exact ⟨hw1, fun a ha => (List.mem_filter.1 ha).2,
      (hE.restrict (fun j hj hd => List.mem_filter.2 ⟨hd, hj⟩)).set_enabled true, rfl⟩
  have hfold2 := wp_foldProg (C := C) (updateAttacksTo r.af)
    (fun rest e w => W0 w ∧ (∀ a ∈ rest, r.af.hasId a = true) ∧ EInv sem r.af (fun j => j ∈ rest) e w ∧ e.enabled = true)
    (r.upd.filter r.af.hasId) { r.enc with enabled := true } w1 h1 (by
      intro a rest e w ⟨hw, hlive, hE', hen'⟩
      refine wp_mono _ _ _ _ ?_ (wp_W0 _ _ _ hw (wp_updateAttacksTo hinv hE' hw hen' (hlive a (by simp))))
      rintro e' w' ⟨hw', hE'', hen''⟩
      refine ⟨hw', fun b hb => hlive b (List.mem_cons_of_mem _ hb), hE''.restrict ?_, hen''⟩
      rintro j _ ⟨hj, hne⟩
      exact (List.mem_cons.1 hj).resolve_left hne)
  refine wp_mono _ _ _ _ ?_ hfold2
  rintro e w2 ⟨hw2, _, hE2, _⟩
  refine ⟨⟨hw2, hinv, (hE2.restrict (fun j _ hj => nomatch hj)).set_enabled false, rfl, ?_, Nat.le_refl _,
      fun _ => haf.symm⟩,
    haf.symm, rfl, rfl, rfl⟩
  show EffRun r.af (d.buffer.drop d.buffer.length) d.pending
  rw [List.drop_length]
  exact haf

end Crusta.Dyn
