import Crusta.Proofs.StaticGR
import Crusta.Proofs.StaticPRCO
import Crusta.Proofs.StaticST
import Crusta.Proofs.StaticID
import Crusta.Proofs.StaticRG

/-!
# All static solvers, all entry points

`static_entry_spec`: for each of the seven solver types, each entry point it offers, every
configuration it is meant for (`CfgOK`), every view that presents a graph, every world, the program
returns what the semantics dictate (`EntryOK`) — for every sound behaviour of the SAT solver — and
crashes only if the fuel is short.  `static_entry_ok` is its reading with `True` (`StaticTotal` has
the one with `False`), `static_answers_conform` the same statement about runs of the interpreter on
reply lists (`wp_sound`).
-/

namespace Crusta

/-- the configurations covered: the encoder handed to a solver describes the family that solver
is designed for (complete extensions for CO / PR / ID / SST, conflict-free sets for STG).  For CO /
PR / ID any encoder of that family will do; the range-based solvers also use the encoder's range
variables, whose meaning is proved encoder by encoder (`RangeEnc`, `rangeMax_semistable`,
`rangeMax_stage`), so SST / STG name the encoders -/
def CfgOK : SolverKind → Cfg → Prop
  | .GR, _ => True
  | .ST, _ => True
  | .CO, cfg => ∀ af T, cfg.enc.Base af T ↔ Complete af T
  | .PR, cfg => ∀ af T, cfg.enc.Base af T ↔ Complete af T
  | .ID, cfg => ∀ af T, cfg.enc.Base af T ↔ Complete af T
  | .SST, cfg => cfg.enc = .auxCO ∨ cfg.enc = .expCO ∨ cfg.enc = .hyb
  | .STG, cfg => cfg.enc = .auxCF ∨ cfg.enc = .expCF

/-- every entry point of every static solver returns what the semantics dictate, and reaches a crash
node of the model (a modelled panic, or the exhaustion of the artificial fuel of the model's loops)
only if the fuel is short -/
theorem static_entry_spec (sk : SolverKind) (cfg : Cfg) (hcfg : CfgOK sk cfg) (v : FwView) (g : G) (hv : v.Ok g)
    (e : Entry) (hargs : ∀ a, a ∈ e.argsList → g.live a = true) (p : Prog Ans)
    (hp : entryProg sk cfg v e = some p) (w : World) (hb : w.Bounded) :
    wp (FuelShort cfg v) p w (fun ans _ => EntryOK sk.sem g e ans) := by
  cases sk with
  | GR => exact gr_entry_spec cfg v g hv e p hp w
  | CO => exact co_entry_spec cfg hcfg v g hv e hargs p hp w hb
  | PR => exact pr_entry_spec cfg hcfg v g hv e hargs p hp w hb
  | ST => exact st_entry_spec cfg v g hv e p hp w hb
  | SST => exact sst_entry_spec cfg hcfg v g hv e hargs p hp w hb
  | STG => exact stg_entry_spec cfg hcfg v g hv e hargs p hp w hb
  | ID => exact id_entry_spec cfg hcfg v g hv e hargs p hp w hb

theorem static_entry_ok (sk : SolverKind) (cfg : Cfg) (hcfg : CfgOK sk cfg) (v : FwView) (g : G) (hv : v.Ok g)
    (e : Entry) (hargs : ∀ a, a ∈ e.argsList → g.live a = true) (p : Prog Ans)
    (hp : entryProg sk cfg v e = some p) (w : World) (hb : w.Bounded) :
    wp True p w (fun ans _ => EntryOK sk.sem g e ans) :=
  wp_conseq (fun _ => trivial) _ _ _ _ (fun _ _ h => h) (static_entry_spec sk cfg hcfg v g hv e hargs p hp w hb)

theorem static_answers_conform (sk : SolverKind) (cfg : Cfg) (hcfg : CfgOK sk cfg) (v : FwView) (g : G)
    (hv : v.Ok g) (e : Entry) (hargs : ∀ a, a ∈ e.argsList → g.live a = true) (p : Prog Ans)
    (hp : entryProg sk cfg v e = some p) (w : World) (hb : w.Bounded) (rs : List Reply)
    (hs : RunSound p rs w) (ans : Ans) (w' : World) (hrun : interp p rs w = (.done ans, w')) :
    EntryOK sk.sem g e ans :=
  wp_sound p rs w w' ans _ (static_entry_ok sk cfg hcfg v g hv e hargs p hp w hb) hs hrun

/-- the status of an acceptance query is determined by the semantics: two conforming answers to
the same query have the same status, whatever the encoder, the certificate flag, the history of
the solver object and the SAT solver's choices -/
theorem status_determined (σ : Sem) (g : G) (args : List Nat) (c1 c2 : Bool) (a1 a2 : AccAns) :
    (DCOK σ g args c1 a1 → DCOK σ g args c2 a2 → a1.status = a2.status) ∧
    (DSOK σ g args c1 a1 → DSOK σ g args c2 a2 → a1.status = a2.status) :=
  status_determined_of_iff σ Iff.rfl Iff.rfl c1 c2 a1 a2

theorem gext_compact (σ : Sem) (af : AF) (S : ASet) : σ.GExt af.g S ↔ σ.Ext af S :=
  (gext_iff σ af.g S).trans (af.g_ext S σ)

end Crusta
