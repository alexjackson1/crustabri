import Crusta.Proofs.GroundedAlg
import Crusta.Proofs.SolvePR

/-!
# Ideal semantics on one component

1. `idEnumLoop` enumerates the preferred extensions of the component with a preferred computer and
   maintains the intersection of those found.  It stops early when the intersection has shrunk to
   the grounded extension, or when there is no further preferred extension.  Every call but the
   last meets a complete set for the first time or certifies a preferred extension: at most
   `|CO| + |PR|` calls.
2. `idFinish` answers at once in two easy cases; otherwise a second computer, of kind `.ideal forb`,
   grows a ⊆-maximal complete extension inside the intersection, from the grounded extension: at
   most `|CO|` calls.  That computer works on the *same* SAT solver (`Den.renew`).

Both computers are clients of the search layer (`SearchMEC`): the key of a member is the member.
-/

namespace Crusta
open Search

def forbL (enc : EncKind) (n : Nat) (inAll : List Bool) : List Lit :=
  ((List.range n).filter (fun i => !inAll.getD i false)).map (fun i => (argLit enc i).neg)

theorem forbL_true (enc : EncKind) (af : AF) (ν : Asg) (inAll : List Bool) :
    assumpsTrue ν (forbL enc af.n inAll) = true ↔ ∀ a, enc.S af ν a = true → inAll.getD a false = true := by
  unfold forbL
  rw [assumpsTrue_map]
  constructor
  · intro h a hS
    have hn := enc.S_sub af ν a hS
    cases hi : inAll.getD a false with
    | true => rfl
    | false =>
      have := h a (List.mem_filter.2 ⟨List.mem_range.2 hn, by
        show (!inAll.getD a false) = true
        rw [hi]; rfl⟩)
      rw [enc.S_lt hn] at hS
      simp [argLit, hS] at this
  · intro h i hi
    obtain ⟨h1, h2⟩ := List.mem_filter.1 hi
    have hn := List.mem_range.1 h1
    cases hv : ν (enc.argVar i) with
    | false => simp [argLit, hv]
    | true =>
      have := h i (by rw [enc.S_lt hn]; exact hv)
      have h2' : (!inAll.getD i false) = true := h2
      rw [this] at h2'
      cases h2'

-- `wp` is used through its rules only (see `MEC.asSys` in `SearchMEC.lean`)
attribute [local irreducible] wp

/-- **`compute_maximal`, counted by the candidates** (`wp_growMax` bounds the calls by the size of the key;
the bound of the ideal procedure is stated in candidates, hence a second induction on the same step): the
sets that have been current are pairwise different members of `F'`, each call but the last meets a new
one, so the calls stay within `N` (counted from `c1`) -/
theorem wp_computeMaximal_cnt {C : Prop} {F₀ F F' : ASet → Prop} {m₀ : MEC}
    (hgrow : (MEC.asSys F₀ F SetKey m₀).GrowOK) (hk : m₀.kind ≠ .range) (hF' : ∀ T, F T → F' T) {N : Nat}
    (hN : Bound F' N) (c1 fuel : Nat) :
    ∀ (m : MEC) (w : World) (bl : List (Nat → Bool)) (seen : List (List Nat)), m.state = .intermediate →
    (MEC.asSys F₀ F SetKey m₀).R m w bl → (MEC.asSys F₀ F SetKey m₀).Member m → FreshK m₀.af.n m.key bl →
    Cnt m₀.af.n F' SetKey bl seen → w.calls ≤ c1 + seen.length → C ∨ fuel + seen.length ≥ N + 1 →
    wp C (MEC.computeMaximal fuel m) w (fun e w' =>
      (F (ofList e) ∧ (∀ a ∈ e, a < m₀.af.n) ∧
        ∃ key, Above m₀.af.n SetKey key (ofList e) ∧ KeyMax m₀.af.n F SetKey key) ∧
      w'.calls ≤ c1 + N) := by
  induction fuel with
  | zero =>
    intro m w bl seen _ _ hMem hfr hc _ hf
    exact (wp_crash _ _ _).2 (hf.resolve_right
      (fuel_zero (Nat.le_succ_of_le (hc.len_lt hN hfr hMem.2.2 (hF' _ hMem.1)))))
  | succ fuel ih =>
    intro m w bl seen hst hR hMem hfr hc hcal hf
    have hlen := hc.len_lt hN hfr hMem.2.2 (hF' _ hMem.1)
    have hc' : Cnt m₀.af.n F' SetKey (m.key :: bl) (m.cur :: seen) :=
      hc.push hfr hMem.2.2 (hF' _ hMem.1) (setKey_exact (hR.1.kind ▸ hk) _)
    unfold MEC.computeMaximal
    have hne : (m.state == MState.maximal) = false := by rw [hst]; rfl
    simp only [hne, Bool.false_eq_true, if_false]
    rw [wp_bind']
    refine wp_mono _ _ _ _ ?_ (hgrow hst hR hMem)
    rintro m' w' ⟨hcal', hR', ⟨hst', hMem', _, hfr'⟩ | ⟨hst', hcur, _, hun⟩⟩
    · have hcal'' : w'.calls = w.calls + 1 := hcal'
      exact ih m' w' _ _ hst' hR' hMem' hfr' hc' (hcal'' ▸ Nat.succ_le_succ hcal)
        (hf.imp_right fun h => fuel_step h (Nat.le_refl _))
    · have hcur' : m'.cur = m.cur := hcur
      have hmax : KeyMax m₀.af.n F SetKey m.key :=
        hfr.max_of_unsat hun
      refine wp_computeMaximal_done hst' (hf.imp_right fun h => fuel_pos h hlen) _ _
        ⟨⟨hcur' ▸ hMem.1, hcur' ▸ hMem.2.1, m.key, hcur' ▸ hMem.2.2, hmax⟩, ?_⟩
      show w'.calls ≤ _
      rw [show w'.calls = w.calls + 1 from hcal']
      exact Nat.le_trans (Nat.succ_le_succ hcal) (Nat.add_le_add_left hlen c1)

/-- the callback's state: `inAll` is the intersection of the extensions found so far -/
structure IaInv (af : AF) (found : List (List Nat)) (ia : InAll) : Prop where
  pref : ∀ F ∈ found, Preferred af (ofList F)
  inAll : ∀ a, ia.inAll.getD a false = true ↔ a < af.n ∧ ∀ F ∈ found, a ∈ F
  np : ia.nPreferred = found.length
  ne : found ≠ [] → ia.nInAll ≠ (groundedV af.view).length

structure EnumPost (af : AF) (ia : InAll) : Prop where
  sup : ∀ a, (∀ P, Preferred af P → P a = true) → ia.inAll.getD a false = true
  cases :
    -- early exit: the intersection found is inside the grounded extension
    (ia.nInAll = (groundedV af.view).length ∧ ∀ a, ia.inAll.getD a false = true → a ∈ groundedV af.view) ∨
    -- exhaustive enumeration: `inAll` is the intersection of all the preferred extensions
    (ia.nInAll ≠ (groundedV af.view).length ∧
      (∀ a, ia.inAll.getD a false = true → ∀ P, Preferred af P → P a = true) ∧
      (ia.nPreferred = 1 → ∃ P, Preferred af P ∧ ∀ Q, Preferred af Q → ∀ a, Q a = P a))

theorem IaInv.sup {af : AF} {found : List (List Nat)} {ia : InAll} (h : IaInv af found ia) (a : Nat)
    (ha : ∀ P, Preferred af P → P a = true) : ia.inAll.getD a false = true :=
  (h.inAll a).2 ⟨inAllPref_lt ha, fun F hF => ofList_true.1 (ha _ (h.pref F hF))⟩

/-- what the `.maximal` branch of `idEnumLoop` makes of the callback's state: one more preferred
extension `cur` -/
def InAll.add (n : Nat) (ia : InAll) (cur : List Nat) : InAll :=
  ⟨(List.range n).map (fun i => ia.inAll.getD i false && cur.contains i),
   (cur.filter (fun a => ia.inAll.getD a false)).length, ia.nPreferred + 1⟩

theorem IaInv.add_inAll {af : AF} {found : List (List Nat)} {ia : InAll} (h : IaInv af found ia) (cur : List Nat)
    (a : Nat) : (ia.add af.n cur).inAll.getD a false = true ↔ a < af.n ∧ ∀ F ∈ cur :: found, a ∈ F := by
  show ((List.range af.n).map (fun i => ia.inAll.getD i false && cur.contains i)).getD a false = true ↔ _
  rw [getD_map_range_bool, List.forall_mem_cons]
  simp only [Bool.and_eq_true, List.contains_iff_mem, h.inAll a]
  exact ⟨fun ⟨hn, ⟨_, hf⟩, hc⟩ => ⟨hn, hc, hf⟩, fun ⟨hn, hc, hf⟩ => ⟨hn, ⟨hn, hf⟩, hc⟩⟩

theorem IaInv.add {af : AF} {found : List (List Nat)} {ia : InAll} (h : IaInv af found ia) {cur : List Nat}
    (hpref : Preferred af (ofList cur)) (hcnt : (ia.add af.n cur).nInAll ≠ (groundedV af.view).length) :
    IaInv af (cur :: found) (ia.add af.n cur) :=
  ⟨List.forall_mem_cons.2 ⟨hpref, h.pref⟩, h.add_inAll cur, congrArg (· + 1) h.np, fun _ => hcnt⟩

/-- the early exit: as many arguments of the new extension lie in the old intersection as the grounded
extension has, and it contains the grounded extension, which has no duplicates: they are the same -/
theorem IaInv.add_exit {af : AF} {found : List (List Nat)} {ia : InAll} (h : IaInv af found ia) (hgr : GrOK af)
    (hnd : (groundedV af.view).Nodup) {cur : List Nat} (hpref : Preferred af (ofList cur))
    (hcnt : (ia.add af.n cur).nInAll = (groundedV af.view).length) : EnumPost af (ia.add af.n cur) := by
  have hgsub : ∀ a ∈ groundedV af.view, a ∈ cur.filter (fun a => ia.inAll.getD a false) := by
    intro a ha
    have hGa : ofList (groundedV af.view) a = true := ofList_true.2 ha
    refine List.mem_filter.2 ⟨ofList_true.1 (hgr.2.2 _ (preferred_complete hpref) a hGa), ?_⟩
    exact (h.inAll a).2 ⟨hgr.2.1 a ha, fun F hF =>
      ofList_true.1 (hgr.2.2 _ (preferred_complete (h.pref F hF)) a hGa)⟩
  have hback := subset_of_nodup_length_le hnd hgsub (Nat.le_of_eq hcnt)
  refine ⟨fun a ha => ?_, Or.inl ⟨hcnt, fun a ha => ?_⟩⟩
  · exact (h.add_inAll cur a).2 ⟨inAllPref_lt ha, List.forall_mem_cons.2
      ⟨ofList_true.1 (ha _ hpref), fun F hF => ofList_true.1 (ha _ (h.pref F hF))⟩⟩
  · obtain ⟨hn, hall⟩ := (h.add_inAll cur a).1 ha
    exact hback a (List.mem_filter.2 ⟨hall _ List.mem_cons_self,
      (h.inAll a).2 ⟨hn, fun F hF => hall F (List.mem_cons_of_mem _ hF)⟩⟩)

theorem IaInv.exhausted {af : AF} {found : List (List Nat)} {ia : InAll} (h : IaInv af found ia) (hne : found ≠ [])
    (hall : ∀ P, Preferred af P → ∃ F ∈ found, ∀ a, P a = ofList F a) : EnumPost af ia := by
  refine ⟨h.sup, Or.inr ⟨h.ne hne, fun a ha P hP => ?_, fun h1 => ?_⟩⟩
  · obtain ⟨F, hF, hPF⟩ := hall P hP
    rw [hPF a]
    exact ofList_true.2 (((h.inAll a).1 ha).2 F hF)
  · obtain ⟨F, rfl⟩ := List.length_eq_one_iff.1 (h.np ▸ h1)
    refine ⟨ofList F, h.pref F List.mem_cons_self, fun Q hQ a => ?_⟩
    obtain ⟨F', hF', hQF⟩ := hall Q hQ
    rw [List.mem_singleton.1 hF'] at hQF
    exact hQF a

/-- the states in which the enumeration loop starts an iteration (the first one apart): every reported
key lies inside a preferred extension found, `seen` counts the complete sets that have been blocked,
`found` the preferred extensions, and every call so far is paid by one of them or by the current set -/
def EnHead (af : AF) (enc : EncKind) (s sel c0 : Nat) (seen found : List (List Nat)) (m : MEC) (w : World) : Prop :=
  VarsBelow (MEC.init af enc s sel .preferred) w ∧ ∃ fk bl, (prefSys (MEC.init af enc s sel .preferred)).EHead fk m w bl ∧
    (∀ Fk ∈ fk, ∃ e ∈ found, SubK af.n Fk (ofList e)) ∧
    Cnt af.n (Complete af) SetKey bl seen ∧ Cnt af.n (Preferred af) SetKey bl found ∧
    w.calls + 1 ≤ c0 + metSize m.state seen + found.length

theorem EnHead.budget {af : AF} {enc : EncKind} {s sel c0 : Nat} {seen found : List (List Nat)} {m : MEC} {w : World}
    (h : EnHead af enc s sel c0 seen found m w) : w.calls + 1 ≤ c0 + (extsCO af).length + (extsPR af).length := by
  obtain ⟨_, fk, bl, ⟨_, hI, hcase⟩, _, hcs, hcf, hbud⟩ := h
  have h1 : metSize m.state seen ≤ (extsCO af).length :=
    hcs.metSize_le hI.fresh (cur := m.cur) (fun hst => hcase.elim (fun h => ⟨h.2.1, h.2.2.2⟩)
      (fun h => absurd (hst.symm.trans h.1) (by nofun))) (length_le_extsCO af)
  have h2 := hcf.len_le (length_le_extsPR af)
  omega

abbrev EnPost (af : AF) (enc : EncKind) (s sel c0 : Nat) (ia' : InAll) (w' : World) : Prop :=
  EnumPost af ia' ∧ Den.Dropped (Complete af) SetKey (MEC.init af enc s sel .preferred) w' ∧
    VarsBelow (MEC.init af enc s sel .preferred) w' ∧
    w'.calls ≤ c0 + (extsCO af).length + (extsPR af).length

/-- one more call, paid by one more candidate -/
theorem enBud_succ {a c0 x f : Nat} (h : a + 1 ≤ c0 + x + f) : a + 1 + 1 ≤ c0 + (x + 1) + f := by
  rw [← Nat.add_assoc, Nat.add_right_comm (c0 + x) 1 f]
  exact Nat.succ_le_succ h

/-- **one iteration of the enumeration**: the answer, or a head state again, a call later; `hrec` is the
rest of the loop -/
theorem wp_idEnumIter {C : Prop} {af : AF} {enc : EncKind} (hgr : GrOK af) (hnd : (groundedV af.view).Nodup)
    (s sel c0 fuel : Nat) {m : MEC} {w : World} {seen found : List (List Nat)} {ia : InAll}
    (h : EnHead af enc s sel c0 seen found m w) (hia : IaInv af found ia)
    (hrec : ∀ m' w' seen' found' ia', EnHead af enc s sel c0 seen' found' m' w' → IaInv af found' ia' →
      w'.calls ≥ w.calls + 1 →
      wp C (idEnumLoop (groundedV af.view).length fuel m' ia') w' (EnPost af enc s sel c0)) :
    wp C (idEnumLoop (groundedV af.view).length (fuel + 1) m ia) w (EnPost af enc s sel c0) := by
  have hB := h.budget
  obtain ⟨hV, fk, bl, hE, hfk, hcs, hcf, hbud⟩ := h
  unfold idEnumLoop
  rw [wp_bind']
  refine wp_mono _ _ _ _ ?_ (wp_varsBelow _ _ _ hV (Sys.wp_enext (MEC.asSys_grow_all rfl) MEC.asSys_max hE))
  rintro m' w' ⟨hV', hcal', hnext⟩
  simp only [MEC.asSys_st, MEC.asSys_cur, MEC.asSys_key] at hcal' hnext
  have hB' : w'.calls ≤ c0 + (extsCO af).length + (extsPR af).length := hcal' ▸ hB
  have hmono : ∀ B ∈ bl, B ∈ m.key :: bl := fun B hB => List.mem_cons_of_mem _ hB
  rcases hnext with ⟨hst', _, _, hE'⟩ | ⟨hst', hstm, hcur, hkey, hmax, hE'⟩ | ⟨hst', hstm, hR', hall⟩
  · -- one more complete set, or a new search
    rw [hst']
    rcases hE.2.2 with ⟨hst, hMem⟩ | ⟨hst, _⟩
    · have hst0 : m.state = .intermediate := hst
      refine hrec m' w' (m.cur :: seen) found ia ⟨hV', fk, _, hE', hfk,
        hcs.push (hE.2.1.fresh hst) hMem.2.2 hMem.1 (setKey_exact (hE.1.1.kind ▸ (by nofun)) _),
        hcf.mono hmono, ?_⟩ hia (Nat.le_of_eq hcal'.symm)
      rw [hst0, metSize_int] at hbud
      rw [hst', metSize_int, hcal']
      exact enBud_succ hbud
    · have hst0 : m.state = .maximal := hst
      refine hrec m' w' seen found ia ⟨hV', fk, _, hE', hfk, hcs.mono hmono, hcf.mono hmono, ?_⟩ hia
        (Nat.le_of_eq hcal'.symm)
      rw [hst0, metSize_max] at hbud
      rw [hst', metSize_int, hcal']
      exact enBud_succ hbud
  · -- one more preferred extension
    obtain ⟨hco, hlt, hks⟩ : (prefSys (MEC.init af enc s sel .preferred)).Member m :=
      hE.2.2.elim (fun h => h.2) (fun h => absurd (hstm.symm.trans h.1) (by nofun))
    have hfr : FreshK af.n m.key bl := hE.2.1.fresh hstm
    have hex : In af.n SetKey (ofList m.cur) m.key := setKey_exact (hE.1.1.kind ▸ (by nofun)) _
    have hpref : Preferred af (ofList m.cur) := preferred_of_keyMax hmax hks hco
    have hfk' : ∀ Fk ∈ m.key :: fk, ∃ e ∈ m.cur :: found, SubK af.n Fk (ofList e) :=
      List.forall_mem_cons.2 ⟨⟨_, List.mem_cons_self, hks⟩, fun Fk hFk =>
        let ⟨e, he, h⟩ := hfk Fk hFk; ⟨e, List.mem_cons_of_mem _ he, h⟩⟩
    have hbud' : w'.calls + 1 ≤ c0 + metSize m'.state (m.cur :: seen) + (m.cur :: found).length := by
      rw [hstm, metSize_int] at hbud
      rw [hst', metSize_max, hcal']
      exact Nat.succ_le_succ hbud
    have haf : m'.af = af := hE'.1.1.af
    rw [hst']
    simp only
    rw [hcur, haf]
    show wp C (if ((ia.add af.n m.cur).nInAll != (groundedV af.view).length) = true
      then idEnumLoop (groundedV af.view).length fuel m' (ia.add af.n m.cur)
      else m'.drop >>= fun _ => pure (ia.add af.n m.cur)) w' _
    by_cases hcnt : (ia.add af.n m.cur).nInAll = (groundedV af.view).length
    · rw [if_neg (fun h => bne_iff_ne.1 h hcnt), wp_bind', wp_drop]
      exact (wp_pure _ _ _).2 ⟨hia.add_exit hgr hnd hpref hcnt, hE'.1.2.1.dropped hE'.1.1, hV'.step (.clause _ _ _), hB'⟩
    · rw [if_pos (bne_iff_ne.2 hcnt)]
      exact hrec m' w' _ _ _ ⟨hV', _, _, hE', hfk', hcs.push hfr hks hco hex, hcf.push hfr hks hpref hex, hbud'⟩
        (hia.add hpref hcnt) (Nat.le_of_eq hcal'.symm)
  · -- none: every preferred extension has been counted
    have hne : found ≠ [] := by
      have hmem : m.key ∈ fk := hE.2.2.elim (fun h => absurd (hstm.symm.trans h.1) (by nofun)) (fun h => h.2)
      obtain ⟨e, he, _⟩ := hfk _ hmem
      exact List.ne_nil_of_mem he
    -- a preferred extension inside a reported key is inside, hence equal to, a counted one
    have hall' : ∀ P, Preferred af P → ∃ F ∈ found, ∀ a, P a = ofList F a := by
      intro P hP
      obtain ⟨Fk, hFk, hPFk⟩ := hall P (preferred_complete hP)
      obtain ⟨F, hF, hFkF⟩ := hfk Fk hFk
      have hPF : SubsetS P (ofList F) := fun a ha => hFkF a (hP.1.1.1 a ha) (hPFk a (hP.1.1.1 a ha) ha)
      refine ⟨F, hF, fun a => ?_⟩
      rw [Bool.eq_iff_iff]
      exact ⟨hPF a, hP.2 _ (hcf.mem F hF).1 hPF a⟩
    rw [hst']
    simp only
    rw [wp_bind', wp_drop]
    exact (wp_pure _ _ _).2 ⟨hia.exhausted hne hall', hR'.2.1.dropped hR'.1, hV'.step (.clause _ _ _), hB'⟩

/-- **the enumeration loop**: at most `|CO| + |PR|` calls, counted from `c0` -/
theorem wp_idEnumLoop {C : Prop} {af : AF} {enc : EncKind} (hgr : GrOK af) (hnd : (groundedV af.view).Nodup)
    (s sel c0 fuel : Nat) :
    ∀ (m : MEC) (w : World) (seen found : List (List Nat)) (ia : InAll),
    EnHead af enc s sel c0 seen found m w → IaInv af found ia →
    C ∨ fuel + w.calls ≥ c0 + (extsCO af).length + (extsPR af).length →
    wp C (idEnumLoop (groundedV af.view).length fuel m ia) w (EnPost af enc s sel c0) := by
  induction fuel with
  | zero =>
    intro m w seen found ia h _ hf
    exact (wp_crash _ _ _).2 (hf.resolve_right (fuel_zero h.budget))
  | succ fuel ih =>
    intro m w seen found ia h hia hf
    exact wp_idEnumIter hgr hnd s sel c0 fuel h hia fun m' w' seen' found' ia' h' hia' hc =>
      ih m' w' seen' found' ia' h' hia' (hf.imp_right fun hf => fuel_step hf hc)

theorem wp_idInAll {C : Prop} (cfg : Cfg) (hk : ∀ af T, cfg.enc.Base af T ↔ Complete af T) (c : Comp)
    (hwf : c.af.WF) (hgr : GrOK c.af) (w : World) (s : Nat) (hb : w.Bounded) (hs : s < w.solvers.length)
    (hdb : w.db s = []) (hfuel : C ∨ cfg.fuel ≥ (extsCO c.af).length + (extsPR c.af).length + 1) :
    wp C (idInAll cfg c (groundedV c.af.view).length s) w (fun ia w' =>
      EnumPost c.af ia ∧ (∃ sel, Den.Dropped (Complete c.af) SetKey (MEC.init c.af cfg.enc s sel .preferred) w' ∧
        VarsBelow (MEC.init c.af cfg.enc s sel .preferred) w') ∧
      w'.calls ≤ w.calls + (extsCO c.af).length + (extsPR c.af).length) := by
  unfold idInAll
  rw [wp_bind']
  refine wp_mono _ _ _ _ ?_ (wp_encodeIntoC cfg.enc c.af s false w hb hs hdb)
  rintro _ w1 ⟨henc, hc1⟩
  rw [wp_bind', wp_MEC_new_iff]
  obtain ⟨hD, hV⟩ := Den.of_encoded henc hwf (hk c.af) (kind := .preferred) (by nofun)
  have hnd : (groundedV c.af.view).Nodup := (groundedV_spec _ _ (AF.view_ok c.af hwf)).2.1
  cases hfu : cfg.fuel with
  | zero => exact (wp_crash _ _ _).2 (hfuel.resolve_right (by omega))
  | succ fuel =>
    rw [idEnumLoop_init _ rfl]
    have hc1' : w1.calls = w.calls := hc1
    refine wp_mono _ _ _ _ (fun ia w' h => ⟨h.1, ⟨_, h.2.1, h.2.2.1⟩, h.2.2.2⟩)
      (wp_idEnumLoop hgr hnd s (w1.nVarsOf s + 1) w.calls fuel _ _ [] [] _
        ⟨hV, [], [], ⟨⟨MEC.same_upd _ _ _ _, hD, fun h => nomatch h⟩, Inv.nil, Or.inl ⟨rfl, hgr.1, hgr.2.1, fun _ _ h => h⟩⟩,
          fun _ h => (nomatch h), Cnt.nil, Cnt.nil, ?_⟩ ?_ (hfuel.imp_right fun h => ?_))
    · show w1.calls + 1 ≤ w.calls + (0 + 1) + 0
      omega
    · refine ⟨(fun F hF => by cases hF), fun a => ?_, rfl, fun h => absurd rfl h⟩
      show (List.replicate c.af.n true).getD a false = true ↔ _
      rw [getD_replicate_true]
      exact ⟨fun h => ⟨h, fun F hF => by cases hF⟩, fun h => h.1⟩
    · show fuel + w1.calls ≥ _
      omega

theorem wp_idFinish {C : Prop} (cfg : Cfg) (c : Comp) (hgr : GrOK c.af) (s sel : Nat) (ia : InAll) (w : World)
    (hpost : EnumPost c.af ia) (hd : Den.Dropped (Complete c.af) SetKey (MEC.init c.af cfg.enc s sel .preferred) w)
    (hV : VarsBelow (MEC.init c.af cfg.enc s sel .preferred) w)
    (hfuel : C ∨ cfg.fuel ≥ (extsCO c.af).length + 2) :
    wp C (idFinish cfg c s (groundedV c.af.view) ia) w (fun e w' =>
      (Ideal c.af (ofList e) ∧ ∀ a ∈ e, a < c.af.n) ∧ w'.calls ≤ w.calls + (extsCO c.af).length) := by
  unfold idFinish
  by_cases h1 : (ia.nInAll == (groundedV c.af.view).length) = true
  · rw [if_pos h1]
    have h1' : ia.nInAll = (groundedV c.af.view).length := by simpa using h1
    rcases hpost.cases with ⟨_, hsub⟩ | ⟨hne, _⟩
    · refine (wp_pure _ _ _).2 ⟨⟨ideal_of_grounded_inter hgr.1 hgr.2.2 ?_, hgr.2.1⟩, Nat.le_add_right _ _⟩
      intro a ha
      exact ofList_true.2 (hsub a (hpost.sup a ha))
    · exact absurd h1' hne
  · rw [if_neg h1]
    rcases hpost.cases with ⟨heq, _⟩ | ⟨_, hsubI, huniq⟩
    · exact absurd (by simpa using heq) h1
    · by_cases h2 : (ia.nPreferred == 1) = true
      · rw [if_pos h2]
        obtain ⟨P, hP, hu⟩ := huniq (by simpa using h2)
        have hE : ofList ((List.range c.af.n).filter (fun i => ia.inAll.getD i false)) = P := by
          funext a
          rw [Bool.eq_iff_iff, ofList_true, List.mem_filter, List.mem_range]
          constructor
          · rintro ⟨_, ha⟩; exact hsubI a ha P hP
          · intro ha
            exact ⟨hP.1.1.1 a ha, hpost.sup a (fun Q hQ => by rw [hu Q hQ a]; exact ha)⟩
        refine (wp_pure _ _ _).2 ⟨?_, Nat.le_add_right _ _⟩
        show Ideal c.af (ofList ((List.range c.af.n).filter (fun i => ia.inAll.getD i false))) ∧ _
        rw [hE]
        refine ⟨ideal_of_unique_preferred hP hu, ?_⟩
        intro a ha
        exact List.mem_range.1 (List.mem_filter.1 ha).1
      · rw [if_neg h2]
        rw [wp_bind', wp_MEC_new_iff]
        -- the second computer: the complete extensions inside `inAll`
        obtain ⟨hD2, _⟩ := Den.renew hd hV (by nofun) (kind := .ideal (forbL cfg.enc c.af.n ia.inAll)) (by nofun)
        have hgrow : (MEC.asSys (Complete c.af)
            (fun T => Complete c.af T ∧ ∀ a, T a = true → ia.inAll.getD a false = true) SetKey
            (MEC.init c.af cfg.enc s (w.nVarsOf s + 1) (.ideal (forbL cfg.enc c.af.n ia.inAll)))).GrowOK :=
          MEC.asSys_grow (G := fun T => ∀ a, T a = true → ia.inAll.getD a false = true)
            (m₀ := MEC.init c.af cfg.enc s (w.nVarsOf s + 1) (.ideal (forbL cfg.enc c.af.n ia.inAll)))
            (fun _ => Iff.rfl) (fun ν => forbL_true cfg.enc c.af ν ia.inAll)
        have hgin : ∀ a, ofList (groundedV c.af.view) a = true → ia.inAll.getD a false = true := by
          intro a ha
          apply hpost.sup
          intro P hP
          exact hgr.2.2 P (preferred_complete hP) a ha
        cases hfu : cfg.fuel with
        | zero => exact (wp_crash _ _ _).2 (hfuel.resolve_right (by omega))
        | succ fuel =>
          rw [computeMaximal_init rfl]
          refine wp_mono _ _ _ _ ?_ (wp_computeMaximal_cnt hgrow (by nofun) (fun _ h => h.1) (length_le_extsCO c.af)
            w.calls fuel _ (w.onNVars s) [] [] rfl ⟨MEC.same_upd _ _ _ _, hD2, fun h => nomatch h⟩
            ⟨⟨hgr.1, hgin⟩, hgr.2.1, fun _ _ h => h⟩ (fun _ h => nomatch h) Cnt.nil (Nat.le_refl _)
            (hfuel.imp_right fun h => by simp only [List.length_nil]; omega))
          rintro e _ ⟨⟨⟨hco, hin⟩, hlt, key, hks, hmax⟩, hcal⟩
          refine ⟨⟨ideal_of_max_complete hco ?_ ?_, hlt⟩, hcal⟩
          · intro P hP a ha
            exact hsubI a (hin a ha) P hP
          · intro T hT hTP hsub a hTa
            exact hmax.max hks ⟨hT, fun a ha => hpost.sup a (fun P hP => hTP P hP a ha)⟩ (fun a _ h => hsub a h) a
              (hT.1.1.1 a hTa) hTa

/-- **SE-ID on one component**, within `2|CO| + |PR|` SAT calls -/
theorem idOneForCc_spec (cfg : Cfg) (hk : ∀ af T, cfg.enc.Base af T ↔ Complete af T) (c : Comp)
    (hwf : c.af.WF) (hgr : GrOK c.af) (w : World) (hb : w.Bounded) :
    wp (cfg.fuel < (extsCO c.af).length + (extsPR c.af).length + 2) (idOneForCc cfg c) w (fun e w' =>
      (Ideal c.af (ofList e) ∧ ∀ a ∈ e, a < c.af.n) ∧
      w'.calls ≤ w.calls + 2 * (extsCO c.af).length + (extsPR c.af).length) := by
  have hfuel := Nat.lt_or_ge cfg.fuel ((extsCO c.af).length + (extsPR c.af).length + 2)
  unfold idOneForCc
  rw [wp_bind', wp_mkSolver, wp_bind']
  refine wp_mono _ _ _ _ ?_ (wp_idInAll cfg hk c hwf hgr w.onNew w.solvers.length (Bounded_onNew hb) (lt_len_onNew w)
    (db_onNew_self w) (hfuel.imp_right Nat.le_of_succ_le))
  rintro ia w1 ⟨hpost, ⟨sel, hd, hV⟩, hc1⟩
  refine wp_mono _ _ _ _ ?_ (wp_idFinish cfg c hgr _ sel ia w1 hpost hd hV
    (hfuel.imp_right (Nat.le_trans (Nat.add_le_add_right (Nat.le_add_right _ _) 2))))
  rintro e w2 ⟨he, hc2⟩
  have hc1' : w1.calls ≤ w.calls + (extsCO c.af).length + (extsPR c.af).length := hc1
  exact ⟨he, by omega⟩

/-- **DC-ID on one component** (the queried arguments are given by their positions) -/
theorem idCredForCc_spec (cfg : Cfg) (hk : ∀ af T, cfg.enc.Base af T ↔ Complete af T) (c : Comp)
    (pos : List Nat) (hwf : c.af.WF) (hgr : GrOK c.af) (w : World) (hb : w.Bounded) :
    wp (cfg.fuel < (extsCO c.af).length + (extsPR c.af).length + 2) (idCredForCc cfg c pos) w (fun res w' =>
      ((res.1 = true → ∃ e, res.2 = some e ∧ Ideal c.af (ofList e) ∧ HitsL pos (ofList e) ∧ ∀ a ∈ e, a < c.af.n) ∧
       (res.1 = false → res.2 = none ∧ ∀ T, Ideal c.af T → ¬ HitsL pos T)) ∧
      w'.calls ≤ w.calls + 2 * (extsCO c.af).length + (extsPR c.af).length) := by
  have hfuel := Nat.lt_or_ge cfg.fuel ((extsCO c.af).length + (extsPR c.af).length + 2)
  unfold idCredForCc
  rw [wp_bind', wp_mkSolver, wp_bind']
  refine wp_mono _ _ _ _ ?_ (wp_idInAll cfg hk c hwf hgr w.onNew w.solvers.length (Bounded_onNew hb) (lt_len_onNew w)
    (db_onNew_self w) (hfuel.imp_right Nat.le_of_succ_le))
  rintro ia w1 ⟨hpost, ⟨sel, hd, hV⟩, hc1⟩
  have hc1' : w1.calls ≤ w.calls + (extsCO c.af).length + (extsPR c.af).length := hc1
  by_cases hall : pos.all (fun a => !ia.inAll.getD a false) = true
  · rw [if_pos hall]
    refine (wp_pure _ _ _).2 ⟨⟨(fun h => by cases h), fun _ => ⟨rfl, ?_⟩⟩, by omega⟩
    rintro T hT ⟨p, hp, hTp⟩
    have h1 := hpost.sup p (fun P hP => ideal_sub_preferred hT hP p hTp)
    have h2 : (!ia.inAll.getD p false) = true := List.all_eq_true.1 hall p hp
    rw [h1] at h2
    cases h2
  · rw [if_neg hall]
    rw [wp_bind']
    refine wp_mono _ _ _ _ ?_ (wp_idFinish cfg c hgr _ sel ia w1 hpost hd hV
      (hfuel.imp_right (Nat.le_trans (Nat.add_le_add_right (Nat.le_add_right _ _) 2))))
    rintro e w2 ⟨⟨hI, hlt⟩, hc2⟩
    have hcal : w2.calls ≤ w.calls + 2 * (extsCO c.af).length + (extsPR c.af).length := by omega
    by_cases hhit : pos.any e.contains = true
    · rw [if_pos hhit]
      exact (wp_pure _ _ _).2 ⟨⟨fun _ => ⟨e, rfl, hI, (hitsL_any _ _).1 hhit, hlt⟩, fun h => by cases h⟩, hcal⟩
    · rw [if_neg hhit]
      refine (wp_pure _ _ _).2 ⟨⟨(fun h => by cases h), fun _ => ⟨rfl, ?_⟩⟩, hcal⟩
      rintro T hT ⟨p, hp, hTp⟩
      apply hhit
      apply (hitsL_any _ _).2
      exact ⟨p, hp, by rw [← ideal_unique hT hI p]; exact hTp⟩

end Crusta
