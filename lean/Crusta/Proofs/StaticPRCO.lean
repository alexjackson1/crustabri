import Crusta.Proofs.StaticPR

/-!
# Certificates assembled over the components; preferred and complete solvers, all entry points

A certificate is the merged component's part followed by one extension of every remaining component
(`otherCompsWith`; the loop is `wp_otherComps`, what it computed is a `Pieces`): together they list
an extension of the framework that meets the queried arguments exactly where the first part does
(`Pieces.cert`, `cert_by_components`).  (On the names `_spec` / `_ok`: header of `StaticGR`.)
-/

namespace Crusta
open Prog (mkSolver doReserve addClause addClauses getNVars doSolve)
attribute [local irreducible] wp -- see `Assemble`

/-- what the loop over the components `cs` computed: `rs[i]` for `cs[i]`, with `P cs[i] rs[i]` -/
structure Pieces (g : G) (P : Comp → List Nat → Prop) (marked : Nat → Prop) (cs : List Comp)
    (rs : List (List Nat)) : Prop where
  comps : Comps g marked cs
  len : rs.length = cs.length
  ext : ∀ (i : Nat) (c : Comp) (r : List Nat), cs[i]? = some c → rs[i]? = some r → P c r

section
variable {g : G} {P : Comp → List Nat → Prop} {σ : Sem} {marked : Nat → Prop} {cs : List Comp}
  {rs : List (List Nat)}

theorem Pieces.nil (h : ∀ a, g.live a = true → marked a) : Pieces g P marked [] [] :=
  ⟨Comps.nil h, rfl, fun i _ _ hc => (by simp at hc)⟩

theorem Pieces.cons {marked' : Nat → Prop} {c : Comp} {r : List Nat} (hm : ∀ a, marked' a ↔ marked a ∨ a ∈ c.ids)
    (hgood : GoodComp g c) (hnm : ∀ a ∈ c.ids, ¬ marked a)
    (hr : P c r) (h : Pieces g P marked' cs rs) : Pieces g P marked (c :: cs) (r :: rs) :=
  ⟨h.comps.cons hm hgood hnm, by simp [h.len], forall_getElem?_cons hr h.ext⟩

theorem Pieces.imp {P' : Comp → List Nat → Prop} (hP : ∀ c r, GoodComp g c → P c r → P' c r)
    (h : Pieces g P marked cs rs) : Pieces g P' marked cs rs :=
  ⟨h.comps, h.len, fun i c r hc hr => hP c r (h.comps.good c (List.mem_of_getElem? hc)) (h.ext i c r hc hr)⟩

theorem Pieces.not_marked (h : Pieces g (ExtOn g σ) marked cs rs) {a : Nat} (ha : a ∈ rs.flatten) : ¬ marked a := by
  obtain ⟨r, hr, har⟩ := List.mem_flatten.1 ha
  obtain ⟨i, hi, rfl⟩ := List.getElem_of_mem hr
  have hi' : i < cs.length := h.len ▸ hi
  exact h.comps.fresh _ (List.getElem_mem hi') a
    ((h.ext i _ _ (List.getElem?_eq_getElem hi') (List.getElem?_eq_getElem hi)).2 a har)

theorem Pieces.assemble (h : Pieces g (ExtOn g σ) (fun _ => False) cs rs) (hfin : g.Fin) :
    g.Ext σ (ofList rs.flatten) :=
  assemble_ext h.comps.parts h.comps.good hfin σ rs h.len h.ext

end

/-- the merged component `c` first, then the components found by the loop: a partition (`hall`);
the queried arguments all lie in `c` -/
theorem Pieces.cert {g : G} {v : FwView} (hv : v.Ok g) {σ : Sem} {c : Comp} (hgood : GoodComp g c)
    {args : List Nat} (hin : ∀ a ∈ args, a ∈ c.ids) {r0 : List Nat} (h0 : ExtOn g σ c r0) {cs : List Comp}
    {rs : List (List Nat)} (hp : Pieces g (ExtOn g σ) (fun a => a ∈ c.ids) cs rs) :
    g.Ext σ (ofList (r0 ++ rs.flatten)) ∧ (HitsL args (ofList (r0 ++ rs.flatten)) ↔ HitsL args (ofList r0)) := by
  have hall : Pieces g (ExtOn g σ) (fun _ => False) (c :: cs) (r0 :: rs) :=
    hp.cons (fun _ => ⟨Or.inr, fun h => h.resolve_left id⟩) hgood (fun _ _ h => h) h0
  exact ⟨hall.assemble hv.fin, (hitsL_append _ _ _).trans
    ⟨fun h => h.resolve_right fun ⟨a, ha, hs⟩ => hp.not_marked (ofList_true.1 hs) (hin a ha), Or.inl⟩⟩

/-- `Pieces.cert` with the facts about the pieces written out -/
theorem assemble_cert {g : G} {v : FwView} (hv : v.Ok g) (σ : Sem) {c : Comp} (hgood : GoodComp g c)
    {args : List Nat} (hin : ∀ a ∈ args, a ∈ c.ids) (r0 : List Nat)
    (h0 : (g.restrict c.memB).Ext σ (ofList r0)) (h0in : ∀ a ∈ r0, a ∈ c.ids)
    (cs : List Comp) (rs : List (List Nat)) (hlen : rs.length = cs.length) (hgs : ∀ c' ∈ cs, GoodComp g c')
    (hdisj : cs.Pairwise (fun c c' => ∀ a, a ∈ c.ids → a ∉ c'.ids))
    (hun : ∀ c' ∈ cs, ∀ a ∈ c'.ids, ¬ a ∈ c.ids)
    (hcov : ∀ a, g.live a = true → a ∈ c.ids ∨ ∃ c' ∈ cs, a ∈ c'.ids)
    (hext : ∀ (i : Nat) (c' : Comp) (r : List Nat), cs[i]? = some c' → rs[i]? = some r →
      (g.restrict c'.memB).Ext σ (ofList r) ∧ ∀ a ∈ r, a ∈ c'.ids) :
    g.Ext σ (ofList (r0 ++ rs.flatten)) ∧ (HitsL args (ofList (r0 ++ rs.flatten)) ↔ HitsL args (ofList r0)) :=
  Pieces.cert hv hgood hin ⟨h0, h0in⟩ ⟨⟨hgs, hdisj, hun, hcov⟩, hlen, hext⟩

/-- each iteration extracts a non-empty component of unmarked live ids, so a fuel above the number
of unmarked slots is never exhausted -/
theorem wp_otherComps {C : Prop} (v : FwView) (g : G) (hv : v.Ok g) (f : Comp → Prog (List Nat))
    (P : Comp → List Nat → Prop)
    (hf : ∀ c w, w.Bounded → GoodComp g c → wp C (f c) w (fun r _ => P c r)) (fuel : Nat) :
    ∀ (cc : CC) (marked : Nat → Prop) (acc : List Nat) (w : World), CCInv v g cc marked →
      C ∨ cc.inCC.count false < fuel → w.Bounded →
      wp C (otherCompsWith v f fuel cc acc) w (fun res w' => w'.Bounded ∧
        ∃ (cs : List Comp) (rs : List (List Nat)), res = acc ++ rs.flatten ∧ Pieces g P marked cs rs) := by
  induction fuel with
  | zero =>
    intro _ _ _ _ _ hfu _
    unfold otherCompsWith wp
    exact hfu.resolve_right (Nat.not_lt_zero _)
  | succ fuel ih =>
    intro cc marked acc w hI hfu hb
    obtain ⟨hnone, hsome⟩ := CC.nextComp_spec v g hv cc marked hI
    unfold otherCompsWith
    cases hnc : CC.nextComp v cc with
    | none => exact (wp_pure _ _ _).2 ⟨hb, [], [], by simp, Pieces.nil (hnone hnc)⟩
    | some p =>
      obtain ⟨oc, cc'⟩ := p
      obtain ⟨c, rfl, hgood, hne, hnm, hI'⟩ := hsome oc cc' hnc
      have hcnt := nextComp_count_lt hI hne hnm hI'
      simp only [Prog.bind_eq]
      rw [wp_bind]
      refine (wp_pure c w _).2 ?_
      rw [wp_bind]
      refine wp_mono _ _ _ _ ?_ (wp_bounded _ _ _ hb (hf c w hb hgood))
      rintro r w1 ⟨hb1, hr⟩
      refine wp_mono _ _ _ _ ?_ (ih cc' _ (acc ++ r) w1 hI'
        (hfu.imp_right fun h => Nat.lt_of_lt_of_le hcnt (Nat.le_of_lt_succ h)) hb1)
      rintro res w2 ⟨hb2, cs, rs, rfl, hp⟩
      exact ⟨hb2, c :: cs, r :: rs, by simp, hp.cons (fun _ => Iff.rfl) hgood hnm hr⟩

/-! ## two readings of `wp_otherComps`: crashes tolerated, with the facts about the pieces written out; no crash node -/

theorem wp_otherCompsWith (v : FwView) (g : G) (hv : v.Ok g) (f : Comp → Prog (List Nat)) (P : Comp → List Nat → Prop)
    (hf : ∀ c w, w.Bounded → GoodComp g c → wp True (f c) w (fun r w' => w'.Bounded ∧ P c r)) :
    ∀ (fuel : Nat) (cc : CC) (marked : Nat → Prop) (acc : List Nat) (w : World), CCInv v g cc marked → w.Bounded →
      wp True (otherCompsWith v f fuel cc acc) w (fun res w' => w'.Bounded ∧ ∃ (cs : List Comp) (rs : List (List Nat)),
        rs.length = cs.length ∧ res = acc ++ rs.flatten ∧ (∀ c ∈ cs, GoodComp g c) ∧
        cs.Pairwise (fun c c' => ∀ a, a ∈ c.ids → a ∉ c'.ids) ∧ (∀ c ∈ cs, ∀ a ∈ c.ids, ¬ marked a) ∧
        (∀ a, g.live a = true → marked a ∨ ∃ c ∈ cs, a ∈ c.ids) ∧
        ∀ (i : Nat) (c : Comp) (r : List Nat), cs[i]? = some c → rs[i]? = some r → P c r) :=
  fun fuel cc marked acc w hI hb => wp_mono _ _ _ _
    (fun _ _ ⟨hb', cs, rs, hres, hp⟩ =>
      ⟨hb', cs, rs, hp.len, hres, hp.comps.good, hp.comps.disj, hp.comps.fresh, hp.comps.cover, hp.ext⟩)
    (wp_otherComps v g hv f P (fun c w hb hc => wp_mono _ _ _ _ (fun _ _ h => h.2) (hf c w hb hc)) fuel cc marked acc w hI
      (Or.inl trivial) hb)

theorem safe_otherCompsWith (v : FwView) (g : G) (hv : v.Ok g) (f : Comp → Prog (List Nat))
    (hf : ∀ c w, w.Bounded → GoodComp g c → wp False (f c) w (fun _ w' => w'.Bounded)) :
    ∀ (fuel : Nat) (cc : CC) (marked : Nat → Prop) (acc : List Nat) (w : World), CCInv v g cc marked →
      cc.inCC.count false < fuel → w.Bounded →
      wp False (otherCompsWith v f fuel cc acc) w (fun _ w' => w'.Bounded) :=
  fun fuel cc marked acc w hI hfu hb => wp_mono _ _ _ _ (fun _ _ h => h.1)
    (wp_otherComps v g hv f (fun _ _ => True)
      (fun c w hb hc => wp_mono _ _ _ _ (fun _ _ _ => trivial) (hf c w hb hc)) fuel cc marked acc w hI (Or.inr hfu) hb)

/-- `Pieces.cert` for the loop started on `c.back e`, `e` an extension of the merged component in positions -/
theorem cert_by_components {C : Prop} {g : G} {v : FwView} (hv : v.Ok g) (σ : Sem) (f : Comp → Prog (List Nat))
    (hf : ∀ c w, w.Bounded → GoodComp g c → wp C (f c) w (fun r _ => ∃ e, r = c.back e ∧ ExtIn σ c e))
    {c : Comp} (hgood : GoodComp g c) {cc : CC} (hI : CCInv v g cc (fun a => a ∈ c.ids)) {args pos : List Nat}
    (hin : ∀ a ∈ args, a ∈ c.ids) (hpos : posAll c args = some pos) {e : List Nat} (he : σ.Ext c.af (ofList e))
    (hlt : ∀ a ∈ e, a < c.af.n) (fuel : Nat) (hfu : C ∨ cc.inCC.count false < fuel) (w : World) (hb : w.Bounded) :
    wp C (otherCompsWith v f fuel cc (c.back e)) w (fun res _ =>
      σ.GExt g (ofList res) ∧ (HitsL args (ofList res) ↔ HitsL pos (ofList e))) := by
  refine wp_mono _ _ _ _ ?_ (wp_otherComps v g hv f _ hf fuel cc _ (c.back e) w hI hfu hb)
  rintro res _ ⟨_, cs, rs, rfl, hp0⟩
  have h := Pieces.cert hv hgood hin (Comp.ext_back hgood ⟨he, hlt⟩)
    (hp0.imp fun c r hc ⟨e, hr, he⟩ => hr ▸ Comp.ext_back hc he)
  rw [hits_iff_hitsL_up hpos, ← Comp.ofList_back hgood e]
  exact ⟨(gext_iff σ g _).2 h.1, h.2⟩

section
variable (cfg : Cfg) (hk : ∀ af T, cfg.enc.Base af T ↔ Complete af T) (v : FwView) (g : G) (hv : v.Ok g)
include hk hv

theorem co_dc_cert_ok (args : List Nat) (hargs : ∀ a ∈ args, g.live a = true) (w : World) (hb : w.Bounded) :
    wp (FuelShort cfg v) (coDCcert cfg v args) w (fun a _ => DCOK .CO g args true a) := by
  unfold coDCcert
  simp only [Prog.bind_eq]
  rw [wp_bind]
  apply wp_needMerged hv hargs
  intro c cc hgood hin hI
  have hwf := Comp.af_wf hgood
  simp only
  rw [wp_bind, wp_mkSolver, wp_bind]
  apply wp_encodeInto _ _ _ _ _ (Bounded_onNew hb) (lt_len_onNew w) (db_onNew_self w)
  intro w1 henc
  rw [wp_bind, wp_getNVars, wp_bind]
  apply wp_ccArgsC _ _ _ _ (Or.inr (posAll_of_mem c args hin))
  intro pos hpos
  rw [wp_bind, wp_addClause1, wp_bind, wp_doSolve]
  have hsb := henc.selBase hwf
  have hL := posAll_lt hgood hpos
  refine ⟨?_, ?_⟩
  · intro m hm
    simp only [db_onClause_same, db_onNVars] at hm
    obtain ⟨hB, hhit⟩ := hsb.hit_sat hL hm
    rw [← cfg.enc.ofList_decode c.af m] at hB hhit
    have hco := (hk _ _).1 hB
    show wp _ ((otherCompsWith v _ cfg.fuel cc _).bind _) _ _
    rw [wp_bind]
    refine wp_mono _ _ _ _ ?_ (cert_by_components hv .CO _ ?_ hgood hI hin hpos hco
      (fun i hi => hco.1.1.1 i (ofList_true.2 hi)) cfg.fuel (otherComps_fuel' hI) _
      (Bounded_onReply (Bounded_onSolve (Bounded_onClause (Bounded_onNVars henc.bounded _) _ _) _ _) _ _))
    · rintro res _ ⟨hext, hiff⟩
      exact (wp_pure _ _ _).2 (AccOK.yes (cred := true) hext (hiff.2 hhit)).dc
    · intro oc w' hb' hg'
      have hgr := GrOK_of_wf oc.af (Comp.af_wf hg')
      exact (wp_pure _ _ _).2 ⟨_, rfl, hgr.1, hgr.2.1⟩
  · intro hunsat
    simp only [db_onClause_same, db_onNVars] at hunsat
    refine (wp_pure _ _ _).2 (AccOK.no (cred := true) fun hn => ?_).dc
    obtain ⟨T, hT, p, hp, hTp⟩ := (wit_lift hv .CO ⟨_, (groundedV_spec v g hv).1.1⟩ hgood hin hpos true).2 hn
    have := hsb.hit_unsat hL hunsat ((hk _ _).2 hT) p hp
    rw [hTp] at this
    cases this

/-- the "unreachable" branch of `prDScert` is unreachable: a negative answer of the search without
shortcut comes with a counterexample (`SkeptOK`) -/
theorem pr_ds_cert_ok (args : List Nat) (hargs : ∀ a ∈ args, g.live a = true) (w : World) (hb : w.Bounded) :
    wp (FuelShort cfg v) (prDScert cfg v args) w (fun a _ => DSOK .PR g args true a) := by
  unfold prDScert
  simp only [Prog.bind_eq]
  rw [wp_bind]
  apply wp_needMerged hv hargs
  intro c cc hgood hin hI
  obtain ⟨pos, hpos⟩ := posAll_of_mem c args hin
  simp only
  rw [wp_bind]
  refine wp_conseq (fun h => h.elim (fun hn => absurd (hn ▸ hpos) nofun) (FuelShort.of_ge (fuel_co hv hgood))) _ _ _ _ ?_
    (prSkeptInCc_spec cfg hk c args false (Comp.af_wf hgood) (GrOK_of_wf _ (Comp.af_wf hgood)) w hb)
  rintro ⟨st, ce⟩ w1 ⟨hb1, hres, _⟩
  obtain ⟨h1, h2⟩ := hres pos hpos
  cases st with
  | true =>
    refine (wp_pure _ _ _).2 (AccOK.no (cred := false) fun hn => ?_).ds
    obtain ⟨T, hT, hn⟩ := (wit_lift hv .PR (G.exists_preferred g hv.fin) hgood hin hpos false).2 hn
    exact hn ((h1 rfl).2 T hT)
  | false =>
    obtain ⟨e, he, hpref, hnh, hlt⟩ := (h2 rfl).2 rfl
    cases he
    show wp _ ((otherCompsWith v _ cfg.fuel cc _).bind _) _ _
    rw [wp_bind]
    refine wp_mono _ _ _ _ ?_ (cert_by_components hv .PR (prMaximalOfComp cfg)
      (fun oc w' hb' hg' => wp_conseq (FuelShort.of_ge (fuel_lin hv hg')) _ _ _ _ (fun _ _ h => h.2.1)
        (prMaximalOfComp_specF prefFam_complete cfg hk oc (Comp.af_wf hg') (GrOK_of_wf _ (Comp.af_wf hg')) w' hb'))
      hgood hI hin hpos hpref hlt cfg.fuel (otherComps_fuel' hI) w1 hb1)
    rintro res _ ⟨hext, hiff⟩
    exact (wp_pure _ _ _).2 (AccOK.yes (cred := false) hext fun hh => hnh (hiff.1 hh)).ds

theorem pr_entry_spec (e : Entry) (hargs : ∀ a, a ∈ e.argsList → g.live a = true) (p : Prog Ans)
    (hp : entryProg .PR cfg v e = some p) (w : World) (hb : w.Bounded) :
    wp (FuelShort cfg v) p w (fun ans _ => EntryOK .PR g e ans) := by
  cases e with
  | se =>
    obtain rfl := Option.some.inj hp
    exact wp_entry_se (pr_se_okF prefFam_complete cfg hk v g hv w hb)
  | dc cert args => cases hp
  | ds cert args =>
    obtain rfl := Option.some.inj hp
    exact wp_entry_ds_ite (pr_ds_cert_ok cfg hk v g hv args hargs w hb)
      (wp_mono _ _ _ _ (fun _ _ h => h.1) (pr_ds_spec cfg hk v g hv args hargs w hb))

theorem co_entry_spec (e : Entry) (hargs : ∀ a, a ∈ e.argsList → g.live a = true) (p : Prog Ans)
    (hp : entryProg .CO cfg v e = some p) (w : World) (hb : w.Bounded) :
    wp (FuelShort cfg v) p w (fun ans _ => EntryOK .CO g e ans) := by
  cases e with
  | se => cases hp
  | ds cert args => cases hp
  | dc cert args =>
    obtain rfl := Option.some.inj hp
    exact wp_entry_dc_ite (co_dc_cert_ok cfg hk v g hv args hargs w hb)
      (wp_mono _ _ _ _ (fun _ _ h => h.1) (co_dc_spec cfg hk v g hv args hargs w hb))

theorem pr_entry_ok (e : Entry) (hargs : ∀ a, a ∈ e.argsList → g.live a = true) (p : Prog Ans)
    (hp : entryProg .PR cfg v e = some p) (w : World) (hb : w.Bounded) :
    wp True p w (fun ans _ => EntryOK .PR g e ans) :=
  wp_conseq (fun _ => trivial) _ _ _ _ (fun _ _ h => h) (pr_entry_spec cfg hk v g hv e hargs p hp w hb)

theorem co_entry_ok (e : Entry) (hargs : ∀ a, a ∈ e.argsList → g.live a = true) (p : Prog Ans)
    (hp : entryProg .CO cfg v e = some p) (w : World) (hb : w.Bounded) :
    wp True p w (fun ans _ => EntryOK .CO g e ans) :=
  wp_conseq (fun _ => trivial) _ _ _ _ (fun _ _ h => h) (co_entry_spec cfg hk v g hv e hargs p hp w hb)

end

end Crusta
