import Crusta.Proofs.GSem2
import Crusta.Model.Solvers
import Crusta.Proofs.ViewSpec

/-!
# What the entry points of the static solvers must return (statements only)

For a semantics `σ` and the graph `g` presented by the view: `SEOK` (one extension or none),
`DCOK` / `DSOK` (credulous / skeptical acceptance of a list of arguments read as a disjunction,
with the certificate obligations of the `_with_certificate` variants), `EntryOK` for an `Ans`.
-/

namespace Crusta

def Sem.GExt : Sem → G → ASet → Prop
  | .GR => G.Grounded
  | .CO => G.Complete
  | .PR => G.Preferred
  | .ST => G.Stable
  | .SST => G.SemiStable
  | .STG => G.Stage
  | .ID => G.Ideal

def SolverKind.sem : SolverKind → Sem
  | .GR => .GR | .CO => .CO | .PR => .PR | .ST => .ST | .SST => .SST | .STG => .STG | .ID => .ID

/-- some queried argument is in the set -/
def HitsL (args : List Nat) (S : ASet) : Prop := ∃ a ∈ args, S a = true

def SEOK (σ : Sem) (g : G) (res : Option (List Nat)) : Prop :=
  (∀ e, res = some e → σ.GExt g (ofList e)) ∧ (res = none → ¬ ∃ S, σ.GExt g S)

def DCOK (σ : Sem) (g : G) (args : List Nat) (cert : Bool) (a : AccAns) : Prop :=
  (a.status = true → (∃ S, σ.GExt g S ∧ HitsL args S) ∧
    (cert = true → ∃ e, a.cert = some e ∧ σ.GExt g (ofList e) ∧ HitsL args (ofList e))) ∧
  (a.status = false → (¬ ∃ S, σ.GExt g S ∧ HitsL args S) ∧ (cert = true → a.cert = none))

def DSOK (σ : Sem) (g : G) (args : List Nat) (cert : Bool) (a : AccAns) : Prop :=
  (a.status = true → (∀ S, σ.GExt g S → HitsL args S) ∧ (cert = true → a.cert = none)) ∧
  (a.status = false → (∃ S, σ.GExt g S ∧ ¬ HitsL args S) ∧
    (cert = true → ∃ e, a.cert = some e ∧ σ.GExt g (ofList e) ∧ ¬ HitsL args (ofList e)))

/-- the arguments a query is about -/
def Entry.argsList : Entry → List Nat
  | .se => []
  | .dc _ args => args
  | .ds _ args => args

/-- the answer of an entry point is what the semantics dictate -/
def EntryOK (σ : Sem) (g : G) : Entry → Ans → Prop
  | .se, .ext res => SEOK σ g res
  | .dc cert args, .acc a cv => cv = cert ∧ DCOK σ g args cert a ∧ (cert = false → a.cert = none)
  | .ds cert args, .acc a cv => cv = cert ∧ DSOK σ g args cert a ∧ (cert = false → a.cert = none)
  | _, _ => False

end Crusta
