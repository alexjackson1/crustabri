import Crusta.Proofs.RoundTripAux
import Crusta.Proofs.Writers
import Crusta.Proofs.ReaderWFApx
import Crusta.Proofs.ListAux
import Crusta.Proofs.ApxScan

/-!
# Reader round trips (C13 acceptance direction, C14 framework round trip)

A written text is `unlines` of its lines (`renderIccma_eq`, `writeApx_eq`), so `lines` returns them
(`lines_encode_unlines`) and the fold of the reader runs over them, one equation per kind of line.

ICCMA'23: the canonical rendering (`p af N`, one line `a b` per attack, ids in range,
`N ≤ isize::MAX`) is read back exactly, also with `#` comment lines anywhere, trailing blank lines
and no final newline (`read_render_iccma_general`); the bound on `N` is necessary
(`read_render_iccma_big`).

Aspartix: `apx_write_read` asks for pairwise distinct labels that are `ValidId`s, which is exactly
the label language of the reader (`matchArg_validId`); it contains non-ASCII decimal digits, so the
UTF-8 round trip is used at all scalar values.  The written lines are recognised through the normal
forms of `ApxScan` (`RxApx.matchArg_nf`, `RxApx.matchAtt_nf`), no regular expression involved.
Labels `pfx<n>` (an identifier followed by a numeral) are distinct `ValidId`s, the instances
`StoreRoundTrip` and `Props/C14` use; a bare numeral is not one, and a file whose labels are numerals
is rejected (`apx_numerals_rejected`).
-/

namespace Crusta.IO

theorem digits_not_ws (k : Nat) : ∀ c ∈ natToStr k, isWs c = false := fun c hc =>
  have := natToStr_digits k c hc
  isWs_false_of c ⟨Nat.le_trans (by decide) this.1, Nat.le_trans this.2 (by decide)⟩

theorem splitWs_two (a b : Nat) : splitWs (natToStr a ++ [32] ++ natToStr b) = [natToStr a, natToStr b] := by
  simpa using splitWs_join (natToStr a) [natToStr b] (List.forall_mem_cons.2
    ⟨⟨natToStr_ne_nil a, digits_not_ws a⟩, List.forall_mem_cons.2 ⟨⟨natToStr_ne_nil b, digits_not_ws b⟩, nofun⟩⟩)

theorem strOf_p_af : strOf "p af " = [112, 32, 97, 102, 32] := by decide +kernel

theorem splitWs_header (n : Nat) : splitWs (strOf "p af " ++ natToStr n) = [[112], [97, 102], natToStr n] := by
  simpa [strOf_p_af] using splitWs_join [112] [[97, 102], natToStr n] (List.forall_mem_cons.2
    ⟨by decide, List.forall_mem_cons.2 ⟨by decide, List.forall_mem_cons.2
      ⟨⟨natToStr_ne_nil n, digits_not_ws n⟩, nofun⟩⟩⟩)

theorem readPreamble_header_eq (n : Nat) : readPreamble [[112], [97, 102], natToStr n] =
    if n ≤ 9223372036854775807 then .ok n else .error "invalid number of arguments" := by
  have h1 : ([112] != strOf "p") = false := by decide
  have h2 : ([97, 102] != strOf "af") = false := by decide
  by_cases hn : n ≤ 9223372036854775807 <;> simp [readPreamble, h1, h2, parseIsize_natToStr_eq, hn]

theorem readPreamble_header (n : Nat) (hn : n ≤ 9223372036854775807) :
    readPreamble [[112], [97, 102], natToStr n] = .ok n := by
  rw [readPreamble_header_eq, if_pos hn]

/-- the rendered preamble -/
def iccmaHeader (n : Nat) : Str := strOf "p af " ++ natToStr n
/-- a rendered attack `a+1 b+1` (0-based ids) -/
def iccmaAttLine (p : Nat × Nat) : Str := natToStr (p.1 + 1) ++ [32] ++ natToStr (p.2 + 1)

theorem iccmaLine_comment (st : IccmaSt) (t : Str) : iccmaLine st (some (35 :: t)) = .ok st := by
  simp [iccmaLine]

theorem iccmaLine_header_eq (n : Nat) : iccmaLine {} (some (iccmaHeader n)) =
    match readPreamble [[112], [97, 102], natToStr n] with
    | .ok n => .ok { af := some ⟨n, []⟩, foundEmpty := false }
    | .error e => .error e := by
  have hh : (iccmaHeader n).head? = some 112 := by simp [iccmaHeader, strOf_p_af]
  have he : (iccmaHeader n).isEmpty = false := by simp [iccmaHeader, strOf_p_af]
  unfold iccmaLine
  simp only [hh, he]
  unfold iccmaHeader
  simp only [splitWs_header]
  cases readPreamble [[112], [97, 102], natToStr n] <;> rfl

theorem iccmaLine_header (n : Nat) (hn : n ≤ 9223372036854775807) :
    iccmaLine {} (some (iccmaHeader n)) = .ok { af := some ⟨n, []⟩, foundEmpty := false } := by
  rw [iccmaLine_header_eq, readPreamble_header n hn]

theorem iccmaLine_att (n : Nat) (atts : List (Nat × Nat)) (p : Nat × Nat) (hp : p.1 < n ∧ p.2 < n)
    (hn : n ≤ 9223372036854775807) :
    iccmaLine { af := some ⟨n, atts⟩, foundEmpty := false } (some (iccmaAttLine p)) =
      .ok { af := some ⟨n, atts ++ [p]⟩, foundEmpty := false } := by
  obtain ⟨c, cs, hs, hc⟩ := natToStr_cons (p.1 + 1)
  have hh : ((iccmaAttLine p).head? == some 35) = false := by
    rw [iccmaAttLine, hs, beq_eq_false_iff_ne]
    exact fun e => absurd (Option.some.inj e ▸ hc.1) (by decide)
  have he : (iccmaAttLine p).isEmpty = false := by rw [iccmaAttLine, hs]; rfl
  have hw : splitWs (iccmaAttLine p) = [natToStr (p.1 + 1), natToStr (p.2 + 1)] := splitWs_two _ _
  -- the range test of the reader on the 1-based id `q + 1`
  have hr : ∀ q, q < n → (decide ((↑(q + 1) : Int) ≥ 1) && decide (q + 1 ≤ n)) = true :=
    fun q hq => by rw [Bool.and_eq_true, decide_eq_true_eq, decide_eq_true_eq]; omega
  have hk : ∀ q, q < n → q + 1 ≤ 9223372036854775807 := fun q hq => Nat.le_trans hq hn
  unfold iccmaLine
  simp only [hh, he, hw, parseIsize_natToStr _ (hk _ hp.1), parseIsize_natToStr _ (hk _ hp.2),
    Int.toNat_natCast, hr _ hp.1, hr _ hp.2, Bool.false_eq_true, if_false, if_true, Nat.add_sub_cancel]

theorem iccmaHeader_printable (n : Nat) : ∀ c ∈ iccmaHeader n, 32 ≤ c ∧ c < 127 :=
  List.forall_mem_append.2 ⟨by decide, natToStr_printable n⟩

theorem iccmaAttLine_printable (p : Nat × Nat) : ∀ c ∈ iccmaAttLine p, 32 ≤ c ∧ c < 127 :=
  List.forall_mem_append.2 ⟨List.forall_mem_append.2 ⟨natToStr_printable _, by decide⟩,
    natToStr_printable _⟩

theorem iccmaHeader_ne_nil (n : Nat) : iccmaHeader n ≠ [] := by simp [iccmaHeader, strOf_p_af]
theorem iccmaAttLine_ne_nil (p : Nat × Nat) : iccmaAttLine p ≠ [] := by simp [iccmaAttLine]

def renderIccma (n : Nat) (atts : List (Nat × Nat)) : Str :=
  strOf "p af " ++ natToStr n ++ [10] ++
    atts.flatMap (fun p => natToStr (p.1 + 1) ++ [32] ++ natToStr (p.2 + 1) ++ [10])

theorem renderIccma_eq (n : Nat) (atts : List (Nat × Nat)) :
    renderIccma n atts = unlines (iccmaHeader n :: atts.map iccmaAttLine) := by
  simp [unlines, renderIccma, iccmaHeader, iccmaAttLine, List.flatMap_map]

/-- the bound on `n` is necessary: beyond `isize::MAX` the preamble is rejected -/
theorem read_render_iccma_big (n : Nat) (atts : List (Nat × Nat)) (hn : 9223372036854775807 < n) :
    ∃ e, readIccma (encodeUtf8 (renderIccma n atts)) = .error e := by
  unfold readIccma
  rw [renderIccma_eq, lines_encode_unlines]
  · rw [List.map_cons, foldLines, iccmaLine_header_eq, readPreamble_header_eq, if_neg (Nat.not_le.2 hn)]
    exact ⟨_, rfl⟩
  · exact List.forall_mem_cons.2 ⟨lineOk_of_printable _ (iccmaHeader_printable n),
      List.forall_mem_map.2 fun p _ => lineOk_of_printable _ (iccmaAttLine_printable p)⟩

/-- a content line after the preamble -/
inductive IccmaItem where
  | att (p : Nat × Nat)        -- an attack, 0-based ids
  | comment (t : Str)          -- the line `#t`

def IccmaItem.line : IccmaItem → Str
  | .att p => iccmaAttLine p
  | .comment t => 35 :: t

def IccmaItem.Ok (n : Nat) : IccmaItem → Prop
  | .att p => p.1 < n ∧ p.2 < n
  | .comment t => LineOk (35 :: t)

def itemAtts : List IccmaItem → List (Nat × Nat)
  | [] => []
  | .att p :: r => p :: itemAtts r
  | .comment _ :: r => itemAtts r

theorem foldLines_comments (st : IccmaSt) (pre : List Str) :
    foldLines iccmaLine st ((pre.map (fun t => 35 :: t)).map some) = .ok st := by
  induction pre with
  | nil => simp [foldLines]
  | cons t ts ih => simp only [List.map_cons, foldLines, iccmaLine_comment]; exact ih

theorem foldLines_items (n : Nat) (hn : n ≤ 9223372036854775807) (items : List IccmaItem)
    (h : ∀ it ∈ items, it.Ok n) (pre : List (Nat × Nat)) :
    foldLines iccmaLine { af := some ⟨n, pre⟩, foundEmpty := false } ((items.map IccmaItem.line).map some) =
      .ok { af := some ⟨n, pre ++ itemAtts items⟩, foundEmpty := false } := by
  induction items generalizing pre with
  | nil => simp [foldLines, itemAtts]
  | cons it its ih =>
    have hit := h it (List.mem_cons_self ..)
    have ih' := fun pre => ih (fun q hq => h q (List.mem_cons_of_mem _ hq)) pre
    cases it with
    | att p =>
      simp only [List.map_cons, foldLines, IccmaItem.line, itemAtts]
      rw [iccmaLine_att n pre p hit hn]
      simp only
      rw [ih']
      simp
    | comment t =>
      simp only [List.map_cons, foldLines, IccmaItem.line, itemAtts, iccmaLine_comment]
      exact ih' pre

/-- a trailing line: blank (it ends the content) or a comment -/
def TrailOk (t : Str) : Prop := t = [] ∨ ∃ u, t = 35 :: u ∧ LineOk t

theorem IccmaItem.line_ne_nil (it : IccmaItem) : it.line ≠ [] := by
  cases it with
  | att p => exact iccmaAttLine_ne_nil p
  | comment t => exact List.cons_ne_nil _ _

theorem IccmaItem.Ok.lineOk {n : Nat} {it : IccmaItem} (h : it.Ok n) : LineOk it.line := by
  cases it with
  | att p => exact lineOk_of_printable _ (iccmaAttLine_printable p)
  | comment t => exact h

theorem TrailOk.lineOk {t : Str} (h : TrailOk t) : LineOk t := by
  rcases h with rfl | ⟨u, rfl, hu⟩
  · exact ⟨nofun, nofun⟩
  · exact hu

theorem foldLines_trailing (st : IccmaSt) (post : List Str) (h : ∀ t ∈ post, TrailOk t) :
    ∃ b, foldLines iccmaLine st (post.map some) = .ok { st with foundEmpty := b } := by
  induction post generalizing st with
  | nil => exact ⟨st.foundEmpty, by simp [foldLines]⟩
  | cons t ts ih =>
    have ih' := fun st => ih st (fun x hx => h x (List.mem_cons_of_mem _ hx))
    rcases h t (List.mem_cons_self ..) with rfl | ⟨u, rfl, _⟩
    · have : iccmaLine st (some []) = .ok { st with foundEmpty := true } := by simp [iccmaLine]
      simp only [List.map_cons, foldLines, this]
      obtain ⟨b, hb⟩ := ih' { st with foundEmpty := true }
      exact ⟨b, hb⟩
    · simp only [List.map_cons, foldLines, iccmaLine_comment]
      exact ih' st

/-- comment lines before the preamble and between the attack lines, trailing blank and comment
lines, and a missing final newline, change nothing -/
theorem read_render_iccma_general (n : Nat) (pre : List Str) (items : List IccmaItem) (post : List Str)
    (finalNl : Bool) (hn : n ≤ 9223372036854775807)
    (hpre : ∀ t ∈ pre, LineOk (35 :: t)) (hit : ∀ it ∈ items, it.Ok n)
    (hpost : ∀ t ∈ post, TrailOk t) (hlast : finalNl = false → post.getLast? ≠ some []) :
    readIccma (encodeUtf8 (joinLines
        (pre.map (fun t => 35 :: t) ++ (iccmaHeader n :: (items.map IccmaItem.line ++ post))) finalNl)) =
      .ok ⟨n, itemAtts items⟩ := by
  unfold readIccma
  rw [lines_joinLines _ _ (by simp)]
  · rw [List.map_append, foldLines_append, foldLines_comments]
    simp only [List.map_cons, foldLines]
    rw [iccmaLine_header n hn]
    simp only
    rw [List.map_append, foldLines_append, foldLines_items n hn items hit []]
    simp only
    obtain ⟨b, hb⟩ := foldLines_trailing
      { af := some ⟨n, [] ++ itemAtts items⟩, foundEmpty := false } post hpost
    rw [hb]
    simp
  · exact List.forall_mem_append.2 ⟨List.forall_mem_map.2 hpre, List.forall_mem_cons.2
      ⟨lineOk_of_printable _ (iccmaHeader_printable n), List.forall_mem_append.2
        ⟨List.forall_mem_map.2 fun it hi => (hit it hi).lineOk, fun t ht => (hpost t ht).lineOk⟩⟩⟩
  · -- the last line is the last of `post`, or, without `post`, one of the non-empty lines before
    intro hnl hl
    rw [← List.cons_append, ← List.append_assoc, List.getLast?_append] at hl
    cases hp : post.getLast? with
    | some x => rw [hp] at hl; exact hlast hnl (hp.trans hl)
    | none =>
      rw [hp, Option.none_or] at hl
      have hne : ∀ l ∈ pre.map (fun t => 35 :: t) ++ iccmaHeader n :: items.map IccmaItem.line, l ≠ [] :=
        List.forall_mem_append.2 ⟨List.forall_mem_map.2 fun _ _ => List.cons_ne_nil _ _,
          List.forall_mem_cons.2 ⟨iccmaHeader_ne_nil n,
            List.forall_mem_map.2 fun it _ => IccmaItem.line_ne_nil it⟩⟩
      exact hne [] (List.mem_of_getLast? hl) rfl

theorem joinLines_true (hd : Str) (ls : List Str) :
    joinLines (hd :: ls) true = hd ++ [10] ++ ls.flatMap (fun l => l ++ [10]) := by
  unfold joinLines
  induction ls generalizing hd with
  | nil => simp [intercalate]
  | cons l ls ih =>
    have := ih l
    simp only [if_true, intercalate, List.flatMap_cons, List.append_assoc] at this ⊢
    rw [this]

theorem read_render_iccma_comments (n : Nat) (items : List IccmaItem)
    (hn : n ≤ 9223372036854775807) (hit : ∀ it ∈ items, it.Ok n) :
    readIccma (encodeUtf8 (iccmaHeader n ++ [10] ++ items.flatMap (fun it => it.line ++ [10]))) =
      .ok ⟨n, itemAtts items⟩ := by
  have := read_render_iccma_general n [] items [] true hn (by simp) hit (by simp) (by simp)
  simp only [List.map_nil, List.nil_append, List.append_nil, joinLines_true, List.flatMap_map] at this
  exact this

theorem itemAtts_map_att (atts : List (Nat × Nat)) : itemAtts (atts.map .att) = atts := by
  induction atts with
  | nil => rfl
  | cons p ps ih => rw [List.map_cons, itemAtts, ih]

/-- the identifiers of the Aspartix reader (`scanName`): a letter or `_`, then letters, `_` and
decimal digits (`\d` of the regex crate: every Unicode decimal digit, not only ASCII) -/
def ValidId (l : Str) : Prop :=
  (∃ c cs, l = c :: cs ∧ isIdStart c = true) ∧ ∀ c ∈ l, isIdChar c = true

theorem isIdChar_props (c : Nat) (h : isIdChar c = true) : Scalar c ∧ isWs c = false ∧ 48 ≤ c :=
  have hr := isIdChar_range c h
  ⟨hr.2, isIdChar_not_isWs c h, hr.1⟩

theorem ValidId.idSp {l : Str} (hv : ValidId l) : RxApx.IdSp l l := by
  obtain ⟨⟨c, cs, rfl, hc⟩, hall⟩ := hv
  exact ⟨[], c, cs, [], by rw [List.append_nil, List.nil_append], rfl, hc,
    List.all_eq_true.2 fun d hd => hall d (List.mem_cons_of_mem _ hd), rfl, rfl⟩

theorem validId_of_idSp {g id : Str} (h : RxApx.IdSp g id) : ValidId id := by
  obtain ⟨u, c, ds, v, _, _, hc, hds, _, rfl⟩ := h
  refine ⟨⟨c, ds, rfl, hc⟩, fun d hd => ?_⟩
  rcases List.mem_cons.1 hd with rfl | hd
  · exact isIdStart_isIdChar _ hc
  · exact List.all_eq_true.1 hds d hd

def apxArgLine (l : Str) : Str := strOf "arg(" ++ l ++ strOf ")."
def apxAttLine (p : Str × Str) : Str := strOf "att(" ++ p.1 ++ [44] ++ p.2 ++ strOf ")."

theorem strOf_close : strOf ")." = [41, 46] := by decide +kernel
theorem strOf_close_nl : strOf ").\n" = [41, 46, 10] := by decide +kernel

theorem matchArg_line (l : Str) (hv : ValidId l) : matchArg (apxArgLine l) = some l :=
  (RxApx.matchArg_nf _ _).2 ⟨l, 46, [], [],
    by rw [apxArgLine, strOf_arg, strOf_close, List.append_assoc]; rfl, rfl, hv.idSp, rfl⟩

theorem matchAtt_line (a b : Str) (ha : ValidId a) (hb : ValidId b) :
    matchAtt (apxAttLine (a, b)) = some (a, b) :=
  (RxApx.matchAtt_nf _ _ _).2 ⟨a, b, 46, [], [],
    by simp only [apxAttLine, strOf_att, strOf_close, List.append_assoc]; rfl, rfl, ha.idSp, hb.idSp, rfl⟩

/-- an attack line is not an argument line: after `a` comes `t`, not `r` -/
theorem matchArg_attLine (p : Str × Str) : matchArg (apxAttLine p) = none := by
  rw [apxAttLine, strOf_att]
  show matchArg (97 :: 116 :: _) = none
  rw [matchArg, List.dropWhile_cons_of_neg (by rw [isWs_97]; decide)]
  rfl

theorem idxOf_getD (labels : List Str) (hnd : labels.Nodup) (i : Nat) (hi : i < labels.length) :
    idxOf labels (labels.getD i []) = some i :=
  findIdx?_beq_of_nodup hnd (by rw [List.getD_eq_getElem?_getD, List.getElem?_eq_getElem hi]; rfl)

theorem apxArgLine_notBlank (l : Str) : (apxArgLine l).all isWs = false := by
  simp [apxArgLine, strOf_arg, isWs_97]

theorem apxAttLine_notBlank (p : Str × Str) : (apxAttLine p).all isWs = false := by
  simp [apxAttLine, strOf_att, isWs_97]

theorem apxLine_arg (labs : List Str) (l : Str) (hv : ValidId l) :
    apxLine { labels := labs, af := none } (some (apxArgLine l)) = .ok { labels := labs ++ [l], af := none } :=
  apxLine_iff.2 ⟨_, rfl, .inr (.inl ⟨apxArgLine_notBlank l, l, matchArg_line l hv, rfl, rfl⟩)⟩

theorem foldLines_args (labels : List Str) (hv : ∀ l ∈ labels, ValidId l) (pre : List Str) :
    foldLines apxLine { labels := pre, af := none } ((labels.map apxArgLine).map some) =
      .ok { labels := pre ++ labels, af := none } := by
  induction labels generalizing pre with
  | nil => simp [foldLines]
  | cons l ls ih =>
    simp only [List.map_cons, foldLines]
    rw [apxLine_arg pre l (hv l (List.mem_cons_self ..))]
    simp only
    rw [ih (fun x hx => hv x (List.mem_cons_of_mem _ hx))]
    simp

theorem apxLine_att (st : ApxSt) (labels : List Str) (pre : List (Nat × Nat)) (p : Nat × Nat)
    (hv : ∀ l ∈ labels, ValidId l) (hnd : labels.Nodup)
    (hp : p.1 < labels.length ∧ p.2 < labels.length) (hfw : st.fw = ⟨labels, pre⟩) (hnew : p ∉ pre) :
    ∃ st', apxLine st (some (apxAttLine (labels.getD p.1 [], labels.getD p.2 []))) = .ok st' ∧
      st'.fw = ⟨labels, pre ++ [p]⟩ := by
  have hl : st.fw.labels = labels := congrArg ApxFw.labels hfw
  refine ⟨_, apxLine_iff.2 ⟨_, rfl, .inr (.inr ⟨apxAttLine_notBlank _, matchArg_attLine _, _, _, p.1, p.2,
    matchAtt_line _ _ (hv _ (getD_mem [] hp.1)) (hv _ (getD_mem [] hp.2)),
    hl ▸ idxOf_getD labels hnd _ hp.1, hl ▸ idxOf_getD labels hnd _ hp.2, rfl⟩)⟩, ?_⟩
  show (if st.fw.atts.contains (p.1, p.2) = true then st.fw else _) = _
  rw [hfw, if_neg (mt List.contains_iff_mem.1 hnew)]

theorem foldLines_apxAtts (labels : List Str) (hv : ∀ l ∈ labels, ValidId l) (hnd : labels.Nodup)
    (atts : List (Nat × Nat)) (ha : ∀ p ∈ atts, p.1 < labels.length ∧ p.2 < labels.length)
    (pre : List (Nat × Nat)) (hand : (pre ++ atts).Nodup) (st : ApxSt) (hfw : st.fw = ⟨labels, pre⟩) :
    ∃ st', foldLines apxLine st
        (((atts.map (fun p => (labels.getD p.1 [], labels.getD p.2 []))).map apxAttLine).map some) = .ok st' ∧
      st'.fw = ⟨labels, pre ++ atts⟩ := by
  induction atts generalizing pre st with
  | nil => exact ⟨st, by simp [foldLines], by simpa using hfw⟩
  | cons p ps ih =>
    have hnew : p ∉ pre := by
      intro hm
      exact (List.nodup_append.1 hand).2.2 p hm p (List.mem_cons_self ..) rfl
    obtain ⟨st1, h1, hfw1⟩ := apxLine_att st labels pre p hv hnd (ha p (List.mem_cons_self ..)) hfw hnew
    obtain ⟨st2, h2, hfw2⟩ := ih (fun q hq => ha q (List.mem_cons_of_mem _ hq)) (pre ++ [p])
      (by simpa using hand) st1 hfw1
    refine ⟨st2, ?_, by simpa using hfw2⟩
    simp only [List.map_cons, foldLines, h1]
    exact h2

theorem validId_ge32 (l : Str) (hv : ValidId l) : ∀ c ∈ l, Scalar c ∧ 32 ≤ c := fun c hc =>
  have := isIdChar_props c (hv.2 c hc)
  ⟨this.1, Nat.le_trans (by decide) this.2.2⟩

/-- for any label made of scalar values from the space on: identifiers and numerals alike -/
theorem apxArgLine_ok (l : Str) (h : ∀ c ∈ l, Scalar c ∧ 32 ≤ c) : LineOk (apxArgLine l) :=
  lineOk_of_ge32 _ (List.forall_mem_append.2 ⟨List.forall_mem_append.2
    ⟨ge32_of_printable _ (by decide), h⟩, ge32_of_printable _ (by decide)⟩)

theorem apxAttLine_ok (a b : Str) (ha : ∀ c ∈ a, Scalar c ∧ 32 ≤ c) (hb : ∀ c ∈ b, Scalar c ∧ 32 ≤ c) :
    LineOk (apxAttLine (a, b)) :=
  lineOk_of_ge32 _ (List.forall_mem_append.2 ⟨List.forall_mem_append.2 ⟨List.forall_mem_append.2
    ⟨List.forall_mem_append.2 ⟨ge32_of_printable _ (by decide), ha⟩,
      ge32_of_printable _ (by decide)⟩, hb⟩, ge32_of_printable _ (by decide)⟩)

theorem writeApx_eq (labels : List Str) (atts : List (Str × Str)) :
    writeApx labels atts = unlines (labels.map apxArgLine ++ atts.map apxAttLine) := by
  simp [unlines, writeApx, apxArgLine, apxAttLine, strOf_close_nl, strOf_close, List.flatMap_map]

/-- **Aspartix write/read round trip**: a framework whose labels are pairwise distinct
identifiers, written by `writeApx`, reads back with the same labels in the same order and the same
attacks in the same order -/
theorem apx_write_read (labels : List Str) (atts : List (Nat × Nat))
    (hv : ∀ l ∈ labels, ValidId l) (hnd : labels.Nodup)
    (ha : ∀ p ∈ atts, p.1 < labels.length ∧ p.2 < labels.length) (hand : atts.Nodup) :
    readApx (encodeUtf8 (writeApx labels (atts.map (fun p => (labels.getD p.1 [], labels.getD p.2 [])))))
      = .ok ⟨labels, atts⟩ := by
  unfold readApx
  rw [writeApx_eq, lines_encode_unlines]
  · rw [List.map_append, foldLines_append, foldLines_args labels hv []]
    simp only [List.nil_append]
    obtain ⟨st', h1, h2⟩ := foldLines_apxAtts labels hv hnd atts ha [] (by simpa using hand)
      { labels := labels, af := none } (by simp [ApxSt.fw, dedup_eq_self labels hnd])
    rw [h1]
    obtain ⟨labs, af⟩ := st'
    cases af <;> exact congrArg Except.ok h2
  · exact List.forall_mem_append.2 ⟨List.forall_mem_map.2 fun x hx => apxArgLine_ok x (validId_ge32 x (hv x hx)),
      List.forall_mem_map.2 (List.forall_mem_map.2 fun p hp => apxAttLine_ok _ _
        (validId_ge32 _ (hv _ (getD_mem [] (ha p hp).1)))
        (validId_ge32 _ (hv _ (getD_mem [] (ha p hp).2))))⟩

/-- every label the reader can produce is a `ValidId`: the hypothesis of the round trip is exactly
the reader's label language -/
theorem matchArg_validId (l id : Str) (h : matchArg l = some id) : ValidId id := by
  obtain ⟨g, x, w1, w2, _, _, hid, _⟩ := (RxApx.matchArg_nf l id).1 h
  exact validId_of_idSp hid

/-- non-vacuity beyond ASCII: `a٠` (U+0061 U+0660, an Arabic-Indic digit) is an identifier -/
example : ValidId [97, 1632] := ⟨⟨97, [1632], rfl, by decide⟩, by decide⟩

example : readApx (encodeUtf8 (writeApx [[97, 1632], [98]] [([98], [97, 1632])])) =
    .ok ⟨[[97, 1632], [98]], [(1, 0)]⟩ :=
  apx_write_read [[97, 1632], [98]] [(1, 0)]
    (by
      intro l hl
      simp only [List.mem_cons, List.not_mem_nil, or_false] at hl
      rcases hl with rfl | rfl
      · exact ⟨⟨97, [1632], rfl, by decide⟩, by decide⟩
      · exact ⟨⟨98, [], rfl, by decide⟩, by decide⟩)
    (by decide) (by decide) (by decide)

theorem natToStr_inj (a b : Nat) (h : natToStr a = natToStr b) : a = b := by
  rw [← digitsVal_natToStr a, ← digitsVal_natToStr b, h]

theorem isDigitU_ascii (c : Nat) (h : 48 ≤ c ∧ c ≤ 57) : isDigitU c = true :=
  (inRanges_iff _ _).2 ⟨(48, 57), .head _, h⟩

theorem isIdChar_digit (c : Nat) (h : 48 ≤ c ∧ c ≤ 57) : isIdChar c = true := by
  simp [isIdChar, isDigitU_ascii c h]

theorem not_isIdStart_digit (c : Nat) (h : 48 ≤ c ∧ c ≤ 57) : isIdStart c = false := by
  rw [Bool.eq_false_iff]
  intro hc
  simp only [isIdStart, isAlphaA, Bool.or_eq_true, Bool.and_eq_true, decide_eq_true_eq, beq_iff_eq] at hc
  omega

theorem validId_prefixed (pfx : Str) (hp : ValidId pfx) (n : Nat) : ValidId (pfx ++ natToStr n) := by
  obtain ⟨⟨c, cs, rfl, hc⟩, hall⟩ := hp
  refine ⟨⟨c, cs ++ natToStr n, rfl, hc⟩, ?_⟩
  intro d hd
  rcases List.mem_append.1 hd with hd | hd
  · exact hall d hd
  · exact isIdChar_digit d (natToStr_digits n d hd)

theorem prefixed_inj (pfx : Str) (a b : Nat) (h : pfx ++ natToStr a = pfx ++ natToStr b) : a = b :=
  natToStr_inj a b (List.append_cancel_left h)

theorem validId_a : ValidId (strOf "a") := ⟨⟨97, [], by decide, by decide⟩, by decide⟩

/-- a decimal numeral is **not** an identifier of the Aspartix reader (its first character is a
digit, the pattern is `[_[:alpha:]][_[:alpha:]\d]*`) -/
theorem not_validId_natToStr (n : Nat) : ¬ ValidId (natToStr n) := by
  rintro ⟨⟨c, cs, e, hc⟩, _⟩
  rw [not_isIdStart_digit c (natToStr_digits n c (e ▸ List.mem_cons_self))] at hc
  cases hc

theorem dropPrefix_arg (r : Str) : dropPrefix (strOf "arg(") ((strOf "arg(" ++ r).dropWhile isWs) = some r := by
  rw [strOf_arg]; rfl

theorem dropPrefix_att_arg (r : Str) : dropPrefix (strOf "att(") ((strOf "arg(" ++ r).dropWhile isWs) = none := by
  rw [strOf_att, strOf_arg]; rfl

theorem apxLine_badStart (st : ApxSt) (c : Nat) (cs : Str) (hcw : isWs c = false) (hci : isIdStart c = false) :
    apxLine st (some (apxArgLine (c :: cs))) = .error "syntax error" := by
  have h1 : matchArg (apxArgLine (c :: cs)) = none := by
    unfold matchArg apxArgLine
    rw [List.append_assoc, dropPrefix_arg]
    simp [scanName, hcw, hci]
  have h2 : matchAtt (apxArgLine (c :: cs)) = none := by
    unfold matchAtt apxArgLine
    rw [List.append_assoc, dropPrefix_att_arg]
  unfold apxLine
  simp only [apxArgLine_notBlank, h1, h2, Bool.false_eq_true, if_false]

theorem apxLine_numeral (st : ApxSt) (n : Nat) :
    apxLine st (some (apxArgLine (natToStr n))) = .error "syntax error" := by
  obtain ⟨c, cs, hs, hd⟩ := natToStr_cons n
  rw [hs]
  exact apxLine_badStart st c cs (isWs_false_of c ⟨Nat.le_trans (by decide) hd.1, Nat.le_trans hd.2 (by decide)⟩)
    (not_isIdStart_digit c hd)

theorem apx_numerals_rejected {α β : Type} (x : α) (xs : List α) (f : α → Nat) (atts : List β)
    (g h : β → Nat) :
    readApx (encodeUtf8 (writeApx ((x :: xs).map fun p => natToStr (f p))
        (atts.map fun p => (natToStr (g p), natToStr (h p))))) = .error "syntax error" := by
  unfold readApx
  rw [writeApx_eq, lines_encode_unlines]
  · simp only [List.map_cons, List.cons_append, foldLines, apxLine_numeral]
  · have hn := fun n => ge32_of_printable _ (natToStr_printable n)
    exact List.forall_mem_append.2
      ⟨List.forall_mem_map.2 (List.forall_mem_map.2 fun _ _ => apxArgLine_ok _ (hn _)),
        List.forall_mem_map.2 (List.forall_mem_map.2 fun _ _ => apxAttLine_ok _ _ (hn _) (hn _))⟩

end Crusta.IO
