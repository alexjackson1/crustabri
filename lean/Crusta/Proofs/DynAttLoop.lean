import Crusta.Model.DynAtt
import Crusta.Proofs.Wp

/-!
# The re-encoding loops of the attack-assumption encoder, at the level of the SAT interface

`auxLoop` / `rowLoop` ask the solver for `n_vars()` before every cell; on a solver whose `n_vars`
is `N` when a loop starts the auxiliary variables are therefore `N + 1, N + 2, …` — *provided*
every other variable of the emitted clauses is at most `N` (this is what `reserve` is for).  The
theorems below say, as `Emits k w w' m F`, by how much `n_vars` has gone up and which clauses the solver has
received after the loops.
-/

namespace Crusta.DynAtt
open Crusta Prog

@[simp] theorem len_onNVars (w : World) (k : Nat) : (w.onNVars k).solvers.length = w.solvers.length := rfl

theorem len_onReserve (w : World) (k n : Nat) :
    (w.onReserve k n).solvers.length = w.solvers.length := Crusta.len_onReserve w k n

theorem len_onNew (w : World) : w.onNew.solvers.length = w.solvers.length + 1 := Crusta.len_onNew w

theorem litsMax_le {c : List Lit} {M : Nat} (h : ∀ l ∈ c, l.var ≤ M) : litsMax c ≤ M := by
  unfold litsMax
  have : ∀ (c : List Lit) (m : Nat), m ≤ M → (∀ l ∈ c, l.var ≤ M) →
      c.foldl (fun m x => max m x.var) m ≤ M := by
    intro c
    induction c with
    | nil => intro m hm _; exact hm
    | cons a t ih =>
      intro m hm hc
      exact ih _ (Nat.max_le.2 ⟨hm, hc a List.mem_cons_self⟩) fun l hl => hc l (List.mem_cons_of_mem _ hl)
  exact this c 0 (Nat.zero_le _) h

theorem nVarsOf_onClause (w : World) (k : Nat) (c : Clause) (hk : k < w.solvers.length) :
    (w.onClause k c).nVarsOf k = max (w.nVarsOf k) (litsMax c) := by
  show (w.upd k fun st => { st with maxVar := max st.maxVar (litsMax c) }).nVarsOf k = _
  rw [nVarsOf_upd, if_pos ⟨rfl, hk⟩]
  show max (max _ _) _ = max (max _ _) _
  rw [Nat.max_assoc, Nat.max_comm (litsMax c), ← Nat.max_assoc]

theorem nVarsOf_onReserve (w : World) (k n : Nat) (hk : k < w.solvers.length) :
    (w.onReserve k n).nVarsOf k = max (w.nVarsOf k) n := by
  show (w.upd k fun st => { st with reserved := max st.reserved n }).nVarsOf k = _
  rw [nVarsOf_upd, if_pos ⟨rfl, hk⟩]
  exact (Nat.max_assoc _ _ _).symm

theorem nVarsOf_onNew_self (w : World) : w.onNew.nVarsOf w.solvers.length = 0 := by
  simp [World.onNew, World.nVarsOf, SolverSt.nVars, List.getD_eq_getElem?_getD]

/-- `w'` is `w` after solver `k` has received the clauses `F` (in this order) and its `n_vars` has
gone up by `m` -/
structure Emits (k : Nat) (w w' : World) (m : Nat) (F : Cnf) : Prop where
  len : w'.solvers.length = w.solvers.length
  nv : w'.nVarsOf k = w.nVarsOf k + m
  db : w'.db k = F.reverse ++ w.db k

theorem Emits.refl (k : Nat) (w : World) : Emits k w w 0 [] := ⟨rfl, rfl, rfl⟩

theorem Emits.trans {k : Nat} {w w1 w2 : World} {m1 m2 : Nat} {F1 F2 : Cnf} (h1 : Emits k w w1 m1 F1)
    (h2 : Emits k w1 w2 m2 F2) : Emits k w w2 (m1 + m2) (F1 ++ F2) :=
  ⟨h2.len.trans h1.len, by rw [h2.nv, h1.nv, Nat.add_assoc],
    by rw [h2.db, h1.db, List.reverse_append, List.append_assoc]⟩

/-- a batch of clauses none of whose variables exceeds `n_vars() + m`.  The last hypothesis makes `n_vars`
go up by exactly `m`: `m = 0` for the clauses without a fresh variable (those emitted before the inner loop,
the long clause), and for a cell (`m = 1`) its auxiliary variable occurs in it -/
theorem emits_addAll {k : Nat} (m : Nat) : ∀ (F : Cnf) {w : World}, k < w.solvers.length →
    (∀ c ∈ F, ∀ l ∈ c, l.var ≤ w.nVarsOf k + m) →
    (m = 0 ∨ ∃ c ∈ F, ∃ l ∈ c, l.var = w.nVarsOf k + m) → Emits k w (addAllS k w F) m F := by
  -- `n_vars` after the batch is the maximum of `n_vars` before and the variables of the batch
  have key : ∀ (F : Cnf) (w : World), k < w.solvers.length →
      ∀ M, (addAllS k w F).nVarsOf k ≤ M ↔ w.nVarsOf k ≤ M ∧ ∀ c ∈ F, ∀ l ∈ c, l.var ≤ M := by
    intro F
    induction F with
    | nil => intro w _ M; exact ⟨fun h => ⟨h, nofun⟩, fun h => h.1⟩
    | cons c cs ih =>
      intro w hk M
      rw [addAllS_cons, ih _ (by rw [len_onClause]; exact hk), nVarsOf_onClause _ _ _ hk, Nat.max_le,
        List.forall_mem_cons, and_assoc]
      exact and_congr_right fun _ => and_congr_left fun _ =>
        ⟨fun h l hl => Nat.le_trans (litsMax_ge hl) h, litsMax_le⟩
  intro F w hk hle hge
  have h3 := key F w hk
  refine ⟨solvers_len_addAllS k F w, Nat.le_antisymm ((h3 _).2 ⟨Nat.le_add_right _ _, hle⟩) ?_,
    (db_addAllS k k F w).trans (if_pos rfl)⟩
  rcases hge with rfl | ⟨c, hc, l, hl, hv⟩
  · exact ((h3 _).1 (Nat.le_refl _)).1
  · rw [← hv]; exact ((h3 _).1 (Nat.le_refl _)).2 c hc l hl

/-- clauses emitted by the inner loop over `as` started with `n_vars() = N` (emission order) -/
def emitted (cell : Nat → Nat → Cnf) : List Nat → Nat → Cnf
  | [], _ => []
  | a :: rest, N => cell a (N + 1) ++ emitted cell rest (N + 1)

def auxLits : Nat → Nat → Clause
  | 0, _ => []
  | m + 1, N => pl (N + 1) :: auxLits m (N + 1)

/-- a cell with auxiliary variable `u + 1` mentions `u + 1` and nothing larger, whenever `B ≤ u` -/
def CellOK (cell : Nat → Nat → Cnf) (as : List Nat) (B : Nat) : Prop :=
  ∀ a ∈ as, ∀ u, B ≤ u →
    (∀ c ∈ cell a (u + 1), ∀ l ∈ c, l.var ≤ u + 1) ∧ (∃ c ∈ cell a (u + 1), ∃ l ∈ c, l.var = u + 1)

theorem wp_auxLoop {C : Prop} (k : Nat) (cell : Nat → Nat → Cnf) (B : Nat) :
    ∀ (as : List Nat) (acc : Clause) (w : World) (Q : Clause → World → Prop),
      k < w.solvers.length → B ≤ w.nVarsOf k → CellOK cell as B →
      (∀ w' : World, Emits k w w' as.length (emitted cell as (w.nVarsOf k)) →
          Q (acc ++ auxLits as.length (w.nVarsOf k)) w') →
      wp C (auxLoop k cell as acc) w Q := by
  intro as
  induction as with
  | nil =>
    intro acc w Q _ _ _ h
    have := h w (Emits.refl k w)
    rwa [show auxLits ([] : List Nat).length (w.nVarsOf k) = [] from rfl, List.append_nil] at this
  | cons a rest ih =>
    intro acc w Q hk hB hcell h
    show wp C ((addClauses k (cell a (w.nVarsOf k + 1))).bind fun _ =>
      auxLoop k cell rest (acc ++ [pl (w.nVarsOf k + 1)])) (w.onNVars k) Q
    rw [wp_bind, wp_addClausesS]
    obtain ⟨hc1, hc0⟩ := hcell a List.mem_cons_self (w.nVarsOf k) hB
    -- `n_vars()` leaves the world alone but for the trace; the cell then moves `n_vars` up by one
    have h1 : Emits k w (addAllS k (w.onNVars k) (cell a (w.nVarsOf k + 1))) 1 (cell a (w.nVarsOf k + 1)) :=
      let e := emits_addAll (w := w.onNVars k) 1 _ hk hc1 (Or.inr hc0)
      ⟨e.len, e.nv, by rw [e.db, db_onNVars]⟩
    generalize addAllS k (w.onNVars k) (cell a (w.nVarsOf k + 1)) = w1 at h1 ⊢
    refine ih _ w1 Q (h1.len ▸ hk) (by rw [h1.nv]; exact Nat.le_succ_of_le hB)
      (fun a' ha' => hcell a' (List.mem_cons_of_mem _ ha')) fun w' h2 => ?_
    rw [h1.nv] at h2 ⊢
    have h12 := h1.trans h2
    rw [Nat.add_comm] at h12
    rw [List.append_assoc]
    exact h w' h12

theorem mem_emitted (cell : Nat → Nat → Cnf) (c : Clause) : ∀ (as : List Nat) (N : Nat),
    c ∈ emitted cell as N ↔ ∃ j, ∃ h : j < as.length, c ∈ cell as[j] (N + 1 + j) := by
  intro as
  induction as with
  | nil => intro N; exact ⟨nofun, fun ⟨_, h, _⟩ => nomatch h⟩
  | cons a rest ih =>
    intro N
    show c ∈ cell a (N + 1) ++ emitted cell rest (N + 1) ↔ _
    rw [List.mem_append, ih]
    have e : ∀ j, N + 1 + (j + 1) = N + 1 + 1 + j := fun j => by omega
    constructor
    · rintro (h | ⟨j, hj, h⟩)
      · exact ⟨0, Nat.succ_pos _, h⟩
      · exact ⟨j + 1, Nat.succ_lt_succ hj, by rw [e]; exact h⟩
    · rintro ⟨j, hj, h⟩
      cases j with
      | zero => exact Or.inl h
      | succ j => exact Or.inr ⟨j, Nat.lt_of_succ_lt_succ hj, by rw [← e]; exact h⟩

theorem mem_auxLits (l : Lit) : ∀ (m N : Nat), l ∈ auxLits m N ↔ ∃ j, j < m ∧ l = pl (N + 1 + j) := by
  intro m
  induction m with
  | zero => intro N; exact ⟨nofun, fun ⟨_, h, _⟩ => nomatch h⟩
  | succ m ih =>
    intro N
    show l ∈ pl (N + 1) :: auxLits m (N + 1) ↔ _
    rw [List.mem_cons, ih, Nat.exists_lt_succ_left]
    exact or_congr Iff.rfl (exists_congr fun j => and_congr_right fun _ => by
      rw [show N + 1 + (j + 1) = N + 1 + 1 + j by omega])

/-- the variables `1..n`, as the model's loops write them -/
def range1 (n : Nat) : List Nat := (List.range n).map (· + 1)

theorem mem_range1 {n x : Nat} : x ∈ range1 n ↔ ∃ i, i < n ∧ x = i + 1 := by
  simp only [range1, List.mem_map, List.mem_range]
  constructor
  · rintro ⟨i, hi, rfl⟩; exact ⟨i, hi, rfl⟩
  · rintro ⟨i, hi, rfl⟩; exact ⟨i, hi, rfl⟩

@[simp] theorem range1_length (n : Nat) : (range1 n).length = n := by simp [range1]

theorem range1_get (n i : Nat) (h : i < (range1 n).length) : (range1 n)[i] = i + 1 := by
  simp [range1]

/-- clauses emitted by the outer loop over `xs` started with `n_vars() = N` (emission order) -/
def rowsEmitted (n : Nat) (pre : Nat → Cnf) (head : Nat → Lit) (cell : Nat → Nat → Nat → Cnf) :
    List Nat → Nat → Cnf
  | [], _ => []
  | x :: rest, N =>
    pre x ++ emitted (cell x) (range1 n) N ++ [head x :: auxLits n N] ++
      rowsEmitted n pre head cell rest (N + n)

/-- `B`: the reserved bound — every variable of the emitted clauses other than the auxiliary ones is at most
`B`, and `n_vars` is at least `B` when the loop starts -/
theorem wp_rowLoop {C : Prop} (k n : Nat) (pre : Nat → Cnf) (head : Nat → Lit)
    (cell : Nat → Nat → Nat → Cnf) (B : Nat) :
    ∀ (xs : List Nat) (w : World) (Q : Unit → World → Prop),
      k < w.solvers.length → B ≤ w.nVarsOf k →
      (∀ x ∈ xs, (∀ c ∈ pre x, ∀ l ∈ c, l.var ≤ B) ∧ (head x).var ≤ B ∧
        CellOK (cell x) (range1 n) B) →
      (∀ w' : World, Emits k w w' (xs.length * n) (rowsEmitted n pre head cell xs (w.nVarsOf k)) → Q () w') →
      wp C (rowLoop k n pre head cell xs) w Q := by
  intro xs
  induction xs with
  | nil => intro w Q _ _ _ h; exact h w (Nat.zero_mul n ▸ Emits.refl k w)
  | cons x rest ih =>
    intro w Q hk hB hx h
    obtain ⟨hpre, hhead, hcell⟩ := hx x List.mem_cons_self
    show wp C ((addClauses k (pre x)).bind fun _ => (auxLoop k (cell x) (range1 n) [head x]).bind fun c =>
      Prog.clause k c (rowLoop k n pre head cell rest)) w Q
    rw [wp_bind, wp_addClausesS, wp_bind]
    -- the clauses emitted before the inner loop do not move `n_vars`
    have h0 : Emits k w (addAllS k w (pre x)) 0 (pre x) :=
      emits_addAll 0 _ hk (fun c hc l hl => Nat.le_trans (hpre c hc l hl) hB) (Or.inl rfl)
    refine wp_auxLoop k (cell x) B (range1 n) _ _ _ (h0.len ▸ hk) (by rw [h0.nv]; exact hB) hcell fun w1 h1 => ?_
    rw [h0.nv, Nat.add_zero, range1_length] at h1 ⊢
    have h01 := h0.trans h1
    -- nor does the long clause: its variables are `head x` and the `n` auxiliary ones
    have h2 : Emits k w1 (w1.onClause k ([head x] ++ auxLits n (w.nVarsOf k))) 0 [_] :=
      emits_addAll 0 [_] (h01.len ▸ hk) (fun c hc l hl => by
        rw [List.mem_singleton.1 hc] at hl
        rw [h01.nv]
        rcases List.mem_cons.1 hl with rfl | hl
        · exact Nat.le_trans hhead (Nat.le_trans hB (Nat.le_add_right _ _))
        · obtain ⟨j, hj, rfl⟩ := (mem_auxLits l n _).1 hl
          show w.nVarsOf k + 1 + j ≤ _
          omega) (Or.inl rfl)
    have h012 := h01.trans h2
    refine ih (w1.onClause k _) Q (h012.len ▸ hk) (h012.nv ▸ Nat.le_trans hB (Nat.le_add_right _ _))
      (fun x' hx' => hx x' (List.mem_cons_of_mem _ hx')) fun w' h3 => h w' ?_
    rw [h012.nv] at h3
    have := h012.trans h3
    rwa [Nat.zero_add, Nat.add_zero, Nat.add_comm n, ← Nat.succ_mul] at this

theorem rowLoop_wp {C : Prop} (k n : Nat) (pre : Nat → Cnf) (head : Nat → Lit)
    (cell : Nat → Nat → Nat → Cnf) (B : Nat) :
    ∀ (xs : List Nat) (w : World) (Q : Unit → World → Prop),
      k < w.solvers.length → B ≤ w.nVarsOf k →
      (∀ x ∈ xs, (∀ c ∈ pre x, ∀ l ∈ c, l.var ≤ B) ∧ (head x).var ≤ B ∧
        CellOK (cell x) (range1 n) B) →
      (∀ w' : World, w'.solvers.length = w.solvers.length →
          w'.nVarsOf k = w.nVarsOf k + xs.length * n →
          w'.db k = (rowsEmitted n pre head cell xs (w.nVarsOf k)).reverse ++ w.db k →
          Q () w') →
      wp C (rowLoop k n pre head cell xs) w Q :=
  fun xs w Q hk hB hx h => wp_rowLoop k n pre head cell B xs w Q hk hB hx fun w' e => h w' e.len e.nv e.db

theorem mem_rowsEmitted (n : Nat) (pre : Nat → Cnf) (head : Nat → Lit) (cell : Nat → Nat → Nat → Cnf)
    (c : Clause) : ∀ (xs : List Nat) (N : Nat),
    c ∈ rowsEmitted n pre head cell xs N ↔
      ∃ i, ∃ h : i < xs.length, c ∈ pre xs[i] ∨ c ∈ emitted (cell xs[i]) (range1 n) (N + i * n) ∨
        c = head xs[i] :: auxLits n (N + i * n) := by
  intro xs
  induction xs with
  | nil => intro N; exact ⟨nofun, fun ⟨_, h, _⟩ => nomatch h⟩
  | cons x rest ih =>
    intro N
    show c ∈ pre x ++ emitted (cell x) (range1 n) N ++ [head x :: auxLits n N] ++
      rowsEmitted n pre head cell rest (N + n) ↔ _
    rw [List.mem_append, List.mem_append, List.mem_append, List.mem_singleton, ih]
    have e : ∀ i, N + (i + 1) * n = N + n + i * n := fun i => by rw [Nat.succ_mul]; omega
    constructor
    · rintro (((h | h) | h) | ⟨i, hi, h⟩)
      · exact ⟨0, Nat.succ_pos _, Or.inl h⟩
      · exact ⟨0, Nat.succ_pos _, Or.inr (Or.inl (by rwa [Nat.zero_mul]))⟩
      · exact ⟨0, Nat.succ_pos _, Or.inr (Or.inr (by rwa [Nat.zero_mul]))⟩
      · exact ⟨i + 1, Nat.succ_lt_succ hi, by rw [e]; exact h⟩
    · rintro ⟨i, hi, h⟩
      cases i with
      | zero =>
        rw [Nat.zero_mul] at h
        rcases h with h | h | h
        · exact Or.inl (Or.inl (Or.inl h))
        · exact Or.inl (Or.inl (Or.inr h))
        · exact Or.inl (Or.inr h)
      | succ i => exact Or.inr ⟨i, Nat.lt_of_succ_lt_succ hi, by rw [← e]; exact h⟩

end Crusta.DynAtt
