import Crusta.Proofs.DynAttLoop

/-!
# What a re-encoding of the attack-assumption encoder gives the (new) SAT solver

`EncSpec sem n c` describes, in closed form, the clauses emitted by
`update_encoding_for_{stable,complete}_semantics` for `n = n_arg_vars`: the auxiliary variable of
the cell (argument variable `i+1`, attacker variable `j+1`) of a pass started at `n_vars() = N` is
`N + i*n + 1 + j`.  `updateEncoding_wp`: after `update_encoding` (when an encoding is due) the shared
cell holds a **new** solver whose clause database is exactly `EncSpec`.
-/

namespace Crusta.DynAtt
open Crusta Prog Crusta.Dyn

/-! The variables of an encoding with `n = n_arg_vars`: arguments `1..n`, attacks `n+1..n*(1+n)` (row by row),
attacker disjunctions up to `n*(2+n)` (complete semantics), auxiliary variables above. -/

theorem mul_one_add (n : Nat) : n * (1 + n) = n + n * n := by rw [Nat.mul_add, Nat.mul_one]

theorem mul_one_add_le (n : Nat) : n * (1 + n) ≤ n * (2 + n) := Nat.mul_le_mul_left n (by omega)

theorem le_mul_one_add (n : Nat) : n ≤ n * (1 + n) := Nat.le_mul_of_pos_right n (by omega)

theorem arg_le {n i : Nat} (hi : i < n) : i + 1 ≤ n * (1 + n) := Nat.le_trans hi (le_mul_one_add n)

theorem assm_le {n t : Nat} (ht : t < n * n) : 1 + n + t ≤ n * (1 + n) := by rw [mul_one_add]; omega

theorem attVar_cell (n i j : Nat) : attVar n (i + 1) (j + 1) = 1 + n + (i * n + j) := by
  unfold attVar; rw [Nat.mul_comm i n]; simp; omega

theorem attVar_eq (n i j : Nat) : attVar n (i + 1) (j + 1) = n + n * i + j + 1 := by
  rw [attVar_cell, Nat.mul_comm i n]; omega

theorem mul_pred_add (n : Nat) (h : 1 ≤ n) : n * (n - 1) + n = n * n := by
  rw [← Nat.mul_succ, Nat.succ_eq_add_one, Nat.sub_add_cancel h]

theorem cell_lt {n i j : Nat} (hi : i < n) (hj : j < n) : i * n + j + 1 ≤ n * n :=
  Nat.le_trans (Nat.add_le_add_left hj (i * n)) (Nat.succ_mul i n ▸ Nat.mul_le_mul_right n hi)

theorem attVar_bounds {n i j : Nat} (hi : i < n) (hj : j < n) :
    n < attVar n (i + 1) (j + 1) ∧ attVar n (i + 1) (j + 1) ≤ n * (1 + n) := by
  rw [attVar_cell, mul_one_add]
  have := cell_lt hi hj
  omega

theorem disjVar_bounds {n i : Nat} (hi : i < n) :
    n * (1 + n) < disjVar n (i + 1) ∧ disjVar n (i + 1) ≤ n * (2 + n) := by
  unfold disjVar
  rw [Nat.mul_add n 2, Nat.mul_comm n 2, mul_one_add]
  omega

/-- the clauses of one pass of the encoder started when `n_vars() = N` -/
def PassSpec (n N : Nat) (pre : Nat → Cnf) (head : Nat → Lit) (cell : Nat → Nat → Nat → Cnf)
    (c : Clause) : Prop :=
  ∃ i, i < n ∧ (c ∈ pre (i + 1) ∨ (∃ j, j < n ∧ c ∈ cell (i + 1) (j + 1) (N + i * n + 1 + j)) ∨
    c = head (i + 1) :: auxLits n (N + i * n))

theorem mem_rowsEmitted_range1 (n N : Nat) (pre : Nat → Cnf) (head : Nat → Lit)
    (cell : Nat → Nat → Nat → Cnf) (c : Clause) :
    c ∈ rowsEmitted n pre head cell (range1 n) N ↔ PassSpec n N pre head cell c := by
  rw [mem_rowsEmitted]
  unfold PassSpec
  constructor
  · rintro ⟨i, hi, h⟩
    have hi' : i < n := by simpa using hi
    refine ⟨i, hi', ?_⟩
    rw [range1_get] at h
    rcases h with h | h | h
    · exact Or.inl h
    · right; left
      obtain ⟨j, hj, h⟩ := (mem_emitted _ _ _ _).1 h
      rw [range1_get] at h
      exact ⟨j, by simpa using hj, h⟩
    · exact Or.inr (Or.inr h)
  · rintro ⟨i, hi, h⟩
    refine ⟨i, by simpa using hi, ?_⟩
    rw [range1_get]
    rcases h with h | ⟨j, hj, h⟩ | h
    · exact Or.inl h
    · right; left
      apply (mem_emitted _ _ _ _).2
      refine ⟨j, by simpa using hj, ?_⟩
      rw [range1_get]; exact h
    · exact Or.inr (Or.inr h)

/-- the clause database of a freshly encoded solver.  A pass starts where `n_vars()` stands: at the argument of
`reserve` (`n * (1 + n)`, resp. `n * (2 + n)` with the attacker-disjunction variables), the second pass of the
complete encoding above the `n * n` auxiliary variables of the first.  (`.PR` is never encoded; the last arm
gives it the complete database.) -/
def EncSpec (sem : DSem) (n : Nat) (c : Clause) : Prop :=
  match sem with
  | .ST => PassSpec n (n * (1 + n)) (fun _ => []) pl (stCell n) c
  | _ =>
    PassSpec n (n * (2 + n)) (fun x => [[nl x, nl (disjVar n x)]]) pl (coCell1 n) c ∨
    PassSpec n (n * (2 + n) + n * n) (fun _ => []) (fun x => nl (disjVar n x)) (coCell2 n) c

theorem encSpec_st (n : Nat) (c : Clause) :
    EncSpec .ST n c = PassSpec n (n * (1 + n)) (fun _ => []) pl (stCell n) c := rfl

theorem encSpec_co (n : Nat) (c : Clause) :
    EncSpec .CO n c =
      (PassSpec n (n * (2 + n)) (fun x => [[nl x, nl (disjVar n x)]]) pl (coCell1 n) c ∨
       PassSpec n (n * (2 + n) + n * n) (fun _ => []) (fun x => nl (disjVar n x)) (coCell2 n) c) := rfl

theorem cellOK_st (n B : Nat) (hB : n * (1 + n) ≤ B) {x : Nat} (hx : x ∈ range1 n) :
    CellOK (stCell n x) (range1 n) B := by
  obtain ⟨i, hi, rfl⟩ := mem_range1.1 hx
  intro a ha u hu
  obtain ⟨j, hj, rfl⟩ := mem_range1.1 ha
  have hb := (attVar_bounds hi hj).2
  have hi' := arg_le hi
  have hj' := arg_le hj
  refine ⟨?_, _, List.mem_cons_self, nl (u + 1), List.mem_cons_self, rfl⟩
  simp only [stCell, List.forall_mem_cons, List.not_mem_nil, false_imp_iff, implies_true, and_true, pl, nl,
    Nat.le_refl, true_and]
  omega

theorem cellOK_co1 (n B : Nat) (hB : n * (2 + n) ≤ B) {x : Nat} (hx : x ∈ range1 n) :
    CellOK (coCell1 n x) (range1 n) B := by
  obtain ⟨i, hi, rfl⟩ := mem_range1.1 hx
  intro a ha u hu
  obtain ⟨j, hj, rfl⟩ := mem_range1.1 ha
  have hb := (attVar_bounds hi hj).2
  have hd := (disjVar_bounds hj).2
  have hi' := arg_le hi
  have hle := mul_one_add_le n
  refine ⟨?_, _, List.mem_cons_self, nl (u + 1), List.mem_cons_self, rfl⟩
  simp only [coCell1, List.forall_mem_cons, List.not_mem_nil, false_imp_iff, implies_true, and_true, pl, nl,
    Nat.le_refl, true_and]
  omega

theorem cellOK_co2 (n B : Nat) (hB : n * (2 + n) ≤ B) {x : Nat} (hx : x ∈ range1 n) :
    CellOK (coCell2 n x) (range1 n) B := by
  obtain ⟨i, hi, rfl⟩ := mem_range1.1 hx
  intro a ha u hu
  obtain ⟨j, hj, rfl⟩ := mem_range1.1 ha
  have hb := (attVar_bounds hi hj).2
  have hd := (disjVar_bounds hi).2
  have hj' := arg_le hj
  have hle := mul_one_add_le n
  refine ⟨?_, _, List.mem_cons_self, nl (u + 1), List.mem_cons_self, rfl⟩
  simp only [coCell2, List.forall_mem_cons, List.not_mem_nil, false_imp_iff, implies_true, and_true, pl, nl,
    Nat.le_refl, true_and]
  omega

theorem sem_beq_PR {sem : DSem} (h : sem ≠ .PR) : (sem == DSem.PR) = false := by
  cases sem with
  | PR => exact absurd rfl h
  | _ => rfl

theorem updateEncoding_noop {C : Prop} (e : AEnc) (st : Store) (w : World) (Q : AEnc → World → Prop)
    (hsem : e.sem ≠ .PR) (hneed : e.needToEncode = false) :
    wp C (e.updateEncoding st) w Q ↔ Q e w := by
  unfold AEnc.updateEncoding
  rw [sem_beq_PR hsem, hneed]
  exact Iff.rfl

theorem wp_pass {C : Prop} (k n N : Nat) (pre : Nat → Cnf) (head : Nat → Lit) (cell : Nat → Nat → Nat → Cnf)
    (w : World) (Q : Unit → World → Prop) (hk : k < w.solvers.length) (hN : w.nVarsOf k = N)
    (hok : ∀ x ∈ range1 n, (∀ c ∈ pre x, ∀ l ∈ c, l.var ≤ N) ∧ (head x).var ≤ N ∧
      CellOK (cell x) (range1 n) N)
    (h : ∀ w' : World, w'.solvers.length = w.solvers.length → w'.nVarsOf k = N + n * n →
      (∀ c, c ∈ w'.db k ↔ PassSpec n N pre head cell c ∨ c ∈ w.db k) → Q () w') :
    wp C (rowLoop k n pre head cell (range1 n)) w Q := by
  subst hN
  refine wp_rowLoop k n pre head cell _ _ w Q hk (Nat.le_refl _) hok fun w' he => ?_
  refine h w' he.len (by rw [he.nv, range1_length]) fun c => ?_
  rw [he.db, List.mem_append, List.mem_reverse, mem_rowsEmitted_range1]

theorem updateEncoding_wp {C : Prop} (e : AEnc) (st : Store) (w : World) (Q : AEnc → World → Prop)
    (hsem : e.sem ≠ .PR) (hneed : e.needToEncode = true)
    (hfac : st.nArguments ≤ e.scaled st.nArguments)
    (h : ∀ w' : World, w'.solvers.length = w.solvers.length + 1 →
        (∀ c, c ∈ w'.db w.solvers.length ↔ EncSpec e.sem (e.scaled st.nArguments) c) →
        Q (e.reencoded st w.solvers.length) w') :
    wp C (e.updateEncoding st) w Q := by
  unfold AEnc.updateEncoding
  -- the three tests of `update_encoding`: semantics handled, an encoding is due, factor at least 1
  rw [sem_beq_PR hsem, hneed, if_neg Bool.false_ne_true, if_neg (by simp), if_neg (Nat.not_lt.2 hfac)]
  generalize e.scaled st.nArguments = n at *
  have hk : w.solvers.length < w.onNew.solvers.length := by rw [len_onNew]; exact Nat.lt_succ_self _
  have hlen : ∀ r, (w.onNew.onReserve w.solvers.length r).solvers.length = w.solvers.length + 1 :=
    fun r => by rw [len_onReserve, len_onNew]
  have hnv : ∀ r, (w.onNew.onReserve w.solvers.length r).nVarsOf w.solvers.length = r :=
    fun r => by rw [nVarsOf_onReserve _ _ _ hk, nVarsOf_onNew_self, Nat.zero_max]
  have hdb : ∀ r, (w.onNew.onReserve w.solvers.length r).db w.solvers.length = [] :=
    fun r => by rw [db_onReserve, db_onNew_self]
  cases hs : e.sem with
  | PR => exact absurd hs hsem
  | ST =>
    -- `wp` stepped through `newSolver` and `reserve`, `stOuter` unfolded
    show wp C ((rowLoop _ n (fun _ => []) pl (stCell n) (range1 n)).bind fun _ => .pure (e.reencoded st _))
      (w.onNew.onReserve _ (n * (1 + n))) Q
    rw [wp_bind]
    refine wp_pass _ n _ _ _ _ _ _ (hlen _ ▸ Nat.lt_succ_self _) (hnv _)
      (fun x hx => ⟨nofun, ?_, cellOK_st n _ (Nat.le_refl _) hx⟩) fun w' hl _ hdb' => ?_
    · obtain ⟨i, hi, rfl⟩ := mem_range1.1 hx
      exact arg_le hi
    · refine h w' (hl.trans (hlen _)) fun c => ?_
      rw [hdb', hdb, hs, encSpec_st]
      exact or_iff_left (List.not_mem_nil)
  | CO =>
    show wp C ((rowLoop _ n (fun x => [[nl x, nl (disjVar n x)]]) pl (coCell1 n) (range1 n)).bind fun _ =>
      (rowLoop _ n (fun _ => []) (fun x => nl (disjVar n x)) (coCell2 n) (range1 n)).bind fun _ =>
        .pure (e.reencoded st _)) (w.onNew.onReserve _ (n * (2 + n))) Q
    rw [wp_bind]
    refine wp_pass _ n _ _ _ _ _ _ (hlen _ ▸ Nat.lt_succ_self _) (hnv _)
      (fun x hx => ⟨?_, ?_, cellOK_co1 n _ (Nat.le_refl _) hx⟩) fun w1 hl1 hnv1 hdb1 => ?_
    · obtain ⟨i, hi, rfl⟩ := mem_range1.1 hx
      have := arg_le hi
      have := mul_one_add_le n
      have := (disjVar_bounds hi).2
      simp only [List.forall_mem_cons, List.not_mem_nil, false_imp_iff, implies_true, and_true, nl]
      omega
    · obtain ⟨i, hi, rfl⟩ := mem_range1.1 hx
      exact Nat.le_trans (arg_le hi) (mul_one_add_le n)
    rw [wp_bind]
    refine wp_pass _ n _ _ _ _ _ _ (hl1.trans (hlen _) ▸ Nat.lt_succ_self _) hnv1
      (fun x hx => ⟨nofun, ?_, cellOK_co2 n _ (Nat.le_add_right _ _) hx⟩) fun w' hl _ hdb' => ?_
    · obtain ⟨i, hi, rfl⟩ := mem_range1.1 hx
      exact Nat.le_trans (disjVar_bounds hi).2 (Nat.le_add_right _ _)
    · refine h w' (hl.trans (hl1.trans (hlen _))) fun c => ?_
      rw [hdb', hdb1, hdb, hs, encSpec_co, or_iff_left (List.not_mem_nil)]
      exact Or.comm

end Crusta.DynAtt
