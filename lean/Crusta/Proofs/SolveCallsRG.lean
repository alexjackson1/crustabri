import Crusta.Proofs.SolveRG

/-!
# C18 on the `Prog` models, range-based semantics (semi-stable, stage): termination and SAT-call
bound on one component

The `wp False` readings of `rgMaximalOfComp_spec` and `rgAccInCc_spec` (`SolveRG.lean`): with the
stated fuel no crash node is reached, and the calls are bounded.
-/

namespace Crusta

/-- **DC / DS for the semi-stable and stage semantics inside the merged component terminate** with fuel
`(n + 2)·|base| + 2` **within `(n + 2)·|base| + 1` SAT calls**, where `fam` is any exact enumeration
of the family `cfg.enc.Base` of the component -/
theorem rgAccInCc_calls (cfg : Cfg) (hk : RangeEnc cfg.enc) (c : Comp) (args : List Nat) (cred : Bool)
    (hwf : c.af.WF) (hgr : GrOK c.af) (w : World) (hb : w.Bounded)
    (hpos : ∃ pos, posAll c args = some pos) (fam : List (List Nat))
    (hfam : ∀ l, l ∈ fam ↔ l ∈ subsets c.af.n ∧ cfg.enc.Base c.af (ofList l))
    (hfuel : cfg.fuel ≥ (c.af.n + 2) * fam.length + 2) :
    wp False (rgAccInCc cfg c args cred) w
      (fun _ w' => w'.calls ≤ w.calls + (c.af.n + 2) * fam.length + 1) := by
  refine wp_conseq ?_ _ _ _ _ (fun _ _ h => h.1) (rgAccInCc_spec cfg hk c args cred hwf hgr w hb fam hfam)
  rintro (hn | hlt)
  · obtain ⟨pos, hp⟩ := hpos
    rw [hp] at hn
    cases hn
  · exact Nat.not_le_of_lt hlt hfuel

/-- semi-stable: the family is the complete sets, counted by `extsCO` -/
theorem rgAccInCc_calls_sst (cfg : Cfg) (hk : RangeEnc cfg.enc)
    (hco : ∀ af T, cfg.enc.Base af T ↔ Complete af T) (c : Comp) (args : List Nat) (cred : Bool)
    (hwf : c.af.WF) (hgr : GrOK c.af) (w : World) (hb : w.Bounded)
    (hpos : ∃ pos, posAll c args = some pos)
    (hfuel : cfg.fuel ≥ (c.af.n + 2) * (extsCO c.af).length + 2) :
    wp False (rgAccInCc cfg c args cred) w
      (fun _ w' => w'.calls ≤ w.calls + (c.af.n + 2) * (extsCO c.af).length + 1) :=
  rgAccInCc_calls cfg hk c args cred hwf hgr w hb hpos (extsCO c.af)
    (fun l => by rw [mem_extsCO, hco]) hfuel

/-- stage: the family is the conflict-free sets, counted by `extsCF` -/
theorem rgAccInCc_calls_stg (cfg : Cfg) (hk : RangeEnc cfg.enc)
    (hcf : ∀ af T, cfg.enc.Base af T ↔ ConflictFree af T) (c : Comp) (args : List Nat) (cred : Bool)
    (hwf : c.af.WF) (hgr : GrOK c.af) (w : World) (hb : w.Bounded)
    (hpos : ∃ pos, posAll c args = some pos)
    (hfuel : cfg.fuel ≥ (c.af.n + 2) * (extsCF c.af).length + 2) :
    wp False (rgAccInCc cfg c args cred) w
      (fun _ w' => w'.calls ≤ w.calls + (c.af.n + 2) * (extsCF c.af).length + 1) :=
  rgAccInCc_calls cfg hk c args cred hwf hgr w hb hpos (extsCF c.af)
    (fun l => by rw [mem_extsCF, hcf]) hfuel

/-- the bounds in the form of property C18, `(n + 2)·|base| + 3` -/
theorem rgAccInCc_calls_c18 (cfg : Cfg) (hk : RangeEnc cfg.enc) (c : Comp) (args : List Nat) (cred : Bool)
    (hwf : c.af.WF) (hgr : GrOK c.af) (w : World) (hb : w.Bounded)
    (hpos : ∃ pos, posAll c args = some pos) (fam : List (List Nat))
    (hfam : ∀ l, l ∈ fam ↔ l ∈ subsets c.af.n ∧ cfg.enc.Base c.af (ofList l))
    (hfuel : cfg.fuel ≥ (c.af.n + 2) * fam.length + 2) :
    wp False (rgAccInCc cfg c args cred) w
      (fun _ w' => w'.calls ≤ w.calls + (c.af.n + 2) * fam.length + 3) :=
  wp_mono _ _ _ _ (fun _ _ h => Nat.le_trans h (Nat.le_add_right _ 2))
    (rgAccInCc_calls cfg hk c args cred hwf hgr w hb hpos fam hfam hfuel)

theorem rgMaximalOfComp_calls_c18 (cfg : Cfg) (hk : RangeEnc cfg.enc) (c : Comp) (hwf : c.af.WF) (hgr : GrOK c.af)
    (w : World) (hb : w.Bounded) (fam : List (List Nat))
    (hfam : ∀ l, l ∈ fam ↔ l ∈ subsets c.af.n ∧ cfg.enc.Base c.af (ofList l))
    (hfuel : cfg.fuel ≥ c.af.n + 3) :
    wp False (rgMaximalOfComp cfg c) w (fun _ w' => w'.calls ≤ w.calls + (c.af.n + 2) * fam.length + 3) := by
  refine wp_conseq (fun hc => Nat.not_le_of_lt hc hfuel) _ _ _ _ ?_ (rgMaximalOfComp_spec cfg hk c hwf hgr w hb)
  intro _ w' h
  have h' : w'.calls ≤ w.calls + c.af.n + 1 := h.1
  -- the family is not empty: it contains the grounded extension
  have hbase : cfg.enc.Base c.af (ofList (groundedV c.af.view)) := cfg.enc.Base_of_complete hk hgr.1
  obtain ⟨l, hl, hle⟩ := exists_list_of_sub c.af _ (cfg.enc.Base_sub hbase)
  have hmem : l ∈ fam := (hfam l).2 ⟨hl, by rw [hle]; exact hbase⟩
  have : (c.af.n + 2) * 1 ≤ (c.af.n + 2) * fam.length :=
    Nat.mul_le_mul_left _ (List.length_pos_of_mem hmem)
  show w'.calls ≤ w.calls + (c.af.n + 2) * fam.length + 3
  omega

end Crusta
