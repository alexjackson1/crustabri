import Mathlib.Data.Finset.Card
import Mathlib.Data.Fintype.Powerset

/-!
# Abstract search procedures: correctness for every sound oracle, call bounds for the first two

The procedures of `MaximalExtensionComputer` seen at the level of *sets*: a query asks for a set of
a base family that contains `must` and is not included in any blocked set; a reply is a set or
"none".  Replies are given as a list; soundness of the list along the run is `GrowSound`,
`SkeptSound`, `RSoundRun` for the three procedures.  These theorems are independent of encodings and
of the `Prog` models (`Props/C18` states them).
-/

namespace Crusta.Abs
open Finset

variable {α : Type} [DecidableEq α]

inductive SReply (α : Type) | sat (S : Finset α) | unsat

def Ok (base : Finset α → Prop) (must : Finset α) (blocked : List (Finset α)) (S : Finset α) : Prop :=
  base S ∧ must ⊆ S ∧ ∀ B ∈ blocked, ¬ S ⊆ B

def SoundReply (base : Finset α → Prop) (must : Finset α) (blocked : List (Finset α)) :
    SReply α → Prop
  | .sat S => Ok base must blocked S
  | .unsat => ∀ S, ¬ Ok base must blocked S

def IsMaxBase (base : Finset α → Prop) (M : Finset α) : Prop :=
  base M ∧ ∀ T, base T → M ⊆ T → T = M

/-! ## grow until UNSAT (`compute_maximal` for PR) -/

/-- returns the final set and the number of calls made -/
def grow : List (SReply α) → Finset α → List (Finset α) → Option (Finset α × Nat)
  | [], _, _ => none
  | .unsat :: _, cur, _ => some (cur, 1)
  | .sat S :: rs, cur, blocked => (grow rs S (cur :: blocked)).map (fun p => (p.1, p.2 + 1))

def GrowSound (base : Finset α → Prop) : List (SReply α) → Finset α → List (Finset α) → Prop
  | [], _, _ => True
  | r :: rs, cur, blocked =>
    SoundReply base cur (cur :: blocked) r ∧
    match r with
    | .unsat => True
    | .sat S => GrowSound base rs S (cur :: blocked)

theorem isMaxBase_of_unsat {base : Finset α → Prop} {cur : Finset α} {blocked : List (Finset α)}
    (hb : base cur) (hsep : ∀ B ∈ blocked, B ⊆ cur ∨ ¬ cur ⊆ B)
    (hr : ∀ S, ¬ Ok base cur (cur :: blocked) S) : IsMaxBase base cur := by
  refine ⟨hb, fun T hT hsub => ?_⟩
  by_contra hne
  refine hr T ⟨hT, hsub, fun B hB hTB => ?_⟩
  rcases List.mem_cons.1 hB with rfl | hB
  · exact hne (Subset.antisymm hTB hsub)
  · rcases hsep B hB with h1 | h1
    · exact hne (Subset.antisymm (hTB.trans h1) hsub)
    · exact h1 (hsub.trans hTB)

theorem Ok.card_lt {base : Finset α → Prop} {cur S : Finset α} {blocked : List (Finset α)}
    (h : Ok base cur (cur :: blocked) S) : cur.card < S.card :=
  Finset.card_lt_card ⟨h.2.1, h.2.2 cur (List.mem_cons_self ..)⟩

theorem grow_maximal (base : Finset α → Prop) :
    ∀ rs cur blocked res, base cur → (∀ B ∈ blocked, B ⊆ cur ∨ ¬ cur ⊆ B) →
      GrowSound base rs cur blocked → grow rs cur blocked = some res →
      IsMaxBase base res.1 ∧ cur ⊆ res.1 := by
  intro rs
  induction rs with
  | nil => intro cur blocked res _ _ _ h; cases h
  | cons r rs ih =>
    intro cur blocked res hb hbl hs h
    obtain ⟨hr, hrest⟩ := hs
    cases r with
    | unsat =>
      cases h
      exact ⟨isMaxBase_of_unsat hb hbl hr, Subset.refl _⟩
    | sat S =>
      obtain ⟨p, hp, rfl⟩ := Option.map_eq_some_iff.1 h
      obtain ⟨hbS, hmust, hnb⟩ := hr
      have := ih S (cur :: blocked) p hbS (by
        intro B hB
        rcases List.mem_cons.1 hB with rfl | hB
        · left; exact hmust
        · rcases hbl B hB with h1 | h1
          · left; exact h1.trans hmust
          · right; exact hnb B (List.mem_cons_of_mem _ hB)) hrest hp
      exact ⟨this.1, hmust.trans this.2⟩

/-- every SAT reply strictly enlarges the current set, and every base set lies in `U` -/
theorem grow_calls (base : Finset α → Prop) (U : Finset α) (hU : ∀ S, base S → S ⊆ U) :
    ∀ rs cur blocked res, base cur →
      GrowSound base rs cur blocked → grow rs cur blocked = some res →
      res.2 + cur.card ≤ U.card + 1 := by
  intro rs
  induction rs with
  | nil => intro cur blocked res _ _ h; cases h
  | cons r rs ih =>
    intro cur blocked res hb hs h
    obtain ⟨hr, hrest⟩ := hs
    cases r with
    | unsat =>
      cases h
      have := Finset.card_le_card (hU cur hb); simp; omega
    | sat S =>
      obtain ⟨p, hp, rfl⟩ := Option.map_eq_some_iff.1 h
      have := ih S (cur :: blocked) p hr.1 hrest hp
      have hlt := hr.card_lt
      simp only; omega

theorem grow_terminates (base : Finset α → Prop) (U : Finset α) (hU : ∀ S, base S → S ⊆ U) :
    ∀ rs cur blocked, base cur → GrowSound base rs cur blocked →
      U.card - cur.card < rs.length → (grow rs cur blocked).isSome := by
  intro rs
  induction rs with
  | nil => intro cur blocked _ _ h; simp at h
  | cons r rs ih =>
    intro cur blocked hb hs hlen
    obtain ⟨hr, hrest⟩ := hs
    cases r with
    | unsat => simp [grow]
    | sat S =>
      simp only [grow, Option.isSome_map]
      apply ih S _ hr.1 hrest
      have hlt := hr.card_lt
      have := Finset.card_le_card (hU S hr.1)
      have hlen : U.card - cur.card < rs.length + 1 := hlen
      omega

/-! ## skeptical search with discard (DS-PR without shortcut) -/

/-- `some (some M)` = NO with witness, `some none` = YES, `none` = ran out of replies; the second
component counts the calls -/
def skept (a : α) : List (SReply α) → Finset α → List (Finset α) → Option (Option (Finset α) × Nat)
  | [], _, _ => none
  | .unsat :: _, cur, _ => if a ∈ cur then some (none, 1) else some (some cur, 1)
  | .sat S :: rs, cur, blocked => (skept a rs S (cur :: blocked)).map (fun p => (p.1, p.2 + 1))

def SkeptSound (base : Finset α → Prop) (a : α) :
    List (SReply α) → Finset α → List (Finset α) → Prop
  | [], _, _ => True
  | r :: rs, cur, blocked =>
    (if a ∈ cur then SoundReply base ∅ (cur :: blocked) r
     else SoundReply base cur (cur :: blocked) r) ∧
    match r with
    | .unsat => True
    | .sat S => SkeptSound base a rs S (cur :: blocked)

/-- `top`: every blocked set lies below a base set that contains `a`, or below `cur` — so a maximal base
set without `a` is never blocked, and the search meets it unless all maximal sets contain `a` -/
structure SInv (base : Finset α → Prop) (a : α) (cur : Finset α) (blocked : List (Finset α)) : Prop where
  cur_base : base cur
  sep : ∀ B ∈ blocked, B ⊆ cur ∨ ¬ cur ⊆ B
  top : ∀ B ∈ blocked, (∃ D, base D ∧ B ⊆ D ∧ a ∈ D) ∨ B ⊆ cur

theorem skept_correct (base : Finset α → Prop) (a : α) :
    ∀ rs cur blocked res, SInv base a cur blocked → SkeptSound base a rs cur blocked →
      skept a rs cur blocked = some res →
      (∀ M, res.1 = some M → IsMaxBase base M ∧ a ∉ M) ∧
      (res.1 = none → ∀ M, IsMaxBase base M → a ∈ M) := by
  intro rs
  induction rs with
  | nil => intro cur blocked res _ _ h; cases h
  | cons r rs ih =>
    intro cur blocked res inv hs h
    obtain ⟨hr, hrest⟩ := hs
    cases r with
    | unsat =>
      simp only [skept] at h
      by_cases ha : a ∈ cur
      · simp only [ha, if_true, Option.some.injEq] at h hr; subst h
        refine ⟨fun M hM => (by cases hM), fun _ M hM => ?_⟩
        by_contra hna
        have : Ok base ∅ (cur :: blocked) M := by
          refine ⟨hM.1, empty_subset _, ?_⟩
          intro B hB hMB
          rcases List.mem_cons.1 hB with rfl | hB
          · have := hM.2 _ inv.cur_base hMB
            exact hna (this ▸ ha)
          · rcases inv.top B hB with ⟨D, hD, hBD, haD⟩ | hBc
            · have := hM.2 D hD (hMB.trans hBD)
              exact hna (this ▸ haD)
            · have := hM.2 _ inv.cur_base (hMB.trans hBc)
              exact hna (this ▸ ha)
        exact hr M this
      · simp only [ha, if_false, Option.some.injEq] at h hr; subst h
        refine ⟨?_, by intro h; cases h⟩
        intro M hM; injection hM with hM; subst hM
        exact ⟨isMaxBase_of_unsat inv.cur_base inv.sep hr, ha⟩
    | sat S =>
      obtain ⟨p, hp, rfl⟩ := Option.map_eq_some_iff.1 h
      simp only at hrest
      by_cases ha : a ∈ cur
      · simp only [ha, if_true] at hr
        obtain ⟨hbS, _, hnb⟩ := hr
        apply ih S (cur :: blocked) p ?_ hrest hp
        refine ⟨hbS, ?_, ?_⟩
        · intro B hB; right; exact hnb B hB
        · intro B hB
          rcases List.mem_cons.1 hB with rfl | hB
          · left; exact ⟨B, inv.cur_base, Subset.refl _, ha⟩
          · rcases inv.top B hB with h1 | h1
            · left; exact h1
            · left; exact ⟨cur, inv.cur_base, h1, ha⟩
      · simp only [ha, if_false] at hr
        obtain ⟨hbS, hmust, hnb⟩ := hr
        apply ih S (cur :: blocked) p ?_ hrest hp
        refine ⟨hbS, ?_, ?_⟩
        · intro B hB
          rcases List.mem_cons.1 hB with rfl | hB
          · left; exact hmust
          · right; exact hnb B (List.mem_cons_of_mem _ hB)
        · intro B hB
          rcases List.mem_cons.1 hB with rfl | hB
          · right; exact hmust
          · rcases inv.top B hB with h1 | h1
            · left; exact h1
            · right; exact h1.trans hmust

/-- **no candidate set is examined twice**: every SAT reply is a base set that is not included in
any previously blocked set, in particular it differs from every earlier current set -/
theorem skept_replies_fresh (base : Finset α → Prop) (a : α) (cur : Finset α) (blocked : List (Finset α))
    (S : Finset α) (rs : List (SReply α)) (h : SkeptSound base a (.sat S :: rs) cur blocked) :
    base S ∧ S ≠ cur ∧ ∀ B ∈ blocked, S ≠ B := by
  obtain ⟨hr, _⟩ := h
  have hok : ∃ must, Ok base must (cur :: blocked) S := by
    split at hr
    · exact ⟨_, hr⟩
    · exact ⟨_, hr⟩
  obtain ⟨must, hok⟩ := hok
  exact ⟨hok.1, fun e => hok.2.2 cur (List.mem_cons_self ..) (e ▸ Subset.refl _),
    fun B hB e => hok.2.2 B (List.mem_cons_of_mem _ hB) (e ▸ Subset.refl _)⟩

/-- call bound for the skeptical search: the blocked list only ever holds pairwise distinct base
sets, so the calls and the sets met so far together number at most (number of base sets) + 1 -/
theorem skept_calls [Fintype α] (base : Finset α → Prop) [DecidablePred base] (a : α) :
    ∀ rs cur blocked res, base cur → (∀ B ∈ blocked, base B) → (cur :: blocked).Nodup →
      SkeptSound base a rs cur blocked → skept a rs cur blocked = some res →
      res.2 + (cur :: blocked).length ≤ (Finset.univ.filter base).card + 1 := by
  intro rs
  induction rs with
  | nil => intro cur blocked res _ _ _ _ h; cases h
  | cons r rs ih =>
    intro cur blocked res hb hbl hnd hs h
    cases r with
    | unsat =>
      have hres : res.2 = 1 := by
        simp only [skept] at h
        split at h <;> (injection h with h; subst h; rfl)
      rw [hres]
      have : (cur :: blocked).toFinset ⊆ Finset.univ.filter base := by
        intro x hx
        simp only [List.mem_toFinset, List.mem_cons] at hx
        simp only [mem_filter, mem_univ, true_and]
        rcases hx with rfl | hx
        · exact hb
        · exact hbl x hx
      have hc := Finset.card_le_card this
      rw [List.toFinset_card_of_nodup hnd] at hc
      omega
    | sat S =>
      have hfresh := skept_replies_fresh base a cur blocked S rs hs
      obtain ⟨_, hrest⟩ := hs
      obtain ⟨p, hp, rfl⟩ := Option.map_eq_some_iff.1 h
      have := ih S (cur :: blocked) p hfresh.1 (by
        intro B hB
        rcases List.mem_cons.1 hB with rfl | hB
        · exact hb
        · exact hbl B hB) (by
        rw [List.nodup_cons]
        refine ⟨?_, hnd⟩
        intro hmem
        rcases List.mem_cons.1 hmem with e | hB
        · exact hfresh.2.1 e
        · exact hfresh.2.2 _ hB rfl) hrest hp
      simp only [List.length_cons] at this ⊢
      omega

/-! ## range-guided grow loop (`compute_maximal` for SST / STG) -/

/-- `rg S` is the range of `S` (`S` and what it attacks).  A reply carries a set `R` with only `S ⊆ R ⊆ rg S`:
the solver's range variables are implied one way; at UNSAT the loop has `R = rg S` (`rgrow_correct`) -/
structure RCtx (α : Type) [DecidableEq α] where
  base : Finset α → Prop
  rg : Finset α → Finset α
  sub_rg : ∀ S, S ⊆ rg S

inductive RReply (α : Type) | sat (S R : Finset α) | unsat

def ROk (c : RCtx α) (must : Finset α) (blocked : List (Finset α)) (S R : Finset α) : Prop :=
  c.base S ∧ S ⊆ R ∧ R ⊆ c.rg S ∧ must ⊆ R ∧ ∀ B ∈ blocked, ¬ R ⊆ B

def RSoundReply (c : RCtx α) (must : Finset α) (blocked : List (Finset α)) : RReply α → Prop
  | .sat S R => ROk c must blocked S R
  | .unsat => ∀ S R, ¬ ROk c must blocked S R

def rgrow : List (RReply α) → Finset α → Finset α → List (Finset α) → Option (Finset α × Finset α)
  | [], _, _, _ => none
  | .unsat :: _, S, R, _ => some (S, R)
  | .sat S' R' :: rs, _, R, blocked => rgrow rs S' R' (R :: blocked)

def RSoundRun (c : RCtx α) : List (RReply α) → Finset α → List (Finset α) → Prop
  | [], _, _ => True
  | r :: rs, R, blocked =>
    RSoundReply c R (R :: blocked) r ∧
    match r with
    | .unsat => True
    | .sat _ R' => RSoundRun c rs R' (R :: blocked)

def MaxRange (c : RCtx α) (S : Finset α) : Prop :=
  c.base S ∧ ∀ T, c.base T → c.rg S ⊆ c.rg T → c.rg T = c.rg S

theorem rgrow_correct (c : RCtx α) :
    ∀ rs S R blocked res, c.base S → S ⊆ R → R ⊆ c.rg S →
      (∀ B ∈ blocked, B ⊆ R) →
      RSoundRun c rs R blocked → rgrow rs S R blocked = some res →
      MaxRange c res.1 ∧ res.2 = c.rg res.1 := by
  intro rs
  induction rs with
  | nil => intro S R blocked res _ _ _ _ _ h; cases h
  | cons r rs ih =>
    intro S R blocked res hb hSR hRrg hbl hs h
    obtain ⟨hr, hrest⟩ := hs
    cases r with
    | unsat =>
      cases h
      have hR : R = c.rg S := by
        apply Subset.antisymm hRrg
        by_contra hne
        apply hr S (c.rg S)
        refine ⟨hb, c.sub_rg S, Subset.refl _, hRrg, ?_⟩
        intro B hB hsub
        rcases List.mem_cons.1 hB with rfl | hB
        · exact hne hsub
        · exact hne (hsub.trans (hbl B hB))
      refine ⟨⟨hb, ?_⟩, hR⟩
      intro T hT hsub
      by_contra hne
      apply hr T (c.rg T)
      refine ⟨hT, c.sub_rg T, Subset.refl _, hR ▸ hsub, ?_⟩
      intro B hB hTB
      have hBR : B ⊆ R := by
        rcases List.mem_cons.1 hB with rfl | hB
        · exact Subset.refl _
        · exact hbl B hB
      exact hne (Subset.antisymm (hR ▸ (hTB.trans hBR)) hsub)
    | sat S' R' =>
      simp only [rgrow] at h
      obtain ⟨hbS, hSR', hR'rg, hmust, _⟩ := hr
      apply ih S' R' (R :: blocked) res hbS hSR' hR'rg ?_ hrest h
      intro B hB
      rcases List.mem_cons.1 hB with rfl | hB
      · exact hmust
      · exact (hbl B hB).trans hmust

end Crusta.Abs
