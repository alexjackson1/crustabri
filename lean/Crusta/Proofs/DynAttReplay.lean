import Crusta.Proofs.DynAttOps
import Crusta.Proofs.DynReplay

/-!
# Replay of the buffered updates and `update_encoding` of the attack-assumption solvers

`EState sem st e w`: the part of the encoder state that always holds (`WInv`) and, when no encoding is
due, the invariant `AInv` on the clause database of the solver in the shared cell.  It is
preserved by the three encoder updates, none of which can panic on an update accepted by the
store, and re-established by a re-encoding.  `ADInv` is the state invariant of the buffered solver that
every later file uses; `wp_updateEncoding` is the resulting statement about
`BufferedDynamicConstraintsEncoder::update_encoding`.
-/

namespace Crusta.DynAtt
open Crusta Crusta.Dyn Crusta.Store

-- see `Assemble.lean`
attribute [local irreducible] wp

/-- what holds of the encoder **w**hatever `need_to_encode` says -/
structure WInv (sem : DSem) (e : AEnc) : Prop where
  sem_eq : e.sem = sem
  sem_ok : sem ≠ .PR
  fac : 0 < e.den ∧ e.den ≤ e.num
  av_lt : ∀ i v, e.av i = some v → v < e.vars.length

def EState (sem : DSem) (st : Store) (e : AEnc) (w : World) : Prop :=
  WInv sem e ∧ (e.needToEncode = false → AInv st e (w.db e.solver))

theorem WInv.sem_ne {sem : DSem} {e : AEnc} (h : WInv sem e) : e.sem ≠ .PR := by
  rw [h.sem_eq]; exact h.sem_ok

theorem scaled_ge {sem : DSem} {e : AEnc} (h : WInv sem e) (m : Nat) : m ≤ e.scaled m := by
  unfold AEnc.scaled
  rw [Nat.le_div_iff_mul_le h.fac.1]
  exact Nat.mul_le_mul_left m h.fac.2

theorem ty_set {e e' : AEnc} {v : Nat} {t : AVarType} (h : e'.vars = e.vars.set v t)
    (hv : v < e.vars.length) (u : Nat) : e'.ty u = if u = v then t else e.ty u := by
  unfold AEnc.ty
  rw [h]
  split
  · next huv => rw [huv, getD_set_eq _ _ _ _ hv]
  · next huv => rw [getD_set_ne _ _ _ _ _ (Ne.symm huv)]

/-- for the `.disj` tag `new_argument` writes at `disjVar n nd` (complete semantics) -/
theorem AInv.set_nonarg {st : Store} {e : AEnc} {Γ : Cnf} (h : AInv st e Γ) {v : Nat} {t : AVarType}
    (hv : e.nextDummy ≤ v) (hlen : v < e.vars.length) (ht : ∀ i, t ≠ .arg i) :
    AInv st { e with vars := e.vars.set v t } Γ := by
  have hty := ty_set (e' := { e with vars := e.vars.set v t }) rfl hlen
  have hlt : ∀ u, u < e.nextDummy → ({ e with vars := e.vars.set v t } : AEnc).ty u = e.ty u :=
    fun u hu => by rw [hty, if_neg (Nat.ne_of_lt (Nat.lt_of_lt_of_le hu hv))]
  have harg : ∀ u i, ({ e with vars := e.vars.set v t } : AEnc).ty u = .arg i → e.ty u = .arg i := by
    intro u i hu
    rw [hty] at hu
    split at hu
    · exact absurd hu (ht i)
    · exact hu
  refine ⟨h.enc_in, fun c hc => (h.db_kind c hc).imp_right ?_, fun i hi => ?_,
    fun u i hu => h.ty_arg u i (harg u i hu), fun u i hu => h.arg_lt u i (harg u i hu), h.unit_lt,
    h.nd_pos, h.nd_le, h.sz, (List.length_set ..).symm ▸ h.vars_len⟩
  · rintro ⟨u, rfl, h1, h2, h3⟩
    exact ⟨u, rfl, h1, h2, by rw [hlt u (h.unit_lt u hc)]; exact h3⟩
  · obtain ⟨u, h1, h2, h3, h4⟩ := h.av_live i hi
    exact ⟨u, h1, h2, h3, by rw [hlt u (h.arg_lt u i h4)]; exact h4⟩

theorem ainv_newArg {st : Store} {e : AEnc} {Γ : Cnf} (h : AInv st e Γ)
    (hnd : e.nextDummy < e.nArgVars) (l : Nat) :
    AInv (st.pushArg l) { e with argVar := e.argVar ++ [some e.nextDummy],
                                 vars := e.vars.set e.nextDummy (.arg st.labels.length),
                                 nextDummy := e.nextDummy + 1 } Γ := by
  have hsz : e.argVar.length = st.labels.length := h.sz (Nat.lt_of_le_of_lt (Nat.zero_le _) hnd)
  have hty := ty_set (e := e) (e' := { e with
      argVar := e.argVar ++ [some e.nextDummy], vars := e.vars.set e.nextDummy (.arg st.labels.length),
      nextDummy := e.nextDummy + 1 }) rfl
    (Nat.lt_trans hnd (Nat.lt_of_le_of_lt (Nat.le_add_right _ _) h.vars_len.1))
  have hav_old : ∀ j, j < st.labels.length → (e.argVar ++ [some e.nextDummy]).getD j none = e.av j :=
    fun j hj => getD_append_lt _ _ _ _ (hsz ▸ hj)
  have hav_new : (e.argVar ++ [some e.nextDummy]).getD st.labels.length none = some e.nextDummy := by
    rw [← hsz, getD_append_len]
  refine ⟨h.enc_in, fun c hc => (h.db_kind c hc).imp_right ?_, fun j hj => ?_, fun v i hv => ?_,
    fun v i hv => ?_, fun v hv => Nat.lt_succ_of_lt (h.unit_lt v hv), Nat.succ_pos _,
    Nat.succ_le_succ (Nat.le_of_lt hnd), fun _ => ?_, (List.length_set ..).symm ▸ h.vars_len⟩
  · rintro ⟨v, rfl, h1, h2, h3⟩
    exact ⟨v, rfl, h1, h2, by rw [hty, if_neg (Nat.ne_of_lt (h.unit_lt v hc))]; exact h3⟩
  · rw [hasId_pushArg, Bool.or_eq_true, beq_iff_eq] at hj
    rcases hj with hj | rfl
    · obtain ⟨v, h1, h2, h3, h4⟩ := h.av_live j hj
      exact ⟨v, (hav_old j (hasId_lt hj)).trans h1, h2, h3,
        by rw [hty, if_neg (Nat.ne_of_lt (h.arg_lt v j h4))]; exact h4⟩
    · exact ⟨e.nextDummy, hav_new, h.nd_pos, Nat.le_of_lt hnd, by rw [hty, if_pos rfl]⟩
  · rw [hty] at hv
    split at hv
    · next hvn =>
      obtain rfl := AVarType.arg.inj hv
      exact ⟨by rw [hasId_pushArg, beq_self_eq_true, Bool.or_true], hvn ▸ hav_new⟩
    · obtain ⟨h1, h2⟩ := h.ty_arg v i hv
      exact ⟨by rw [hasId_pushArg, h1]; rfl, (hav_old i (hasId_lt h1)).trans h2⟩
  · rw [hty] at hv
    split at hv
    · next hvn => exact hvn ▸ Nat.lt_succ_self _
    · exact Nat.lt_succ_of_lt (h.arg_lt v i hv)
  · show (e.argVar ++ [some e.nextDummy]).length = (st.pushArg l).labels.length
    rw [List.length_append, hsz, length_labels_pushArg]
    rfl

theorem wp_encNewArgument {C : Prop} {sem : DSem} {st : Store} {e : AEnc} {w : World} (hinv : st.Inv)
    (hE : EState sem st e w) {l : Nat} (hfresh : ∀ i, ¬ st.Live i l) :
    wp C (encNewArgument st e l) w (fun p w' => p.1 = st.pushArg l ∧ EState sem (st.pushArg l) p.2 w') := by
  obtain ⟨hW, hA⟩ := hE
  -- the record is taken apart so that the case distinction on its semantics reaches every field access
  obtain ⟨esem, num, den, solver, argVar, vars, nd, n, need⟩ := e
  unfold encNewArgument
  rw [newArgument_fresh hinv hfresh]
  simp only
  by_cases hcond : (need || decide (nd ≥ n)) = true
  · rw [if_pos hcond]
    exact (wp_pure _ _ _).2 ⟨rfl, ⟨hW.sem_eq, hW.sem_ok, hW.fac, hW.av_lt⟩, nofun⟩
  · rw [if_neg hcond]
    simp only [Bool.or_eq_true, decide_eq_true_eq, not_or, Bool.not_eq_true, Nat.not_le] at hcond
    obtain ⟨hneed, hnd⟩ := hcond
    have h := hA hneed
    obtain ⟨hvl1, hvl2⟩ := h.vars_len
    have hndlt : nd < vars.length := Nat.lt_trans hnd (Nat.lt_of_le_of_lt (Nat.le_add_right _ _) hvl1)
    rw [maxId_pushArg]
    simp only
    rw [if_neg (Nat.not_le.2 hndlt)]
    have hav_lt : ∀ (vars' : List AVarType), vars'.length = vars.length →
        ∀ i v, (argVar ++ [some nd]).getD i none = some v → v < vars'.length := by
      intro vars' hl' i v hv
      rw [hl']
      rcases Nat.lt_trichotomy i argVar.length with hi | rfl | hi
      · rw [getD_append_lt _ _ _ _ hi] at hv; exact hW.av_lt i v hv
      · rw [getD_append_len] at hv; exact Option.some.inj hv ▸ hndlt
      · rw [getD_append_gt _ _ _ _ hi] at hv; cases hv
    cases esem with
    | PR => exact absurd rfl hW.sem_ne
    | ST =>
      exact (wp_pure _ _ _).2
        ⟨rfl, ⟨hW.sem_eq, hW.sem_ok, hW.fac, hav_lt _ (List.length_set ..)⟩, fun _ => ainv_newArg h hnd l⟩
    | CO =>
      simp only
      have hdv : disjVar n nd < vars.length := by
        have : 2 * n + n * n < vars.length := hvl2 rfl
        have := mul_one_add n
        unfold disjVar; omega
      rw [List.length_set, if_neg (Nat.not_le.2 hdv)]
      refine (wp_pure _ _ _).2 ⟨rfl, ⟨hW.sem_eq, hW.sem_ok, hW.fac,
        hav_lt _ ((List.length_set ..).trans (List.length_set ..))⟩, fun _ => ?_⟩
      refine (ainv_newArg h hnd l).set_nonarg (t := .disj st.labels.length) ?_
        ((List.length_set ..).symm ▸ hdv) nofun
      show nd + 1 ≤ nd + n * (1 + n)
      exact Nat.add_le_add_left (Nat.mul_pos (Nat.lt_of_le_of_lt (Nat.zero_le _) hnd) (by omega)) _

theorem ainv_remArg {st : Store} {e : AEnc} {Γ : Cnf} (h : AInv st e Γ) {l id v : Nat}
    (hlive : st.hasId id = true) (hv : e.av id = some v) :
    AInv (st.dropArg l id) { e with vars := e.vars.set v .ignored, argVar := e.argVar.set id none }
      ([pl v] :: Γ) := by
  obtain ⟨v0, hv0, hv1, hv2, hv3⟩ := h.av_live id hlive
  rw [hv] at hv0
  obtain rfl := Option.some.inj hv0
  have hty := ty_set (e := e) (e' := { e with vars := e.vars.set v .ignored, argVar := e.argVar.set id none })
    rfl (Nat.lt_of_le_of_lt hv2 (Nat.lt_of_le_of_lt (Nat.le_add_right _ _) h.vars_len.1))
  have hav : ∀ j, j ≠ id → (e.argVar.set id none).getD j none = e.av j :=
    fun j hj => getD_set_ne _ _ _ _ _ (Ne.symm hj)
  have harg : ∀ u i, ({ e with vars := e.vars.set v .ignored, argVar := e.argVar.set id none } : AEnc).ty u =
      .arg i → u ≠ v ∧ e.ty u = .arg i := by
    intro u i hu
    rw [hty] at hu
    split at hu
    · cases hu
    · next hne => exact ⟨hne, hu⟩
  have hunit : ∀ u, (∀ a, e.ty u ≠ .arg a) → ∀ a,
      ({ e with vars := e.vars.set v .ignored, argVar := e.argVar.set id none } : AEnc).ty u ≠ .arg a :=
    fun u hu a ha => hu a (harg u a ha).2
  refine ⟨fun c hc => List.mem_cons_of_mem _ (h.enc_in c hc), fun c hc => ?_, fun j hj => ?_, fun u i hu => ?_,
    fun u i hu => h.arg_lt u i (harg u i hu).2, fun u hu => ?_, h.nd_pos, h.nd_le, fun hp => ?_,
    (List.length_set ..).symm ▸ h.vars_len⟩
  · rcases List.mem_cons.1 hc with rfl | hc
    · exact Or.inr ⟨v, rfl, hv1, hv2, fun a ha => (harg v a ha).1 rfl⟩
    · exact (h.db_kind c hc).imp_right fun ⟨u, hcu, h1, h2, h3⟩ => ⟨u, hcu, h1, h2, hunit u h3⟩
  · rw [hasId_dropArg, Bool.and_eq_true, Bool.not_eq_true', beq_eq_false_iff_ne] at hj
    obtain ⟨u, h1, h2, h3, h4⟩ := h.av_live j hj.1
    have hne : u ≠ v := fun huv => hj.2 (AVarType.arg.inj ((huv ▸ h4).symm.trans hv3))
    exact ⟨u, (hav j hj.2).trans h1, h2, h3, by rw [hty, if_neg hne]; exact h4⟩
  · obtain ⟨hne, hu⟩ := harg u i hu
    obtain ⟨h1, h2⟩ := h.ty_arg u i hu
    have hi : i ≠ id := fun hi => hne (Option.some.inj ((hi ▸ h2).symm.trans hv))
    exact ⟨by rw [hasId_dropArg, h1, Bool.true_and, Bool.not_eq_true', beq_eq_false_iff_ne]; exact hi,
      (hav i hi).trans h2⟩
  · rcases List.mem_cons.1 hu with hu | hu
    · rw [(Lit.mk.inj (List.cons.inj hu).1).1]; exact h.arg_lt v id hv3
    · exact h.unit_lt u hu
  · show (e.argVar.set id none).length = (st.dropArg l id).labels.length
    rw [List.length_set, h.sz hp, length_labels_dropArg]

theorem wp_encRemoveArgument {C : Prop} {sem : DSem} {st : Store} {e : AEnc} {w : World} (hinv : st.Inv)
    (hE : EState sem st e w) {l id : Nat} (hl : st.Live id l) :
    wp C (encRemoveArgument st e l) w (fun p w' => p.1 = st.dropArg l id ∧ EState sem (st.dropArg l id) p.2 w') := by
  obtain ⟨hW, hA⟩ := hE
  unfold encRemoveArgument
  rw [(getArg_eq_some hinv).2 hl, (removeArgument_spec hinv l).1 id hl]
  simp only
  have hlive : st.hasId id = true := hasId_iff.2 ⟨l, hl⟩
  have hav_lt : ∀ i v', (e.argVar.set id none).getD i none = some v' → v' < e.vars.length := by
    intro i v' hv'
    by_cases hi : id = i
    · subst hi
      by_cases hlen : id < e.argVar.length
      · rw [getD_set_eq _ _ _ _ hlen] at hv'; cases hv'
      · rw [List.set_eq_of_length_le (Nat.le_of_not_lt hlen)] at hv'; exact hW.av_lt id v' hv'
    · rw [getD_set_ne _ _ _ _ _ hi] at hv'; exact hW.av_lt i v' hv'
  by_cases hid : id < e.argVar.length
  · rw [if_pos hid]
    cases hv : e.argVar.getD id none with
    | none =>
      refine (wp_pure _ _ _).2 ⟨rfl, ⟨hW.sem_eq, hW.sem_ok, hW.fac, hav_lt⟩, fun hne => ?_⟩
      obtain ⟨v0, hv0, _⟩ := (hA hne).av_live id hlive
      cases hv0.symm.trans hv
    | some v =>
      simp only
      rw [if_neg (Nat.not_le.2 (hW.av_lt id v hv))]
      rw [wp_addClause_bind]
      refine (wp_pure _ _ _).2 ⟨rfl, ⟨hW.sem_eq, hW.sem_ok, hW.fac, fun i v' hv' => ?_⟩, fun hne => ?_⟩
      · exact (List.length_set ..).symm ▸ hav_lt i v' hv'
      · show AInv _ _ ((w.onClause e.solver [pl v]).db e.solver)
        rw [db_onClause_same]
        exact ainv_remArg (hA hne) hlive hv
  · rw [if_neg hid]
    refine (wp_pure _ _ _).2 ⟨rfl, hW, fun hne => absurd (live_lt hl) ?_⟩
    obtain ⟨v0, _, h1, h2, _⟩ := (hA hne).av_live id hlive
    rw [← (hA hne).sz (Nat.lt_of_lt_of_le h1 h2)]
    exact hid

theorem AInv.of_labels_eq {st st' : Store} {e : AEnc} {Γ : Cnf} (h : AInv st e Γ)
    (hlab : st'.labels = st.labels) : AInv st' e Γ := by
  have hid : ∀ j, st'.hasId j = st.hasId j := by intro j; unfold Store.hasId; rw [hlab]
  exact ⟨h.enc_in, h.db_kind, fun i hi => h.av_live i (by rw [← hid]; exact hi),
    fun v i hv => by rw [hid]; exact h.ty_arg v i hv, h.arg_lt, h.unit_lt, h.nd_pos, h.nd_le,
    fun hp => by rw [hlab]; exact h.sz hp, h.vars_len⟩

theorem wp_encAttack {C : Prop} {sem : DSem} {st st1 : Store} {e : AEnc} {w : World} (hE : EState sem st e w)
    {add : Bool} {a b : Nat}
    (hstep : (if add = true then st.newAttack a b else st.removeAttack a b) = .ok st1)
    (hlab : st1.labels = st.labels) :
    wp C (encAttack add st e a b) w (fun p w' => p.1 = st1 ∧ EState sem st1 p.2 w') := by
  unfold encAttack
  rw [hstep]
  exact (wp_pure _ _ _).2 ⟨rfl, hE.1, fun hne => (hE.2 hne).of_labels_eq hlab⟩

/-- the hypothesis on `st1` is one step of `EffRun` (`EffRun_cons`) -/
theorem wp_replayEvent {C : Prop} {sem : DSem} {r : Store × AEnc} {w : World} (hinv : r.1.Inv)
    (hE : EState sem r.1 r.2 w) (ev : Event) : ∀ (st1 : Store),
    (match Event.op ev with | none => st1 = r.1 | some op => Eff r.1 op st1) →
    wp C (replayEvent r ev) w (fun r' w' => r'.1 = st1 ∧ r'.1.Inv ∧ EState sem r'.1 r'.2 w') := by
  have post : ∀ {st1 : Store}, st1.Inv → ∀ (r' : Store × AEnc) (w' : World),
      r'.1 = st1 ∧ EState sem st1 r'.2 w' → r'.1 = st1 ∧ r'.1.Inv ∧ EState sem r'.1 r'.2 w' := by
    rintro st1 hp r' w' ⟨rfl, hE'⟩
    exact ⟨rfl, hp, hE'⟩
  cases ev with
  | cred a b c => rintro st1 rfl; exact (wp_pure _ _ _).2 ⟨rfl, hinv, hE⟩
  | skep a b c => rintro st1 rfl; exact (wp_pure _ _ _).2 ⟨rfl, hinv, hE⟩
  | newArg l =>
    intro st1 h1
    have hp := h1.inv hinv
    cases h1.updBy hinv with
    | pushArg hfresh => exact wp_mono _ _ _ _ (post hp) (wp_encNewArgument hinv hE hfresh)
  | remArg l =>
    intro st1 h1
    have hp := h1.inv hinv
    cases h1.updBy hinv with
    | dropArg hl => exact wp_mono _ _ _ _ (post hp) (wp_encRemoveArgument hinv hE hl)
  | newAtt la lb =>
    intro st1 h1
    have hp := h1.inv hinv
    cases h1.updBy hinv with
    | pushAtt _ _ _ => exact wp_mono _ _ _ _ (post hp) (wp_encAttack (add := true) hE h1.1 rfl)
  | remAtt la lb =>
    intro st1 h1
    have hp := h1.inv hinv
    cases h1.updBy hinv with
    | dropAtt _ _ _ _ _ _ _ => exact wp_mono _ _ _ _ (post hp) (wp_encAttack (add := false) hE h1.1 rfl)

theorem winv_reencoded {sem : DSem} {st : Store} (hinv : st.Inv) {e : AEnc} (hW : WInv sem e) (k : Nat) :
    WInv sem (e.reencoded st k) := by
  refine ⟨hW.sem_eq, hW.sem_ok, hW.fac, ?_⟩
  intro i v hv
  obtain ⟨p, l, hp, rfl⟩ := (freshArgVar_spec st).2 i v |>.1 hv
  have hplt : p < st.nArguments := by
    rw [← liveArgs_length hinv]; exact (List.getElem?_eq_some_iff.1 hp).1
  have := (freshVars_length e.sem st _ (liveArgs_length hinv) (scaled_ge hW st.nArguments)).1
  have := scaled_ge hW st.nArguments
  show p + 1 < (freshVars e.sem st (e.scaled st.nArguments)).length
  omega

theorem wp_encUpdateEncoding {C : Prop} {sem : DSem} {st : Store} {e : AEnc} {w : World} (hinv : st.Inv)
    (hE : EState sem st e w) :
    wp C (e.updateEncoding st) w (fun e' w' => EState sem st e' w' ∧ e'.needToEncode = false) := by
  obtain ⟨hW, hA⟩ := hE
  cases hneed : e.needToEncode with
  | false =>
    rw [updateEncoding_noop e st w _ hW.sem_ne hneed]
    exact ⟨⟨hW, hA⟩, hneed⟩
  | true =>
    apply updateEncoding_wp e st w _ hW.sem_ne hneed (scaled_ge hW _)
    intro w' _ hdb
    refine ⟨⟨winv_reencoded hinv hW _, fun _ => ?_⟩, rfl⟩
    exact ainv_reencoded hinv e _ (scaled_ge hW _) hdb

/-- `sync`: replaying the part of the buffer not yet seen by the encoder turns the solver's framework `af`
into the pending one -/
structure ADInv (sem : DSem) (d : ADState) (w : World) : Prop where
  af_inv : d.af.Inv
  est : EState sem d.af d.enc w
  sync : EffRun d.af (d.buffer.drop d.next) d.pending
  next_le : d.next ≤ d.buffer.length

/-- **`update_encoding`**: whatever was buffered, afterwards the solver's framework is the pending
one, no encoding is due and the clause database of the solver in the shared cell encodes it -/
theorem wp_updateEncoding {C : Prop} {sem : DSem} {d : ADState} {w : World} (h : ADInv sem d w) :
    wp C d.updateEncoding w (fun d' w' => ADInv sem d' w' ∧ d'.enc.needToEncode = false ∧
      d'.af = d.pending ∧ d'.pending = d.pending ∧ d'.buffer = d.buffer ∧ d'.next = d.buffer.length) := by
  unfold ADState.updateEncoding
  rw [wp_bind]
  have hfold := wp_foldProg (C := C) replayEvent
    (fun rest (r : Store × AEnc) w => r.1.Inv ∧ EState sem r.1 r.2 w ∧ EffRun r.1 rest d.pending)
    (d.buffer.drop d.next) (d.af, d.enc) w ⟨h.af_inv, h.est, h.sync⟩ (by
      intro ev rest r w ⟨hinv, hE, hrun⟩
      obtain ⟨st1, hstep, hrun'⟩ := EffRun_cons hrun
      refine wp_mono _ _ _ _ ?_ (wp_replayEvent hinv hE ev st1 hstep)
      rintro r' w' ⟨haf, hinv', hE'⟩
      exact ⟨hinv', hE', by rw [haf]; exact hrun'⟩)
  refine wp_mono _ _ _ _ ?_ hfold
  rintro r w1 ⟨hinv, hE, hrun⟩
  -- `EffRun st [] st'` is `st' = st`
  have haf : d.pending = r.1 := hrun
  rw [wp_bind]
  refine wp_mono _ _ _ _ ?_ (wp_encUpdateEncoding hinv hE)
  rintro e' w2 ⟨hE', hneed⟩
  refine (wp_pure _ _ _).2 ⟨⟨hinv, hE', ?_, Nat.le_refl _⟩, hneed, haf.symm, rfl, rfl, rfl⟩
  show EffRun r.1 (d.buffer.drop d.buffer.length) d.pending
  rw [List.drop_length]
  exact haf

end Crusta.DynAtt
