import Crusta.Model.Readers

/-!
# Character classes and keywords of the readers

`\s` and `\d` are range tables regenerated from the regex crate.  A statement about every code
point of a class is reduced to a Boolean test of the tables (`inRanges_sub`, `inRanges_disjoint`),
evaluated once.
-/

namespace Crusta.IO

theorem inRanges_iff (rs : List (Nat × Nat)) (c : Nat) :
    inRanges rs c = true ↔ ∃ r ∈ rs, r.1 ≤ c ∧ c ≤ r.2 := by
  simp only [inRanges, List.any_eq_true, Bool.and_eq_true, decide_eq_true_eq]

theorem inRanges_sub (rs ss : List (Nat × Nat))
    (h : (rs.all fun r => ss.any fun s => decide (s.1 ≤ r.1) && decide (r.2 ≤ s.2)) = true)
    (c : Nat) (hc : inRanges rs c = true) : inRanges ss c = true := by
  obtain ⟨r, hr, hr1, hr2⟩ := (inRanges_iff _ _).1 hc
  obtain ⟨s, hs, hrs⟩ := List.any_eq_true.1 (List.all_eq_true.1 h r hr)
  simp only [Bool.and_eq_true, decide_eq_true_eq] at hrs
  exact (inRanges_iff _ _).2 ⟨s, hs, Nat.le_trans hrs.1 hr1, Nat.le_trans hr2 hrs.2⟩

theorem inRanges_disjoint (rs ss : List (Nat × Nat))
    (h : (rs.all fun r => ss.all fun s => decide (r.2 < s.1) || decide (s.2 < r.1)) = true)
    (c : Nat) (hc : inRanges rs c = true) : inRanges ss c = false := by
  rw [Bool.eq_false_iff]
  intro hs
  obtain ⟨r, hr, hr1, hr2⟩ := (inRanges_iff _ _).1 hc
  obtain ⟨s, hs, hs1, hs2⟩ := (inRanges_iff _ _).1 hs
  have := List.all_eq_true.1 (List.all_eq_true.1 h r hr) s hs
  simp only [Bool.or_eq_true, decide_eq_true_eq] at this
  omega

theorem isWs_true_iff (c : Nat) : isWs c = true ↔
    (9 ≤ c ∧ c ≤ 13) ∨ c = 32 ∨ c = 133 ∨ c = 160 ∨ c = 5760 ∨ (8192 ≤ c ∧ c ≤ 8202) ∨
    c = 8232 ∨ c = 8233 ∨ c = 8239 ∨ c = 8287 ∨ c = 12288 := by
  have e1 : ∀ a, (a ≤ c ∧ c ≤ a) ↔ c = a := fun a => by omega
  have e2 : (8232 ≤ c ∧ c ≤ 8233) ↔ (c = 8232 ∨ c = 8233) := by omega
  simp only [isWs, inRanges, Gen.whiteSpaceRanges, List.any_cons, List.any_nil, Bool.or_false,
    Bool.or_eq_true, Bool.and_eq_true, decide_eq_true_eq, e1, e2, or_assoc]

theorem isWs_false_of (c : Nat) (h : 33 ≤ c ∧ c ≤ 132) : isWs c = false :=
  inRanges_disjoint [(33, 132)] Gen.whiteSpaceRanges (by decide) c
    ((inRanges_iff _ _).2 ⟨_, List.mem_singleton_self _, h⟩)

theorem isWs_space : isWs 32 = true := by decide
theorem isWs_97 : isWs 97 = false := by decide
theorem isWs_41 : isWs 41 = false := by decide
theorem isWs_44 : isWs 44 = false := by decide

theorem isIdStart_isIdChar (c : Nat) (h : isIdStart c = true) : isIdChar c = true := by
  simp only [isIdStart, Bool.or_eq_true] at h
  simp only [isIdChar, Bool.or_eq_true]
  exact Or.inl h

/-- `[_[:alpha:]\d]` as a range table -/
def idRanges : List (Nat × Nat) := [(95, 95), (65, 90), (97, 122)] ++ Gen.decimalRanges

theorem isIdChar_eq (c : Nat) : isIdChar c = inRanges idRanges c := by
  simp only [isIdChar, isAlphaA, isDigitU, idRanges, inRanges, List.any_append, List.any_cons,
    List.any_nil, Bool.or_false, Bool.or_assoc]
  congr 1
  rw [Bool.eq_iff_iff]
  simp only [beq_iff_eq, Bool.and_eq_true, decide_eq_true_eq]
  omega

theorem isWs_not_isIdChar (c : Nat) (h : isWs c = true) : isIdChar c = false := by
  rw [isIdChar_eq]
  exact inRanges_disjoint _ _ (by decide +kernel) c h

theorem isIdChar_not_isWs (c : Nat) (h : isIdChar c = true) : isWs c = false := by
  rw [Bool.eq_false_iff]; intro hw
  rw [isWs_not_isIdChar c hw] at h; cases h

/-- identifier characters are Unicode scalar values from `0` on: what the UTF-8 round trip of a
written label and the exclusion of the terminators `)`, `,`, `\n` need -/
theorem isIdChar_range (c : Nat) (h : isIdChar c = true) :
    48 ≤ c ∧ c < 0x110000 ∧ ¬ (0xD800 ≤ c ∧ c ≤ 0xDFFF) := by
  have := inRanges_sub idRanges [(48, 0xD7FF), (0xE000, 0x10FFFF)] (by decide +kernel) c (isIdChar_eq c ▸ h)
  simp only [inRanges, List.any_cons, List.any_nil, Bool.or_false, Bool.or_eq_true, Bool.and_eq_true,
    decide_eq_true_eq] at this
  omega

theorem not_isIdChar_of_lt (c : Nat) (h : c < 48) : isIdChar c = false := by
  rw [Bool.eq_false_iff]; intro hc
  exact absurd (isIdChar_range c hc).1 (Nat.not_le.2 h)

theorem isIdChar_41 : isIdChar 41 = false := not_isIdChar_of_lt _ (by decide)
theorem isIdChar_44 : isIdChar 44 = false := not_isIdChar_of_lt _ (by decide)

-- `decide +kernel`: plain `decide` proves these too; it has the elaborator evaluate the instance
-- before the kernel does, which is the dearer half
theorem strOf_arg : strOf "arg(" = [97, 114, 103, 40] := by decide +kernel
theorem strOf_att : strOf "att(" = [97, 116, 116, 40] := by decide +kernel

end Crusta.IO
