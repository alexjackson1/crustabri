import Crusta.Proofs.DynBuf
import Crusta.Proofs.StoreRows

/-!
# The queries of the dynamic solvers answer for the pending framework

A clean encoding meets `QueryEnc` (`CleanEnc.queryEnc`), so the SAT calls of the queries are those of
`DynSolveStep.lean`; the cache path (a hit is a correct answer, reading it does not panic) and the caching
of a computation are those of `DynBuf.lean`.  `QInv` is the invariant between two API calls as the queries
need it.  The theorems are `wp` statements: they hold for every run of the model on sound replies (`wp_sound`).
-/

namespace Crusta.Dyn
open Prog (addClause addClauses getNVars doSolve)
open Crusta.Store

/-- `EInv sem st (fun _ => False) e w` with the clause database a parameter: the tables `e` encode `st` in `Γ`
and no argument is dirty -/
structure CleanEnc (sem : DSem) (st : Store) (e : Enc) (Γ : Cnf) : Prop where
  sem_eq : e.sem = sem
  inv : ∃ T F, EncInv st e Γ T F (fun _ => False)

theorem models_ext {sem : DSem} {st : Store} {e : Enc} {Γ : Cnf} (hinv : st.Inv) (h : CleanEnc sem st e Γ)
    {ν : Asg} (hΓ : cnfTrue ν Γ = true) (hA : assumpsTrue ν e.assumptions = true) :
    EncExt sem st.g (setOf st e ν) := by
  obtain ⟨hs, T, F, hI⟩ := h
  subst hs
  by_cases hst : e.sem = .ST
  · rw [hst]; exact models_stable hinv hI (fun _ h => h) hst hΓ hA
  · have : EncExt e.sem st.g (setOf st e ν) = st.g.Complete (setOf st e ν) := by
      cases hh : e.sem <;> simp_all [EncExt]
    rw [this]; exact models_complete hinv hI (fun _ h => h) hst hΓ hA

theorem ext_model {sem : DSem} {st : Store} {e : Enc} {Γ : Cnf} (hinv : st.Inv) (h : CleanEnc sem st e Γ)
    {S : ASet} (hS : EncExt sem st.g S) :
    ∃ ν : Asg, cnfTrue ν Γ = true ∧ assumpsTrue ν e.assumptions = true ∧
      ∀ i, st.hasId i = true → ν (e.xv i) = S i := by
  obtain ⟨hs, T, F, hI⟩ := h
  subst hs
  by_cases hst : e.sem = .ST
  · rw [hst] at hS; exact ⟨_, stable_model hinv hI (fun _ h => h) hst hS⟩
  · have : EncExt e.sem st.g S = st.g.Complete S := by
      cases hh : e.sem <;> simp_all [EncExt]
    rw [this] at hS; exact ⟨_, complete_model hinv hI (fun _ h => h) hst hS⟩

theorem getD_eq_of_getElem? {m : Model} {i : Nat} {b : Option Bool} (h : m[i]? = some b) : m.getD i none = b := by
  rw [List.getD_eq_getElem?_getD, h]; rfl

theorem varToArg_eq_some (e : Enc) (v a : Nat) : e.varToArg v = some a ↔ e.ty v = .arg a := by
  unfold Enc.varToArg Enc.ty
  split
  · next id hid => rw [hid, Option.some.injEq, VarType.arg.injEq]
  · next hne => exact ⟨nofun, fun h => absurd h (hne a)⟩

theorem decode_of_inv {st : Store} {e : Enc} {Γ : Cnf} {T F : Nat → Bool} {d : Nat → Prop}
    (h : EncInv st e Γ T F d) : Decode st e.xv e.varToArg := by
  refine ⟨fun v a hd => ?_, fun a hl => ?_⟩
  · obtain ⟨hl, hav⟩ := h.ty_arg v a ((varToArg_eq_some e v a).1 hd)
    exact ⟨hl, xv_of_av hav⟩
  · obtain ⟨_, h1, hty, _⟩ := h.av_xv hl
    refine ⟨e.xv a - 1, (Nat.sub_add_cancel h1).symm, ?_⟩
    rw [Nat.sub_add_cancel h1]
    exact (varToArg_eq_some e _ a).2 hty

theorem argsWhere_live {st : Store} {e : Enc} {Γ : Cnf} {T F : Nat → Bool} {d : Nat → Prop}
    (h : EncInv st e Γ T F d) (m : Model) (p : Option Bool → Bool) : ∀ a ∈ e.argsWhere m p, st.hasId a = true :=
  (decode_of_inv h).live m p

theorem ext_eq_setOf {st : Store} {e : Enc} {Γ : Cnf} {T F : Nat → Bool} {d : Nat → Prop}
    (h : EncInv st e Γ T F d) (m : Model) : ofList (e.extension m) = setOf st e (asgOfModel m) :=
  (decode_of_inv h).ext_eq m

/-- the variable of a live argument occurs in the long clause of its attack clauses (stable semantics) resp. in
the exclusion clause with its attacker-disjunction variable -/
theorem argvar_in_db {st : Store} {e : Enc} {Γ : Cnf} {T F : Nat → Bool}
    (h : EncInv st e Γ T F (fun _ => False)) {a : Nat} (ha : st.hasId a = true) :
    Occurs Γ (e.xv a) := by
  by_cases hst : e.sem = .ST
  · obtain ⟨s, _, _, hcl⟩ := h.act_xv ha (fun h => h)
    refine ⟨[nl s, pl (e.xv a)] ++ ((attackersOf st a).map e.xv).map pl, hcl _ ?_, pl (e.xv a),
      List.mem_cons_of_mem _ List.mem_cons_self, rfl⟩
    rw [hst]
    exact List.mem_append_right _ List.mem_cons_self
  · exact ⟨_, ((h.av_xv ha).2.2.2 hst).2, nl (e.xv a), List.mem_cons_self, rfl⟩

theorem CleanEnc.queryEnc {sem : DSem} (hsem : sem ≠ .PR) {st : Store} {e : Enc} {Γ : Cnf} (hinv : st.Inv)
    (h : CleanEnc sem st e Γ) : QueryEnc sem st Γ e.assumptions e.xv e.varToArg := by
  obtain ⟨T, F, hI⟩ := h.inv
  exact ⟨decode_of_inv hI, fun a => argvar_in_db hI,
    fun ν hΓ hA => (isExt_iff_encExt hsem _ _).2 (models_ext hinv h hΓ hA),
    fun S hS => ext_model hinv h ((isExt_iff_encExt hsem _ _).1 hS)⟩

/-- every computation a query may still read (`Buf.tail`) is a true statement about the pending framework -/
def CacheSound (sem : DSem) (d : DState) : Prop :=
  ∀ c ∈ d.buffer.reverse.takeWhile (fun ev => !ev.isUpdate), CompSound sem d.pending c

/-- the invariant between two API calls as the queries need it (`pend_rows`: the grounded computation of the
preferred solver relies on duplicate-free index rows) -/
structure QInv (sem : DSem) (d : DState) (w : World) : Prop where
  dinv : DInv sem d w
  pend_inv : d.pending.Inv
  cache : CacheSound sem d
  pend_rows : d.pending.RowsNodup

theorem QInv.buf {sem : DSem} {d : DState} {w : World} (h : QInv sem d w) : BufInv sem d.buf :=
  ⟨h.pend_inv, h.dinv.sync, h.dinv.next_le, h.cache⟩

theorem EInv_congr {sem : DSem} {st : Store} {dirty : Nat → Prop} {e : Enc} {w w' : World}
    (hdb : w'.db 0 = w.db 0) (h : EInv sem st dirty e w) : EInv sem st dirty e w' := by
  obtain ⟨hs, T, F, hI⟩ := h
  exact ⟨hs, T, F, by rw [hdb]; exact hI⟩

/-- `BufInv.push` for `QInv`; the clause database may have changed, as long as it still encodes the framework
cleanly -/
theorem QInv_push_clean {sem : DSem} {d : DState} {w w' : World} (h : QInv sem d w) (hw : W0 w')
    (hclean : EInv sem d.af (fun _ => False) d.enc w')
    (hy : d.buf.Synced) {c : Event} (hc : c.isUpdate = false)
    (hsound : CompSound sem d.pending c) : QInv sem { d with buffer := d.buffer ++ [c] } w' :=
  have hb := h.buf.push hy hc hsound
  ⟨⟨hw, h.dinv.af_inv, hclean, h.dinv.disabled, hb.sync, hb.next_le, fun _ => hy.af_eq⟩, h.pend_inv, hb.cache, h.pend_rows⟩

theorem QInv_push {sem : DSem} {d : DState} {w w' : World} (h : QInv sem d w) (hw : W0 w') (hdb : w'.db 0 = w.db 0)
    (hy : d.buf.Synced) {c : Event} (hc : c.isUpdate = false)
    (hsound : CompSound sem d.pending c) : QInv sem { d with buffer := d.buffer ++ [c] } w' :=
  QInv_push_clean h hw (EInv_congr hdb h.dinv.clean) hy hc hsound

theorem wp_argLit {C : Prop} {sem : DSem} {d : DState} {w : World} (h : QInv sem d w) (hsync : d.af = d.pending)
    {l id : Nat} (hl : d.pending.Live id l) (Q : Nat → World → Prop) :
    wp C (d.argLit l) w Q ↔ Q (d.enc.xv id) w := by
  unfold DState.argLit
  rw [hsync, (getArg_eq_some h.pend_inv).2 hl]
  simp only
  obtain ⟨_, T, F, hI⟩ := h.dinv.clean
  obtain ⟨v, hv, _⟩ := hI.av_live id (by rw [hsync]; exact hasId_iff.2 ⟨l, hl⟩)
  have hv' : d.enc.argVar.getD id none = some v := hv
  have hxv : d.enc.xv id = v := by unfold Enc.xv; rw [hv]; rfl
  rw [hv', hxv]
  rfl

theorem wp_credSolve {C : Prop} {sem : DSem} (hsem : sem ≠ .PR) {d : DState} {w : World} (h : QInv sem d w)
    (hy : d.buf.Synced) {l id : Nat} (hl : d.pending.Live id l) :
    wp C (credSolve d l) w (fun r w' => QInv sem r.1 w' ∧ r.1.pending = d.pending ∧
      CredOK sem d.pending l r.2) := by
  have hsync : d.af = d.pending := hy.af_eq
  unfold credSolve
  rw [wp_bind, wp_argLit h hsync hl]
  have hx := CleanEnc.queryEnc hsem h.dinv.af_inv ⟨h.dinv.clean.1, h.dinv.clean.2⟩
  -- what is left of `credSolve d l` unfolds to `credSolveK` with this `ret`
  refine wp_credSolveK h.dinv.af_inv hx (hsync ▸ hl) (fun ev a => ({ d with buffer := d.buffer ++ [ev] }, a)) _
    fun r ev a hev hcs hok => ?_
  rw [hsync] at hcs hok
  exact ⟨QInv_push h (h.dinv.w0.step (.solve _ _ _ _)) (by rw [db_onReply, db_onSolve]) hy hev hcs, rfl, hok⟩

theorem wp_stSkepSolve {C : Prop} {d : DState} {w : World} (h : QInv .ST d w)
    (hy : d.buf.Synced) {l id : Nat} (hl : d.pending.Live id l) :
    wp C (stSkepSolve d l) w (fun r w' => QInv .ST r.1 w' ∧ r.1.pending = d.pending ∧
      SkepOK .ST d.pending l r.2) := by
  have hsync : d.af = d.pending := hy.af_eq
  unfold stSkepSolve
  rw [wp_bind, wp_argLit h hsync hl]
  have hx := CleanEnc.queryEnc (sem := .ST) nofun h.dinv.af_inv ⟨h.dinv.clean.1, h.dinv.clean.2⟩
  refine wp_skepSolveK h.dinv.af_inv hx (hsync ▸ hl) (fun ev a => ({ d with buffer := d.buffer ++ [ev] }, a)) _
    fun r ev a hev hcs hok => ?_
  rw [hsync] at hcs hok
  exact ⟨QInv_push h (h.dinv.w0.step (.solve _ _ _ _)) (by rw [db_onReply, db_onSolve]) hy hev hcs, rfl, hok⟩

theorem wp_fromCache {C : Prop} {sem : DSem} {d : DState} {w : World} (h : QInv sem d w) {b : Bool} {e : List Nat}
    (hit : d.buf.Cached e) (Q : DState × AccAns → World → Prop) (hQ : Q (d, ⟨b, some e⟩) w) :
    wp C (fromCache d b e) w Q := by
  unfold fromCache
  rw [wp_bind]
  exact h.buf.wp_cachedLabels (Or.inr h.dinv.tail_sync) hit w _ (fun _ => hQ)

theorem QInv_of_update {sem : DSem} {d d' : DState} {w w' : World} (h : QInv sem d w)
    (hd : DInv sem d' w') (hp : d'.pending = d.pending) (hb : d'.buffer = d.buffer) : QInv sem d' w' := by
  refine ⟨hd, by rw [hp]; exact h.pend_inv, ?_, by rw [hp]; exact h.pend_rows⟩
  intro c hc
  rw [hp]
  rw [hb] at hc
  exact h.cache c hc

theorem wp_recompute {C : Prop} {sem : DSem} {d : DState} {w : World} (h : QInv sem d w) {β : Type}
    (solve : DState → Prog β) (Q : β → World → Prop)
    (hs : ∀ d' w', QInv sem d' w' → d'.buf.Synced → d'.pending = d.pending → wp C (solve d') w' Q) :
    wp C (d.updateEncoding.bind solve) w Q := by
  rw [wp_bind]
  refine wp_mono _ _ _ _ ?_ (wp_updateEncoding h.dinv)
  rintro d' w' ⟨hd, haf, hp, hb, hn⟩
  exact hs d' w' (QInv_of_update h hd hp hb) (.of_updateEncoding haf hp hb hn) hp

theorem wp_credQuery {C : Prop} {sem : DSem} (hsem : sem ≠ .PR) {d : DState} {w : World} (h : QInv sem d w)
    {l id : Nat} (hl : d.pending.Live id l) :
    wp C (credQuery d l) w (fun r w' => QInv sem r.1 w' ∧ r.1.pending = d.pending ∧
      CredOK sem d.pending l r.2) := by
  unfold credQuery
  split
  · rename_i b e hc
    obtain ⟨rfl, hok, hit⟩ := h.buf.cred_hit hc
    exact wp_fromCache h hit _ ⟨h, rfl, hok⟩
  · refine wp_recompute h _ _ fun d' w' hq hy hp => ?_
    have := wp_credSolve (C := C) hsem hq hy (l := l) (id := id) (by rw [hp]; exact hl)
    rw [hp] at this
    exact this

theorem wp_stSkepQuery {C : Prop} {d : DState} {w : World} (h : QInv .ST d w) {l id : Nat} (hl : d.pending.Live id l) :
    wp C (stSkepQuery d l) w (fun r w' => QInv .ST r.1 w' ∧ r.1.pending = d.pending ∧
      SkepOK .ST d.pending l r.2) := by
  unfold stSkepQuery
  split
  · rename_i b e hc
    obtain ⟨rfl, hok, hit⟩ := h.buf.skep_hit hc
    exact wp_fromCache h hit _ ⟨h, rfl, hok⟩
  · refine wp_recompute h _ _ fun d' w' hq hy hp => ?_
    have := wp_stSkepSolve (C := C) hq hy (l := l) (id := id) (by rw [hp]; exact hl)
    rw [hp] at this
    exact this

end Crusta.Dyn
