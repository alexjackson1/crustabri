import Crusta.Proofs.EquivSound
import Crusta.Proofs.Deciders

/-!
# Completeness of the two special classes of the equivalence reduction

`EquivSound.lean` proves that the members of the class of kind `grounded` are in every complete
extension and the members of the class of kind `defeated` in none.  Here the converse: there is at
most one class of each of these kinds, the one lists the grounded extension and the other what the
grounded extension attacks.

The proof shows that the propagation from the unattacked arguments runs to a fixed point: the set of
propagated arguments is a complete extension.
-/

namespace Crusta.Eq
open Crusta

theorem special_of_mem {g d : List Nat} {ex : List Cls} {c : Cls} (hex : ∀ c ∈ ex, c.kind = Kind.other)
    (hc : c ∈ cl0 g d ++ ex) (hk : c.kind ≠ Kind.other) :
    c = ⟨Kind.grounded, g⟩ ∨ c = ⟨Kind.defeated, d⟩ := by
  rcases List.mem_append.1 hc with hc | hc
  · exact (mem_cl0.1 hc).imp And.right And.right
  · exact absurd (hex c hc) hk

theorem special_classes_unique (af : AF) (hwf : af.WF) :
    ∀ c1 ∈ computeClasses af, ∀ c2 ∈ computeClasses af, c1.kind = c2.kind → c1.kind ≠ .other → c1 = c2 := by
  intro c1 h1 c2 h2 hk hno
  obtain ⟨g, d, ex, _, hcc, hex⟩ := (computeClasses_spec af hwf).2
  rw [hcc] at h1 h2
  rcases special_of_mem hex h1 hno with rfl | rfl <;>
    rcases special_of_mem hex h2 (hk ▸ hno) with rfl | rfl
  · rfl
  · cases hk
  · cases hk
  · rfl

/-- the propagation from the unattacked arguments runs to a fixed point: what it propagates is the
grounded extension, what it defeats is what the grounded extension attacks -/
theorem propagate_unatt (af : AF) (hwf : af.WF) (g d : List Nat)
    (hp : propagate af (nAttacksTo af) (unatt af) = some (g, d)) :
    Grounded af (ofList g) ∧ ∀ x, x ∈ d ↔ ∃ q ∈ g, (q, x) ∈ af.atts := by
  obtain ⟨st, i, h, rfl, rfl, hproc, hor⟩ := (propagate_inv af hwf _ (unatt_lt af)).1 g d hp
  -- the fuel `af.n + 1` suffices: the propagated arguments are distinct
  have hlen : st.propagated.length ≤ i := hor.elim id fun e =>
    e ▸ Nat.le_succ_of_le (nodup_length_le af.n st.propagated (h.propNodup (unatt_nodup af)) h.flP.lt)
  have hout : ∀ q ∈ st.propagated, ∀ t, (q, t) ∈ af.atts → t ∈ st.defeated := fun q hq t hqt =>
    hproc q (by rwa [List.take_of_length_le hlen]) (AF.mem_attackedOf.2 hqt)
  have hmem : ∀ a, ofList st.propagated a = true ↔ a ∈ st.propagated := fun _ => ofList_true
  refine ⟨⟨⟨⟨⟨fun a ha => h.flP.lt a ((hmem a).1 ha), ?_⟩, ?_⟩, ?_⟩, ?_⟩,
    fun x => ⟨h.defAtt x, fun hx => hx.elim fun q hq => hout q hq.1 x hq.2⟩⟩
  · rintro a ha ⟨b, hba, hb⟩
    exact h.disj a (hout b ((hmem b).1 hb) a hba) ((hmem a).1 ha)
  · intro a ha b hba
    by_cases hau : a ∈ unatt af
    · exact absurd hba (unatt_no_attacker af hwf a hau b)
    · obtain ⟨q, hq, hqb⟩ :=
        h.defAtt b (h.attackers_defeated hau (h.zeroP a ((hmem a).1 ha) hau) b hba)
      exact ⟨q, hqb, (hmem q).2 hq⟩
  · intro a ha hdef
    refine (hmem a).2 (Classical.byContradiction fun hna => hna ?_)
    have hau : a ∉ unatt af := fun hh => hna (h.argsIn a hh)
    refine h.zero (fun x hx h0 => (mem_unatt af hwf x).2 ⟨hx, h0⟩) a ha (h.cnt_zero hau fun b hba => ?_)
    obtain ⟨q, hqb, hq⟩ := hdef b hba
    exact hout q ((hmem q).1 hq) b hqb
  · intro T hT a ha
    exact h.sem T hT (fun x hx => unattacked_in af hwf x hx T hT) a ((hmem a).1 ha)

theorem computeClasses_grounded (af : AF) (hwf : af.WF) :
    ∃ g d ex, (Grounded af (ofList g) ∧ ∀ x, x ∈ d ↔ ∃ q ∈ g, (q, x) ∈ af.atts) ∧
      computeClasses af = cl0 g d ++ ex ∧ ∀ c ∈ ex, c.kind = Kind.other := by
  obtain ⟨g, d, ex, hp, hcc, hex⟩ := (computeClasses_spec af hwf).2
  exact ⟨g, d, ex, propagate_unatt af hwf g d hp, hcc, hex⟩

set_option linter.unusedVariables false in
/-- every argument that is in every complete extension is a member of the class of kind
`grounded` (the bound `ha` is not used: `hall` implies it) -/
theorem grounded_arguments_together (af : AF) (hwf : af.WF) (a : Nat) (ha : a < af.n)
    (hall : ∀ S, Complete af S → S a = true) :
    ∃ c ∈ computeClasses af, c.kind = .grounded ∧ a ∈ c.members := by
  obtain ⟨g, d, ex, hf, hcc, _⟩ := computeClasses_grounded af hwf
  have hag : a ∈ g := (ofList_true (l := g) (a := a)).1 (hall _ hf.1.1)
  exact ⟨⟨.grounded, g⟩, hcc ▸ List.mem_append_left _ (mem_cl0.2 (Or.inl ⟨List.ne_nil_of_mem hag, rfl⟩)),
    rfl, hag⟩

set_option linter.unusedVariables false in
/-- every argument attacked by an argument that is in every complete extension is a member of
the class of kind `defeated` (the bounds `ha`, `hb` are not used: `hall` and `hatt` imply them) -/
theorem defeated_arguments_together (af : AF) (hwf : af.WF) (a b : Nat) (ha : a < af.n) (hb : b < af.n)
    (hall : ∀ S, Complete af S → S a = true) (hatt : (a, b) ∈ af.atts) :
    ∃ c ∈ computeClasses af, c.kind = .defeated ∧ b ∈ c.members := by
  obtain ⟨g, d, ex, hf, hcc, _⟩ := computeClasses_grounded af hwf
  have hbd : b ∈ d := (hf.2 b).2 ⟨a, (ofList_true (l := g) (a := a)).1 (hall _ hf.1.1), hatt⟩
  exact ⟨⟨.defeated, d⟩, hcc ▸ List.mem_append_left _ (mem_cl0.2 (Or.inr ⟨List.ne_nil_of_mem hbd, rfl⟩)),
    rfl, hbd⟩

theorem same_kind_same_index (af : AF) (hwf : af.WF) (c1 c2 : Cls) (hc1 : c1 ∈ computeClasses af)
    (hc2 : c2 ∈ computeClasses af) (hk : c1.kind = c2.kind) (hno : c1.kind ≠ .other)
    (a b : Nat) (ha : a ∈ c1.members) (hb : b ∈ c2.members) :
    (initToReduced af.n (computeClasses af)).getD a 0 =
      (initToReduced af.n (computeClasses af)).getD b 0 := by
  have h := computeClasses_good af hwf
  obtain ⟨i, hi⟩ := List.getElem?_of_mem hc1
  rw [initToReduced_spec af.n _ h.nodup h.lt i c1 hi a ha, initToReduced_spec af.n _ h.nodup h.lt i c1 hi b
    (special_classes_unique af hwf c1 hc1 c2 hc2 hk hno ▸ hb)]

/-- two arguments that are in every complete extension are mapped to the same
argument of the reduced framework -/
theorem grounded_same_index (af : AF) (hwf : af.WF) (a b : Nat) (ha : a < af.n) (hb : b < af.n)
    (halla : ∀ S, Complete af S → S a = true) (hallb : ∀ S, Complete af S → S b = true) :
    (initToReduced af.n (computeClasses af)).getD a 0 =
      (initToReduced af.n (computeClasses af)).getD b 0 := by
  obtain ⟨c1, hc1, k1, m1⟩ := grounded_arguments_together af hwf a ha halla
  obtain ⟨c2, hc2, k2, m2⟩ := grounded_arguments_together af hwf b hb hallb
  exact same_kind_same_index af hwf c1 c2 hc1 hc2 (k1.trans k2.symm) (k1 ▸ nofun) a b m1 m2

/-- two arguments attacked by arguments that are in every complete extension are
mapped to the same argument of the reduced framework -/
theorem defeated_same_index (af : AF) (hwf : af.WF) (a a' b b' : Nat)
    (ha : a < af.n) (ha' : a' < af.n) (hb : b < af.n) (hb' : b' < af.n)
    (halla : ∀ S, Complete af S → S a = true) (halla' : ∀ S, Complete af S → S a' = true)
    (hatt : (a, b) ∈ af.atts) (hatt' : (a', b') ∈ af.atts) :
    (initToReduced af.n (computeClasses af)).getD b 0 =
      (initToReduced af.n (computeClasses af)).getD b' 0 := by
  obtain ⟨c1, hc1, k1, m1⟩ := defeated_arguments_together af hwf a b ha hb halla hatt
  obtain ⟨c2, hc2, k2, m2⟩ := defeated_arguments_together af hwf a' b' ha' hb' halla' hatt'
  exact same_kind_same_index af hwf c1 c2 hc1 hc2 (k1.trans k2.symm) (k1 ▸ nofun) b b' m1 m2

/-- the class of kind `grounded` lists the grounded extension, and the class of kind `defeated`
exactly the arguments the grounded extension attacks -/
theorem grounded_class_is_grounded (af : AF) (hwf : af.WF) :
    (∀ c ∈ computeClasses af, c.kind = .grounded → Grounded af (ofList c.members)) ∧
    (∀ c ∈ computeClasses af, c.kind = .defeated →
      ∀ G, Grounded af G → ∀ x, x ∈ c.members ↔ AttackedBy af G x) := by
  obtain ⟨g, d, ex, ⟨hgr, hd⟩, hcc, hex⟩ := computeClasses_grounded af hwf
  constructor
  · intro c hc hk
    rcases special_of_mem hex (hcc ▸ hc) (by rw [hk]; nofun) with rfl | rfl
    · exact hgr
    · cases hk
  · intro c hc hk G hG x
    -- `G` and `ofList g` are both grounded, hence equal
    have hGg : ∀ y, G y = true ↔ y ∈ g := fun y =>
      ⟨fun hy => (ofList_true (l := g) (a := y)).1 (hG.2 _ hgr.1 y hy), fun hy => hgr.2 G hG.1 y ((ofList_true (l := g) (a := y)).2 hy)⟩
    rcases special_of_mem hex (hcc ▸ hc) (by rw [hk]; nofun) with rfl | rfl
    · cases hk
    · exact (hd x).trans ⟨fun hx => hx.imp fun q hq => ⟨hq.2, (hGg q).2 hq.1⟩,
        fun hx => hx.imp fun q hq => ⟨(hGg q).1 hq.2, hq.1⟩⟩

end Crusta.Eq

section
open Crusta Crusta.Eq
#print axioms special_classes_unique
#print axioms grounded_arguments_together
#print axioms defeated_arguments_together
#print axioms grounded_same_index
#print axioms defeated_same_index
#print axioms grounded_class_is_grounded
end
