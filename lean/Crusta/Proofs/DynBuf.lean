import Crusta.Proofs.DynSolveStep
import Crusta.Proofs.DynReplay
import Crusta.Model.DynAtt

/-!
# The buffer of a dynamic solver, without its encoder

`BufferedDynamicConstraintsEncoder` keeps, whatever encoder it wraps, the solver's own framework `af`,
the eagerly validated `pending` framework, the event buffer and the replay position.  `Buf` is that
part of `DState` and of `DynAtt.ADState`, `Buf.update` the update entry point and `BufInv` what holds of a
buffer between two API calls.  What an update call (`BufInv.update`), the caching of a computation
(`BufInv.push`) and a hit of a cache lookup (`BufInv.cred_hit`, `BufInv.skep_hit`) do to it is proved here
once: an encoder contributes only its own invariant, which none of these touches.
-/

namespace Crusta.Dyn
open Crusta.Store

theorem mem_takeWhile_head {ev : Event} {rest : List Event} (hev : ev.isUpdate = false) :
    ev ∈ (ev :: rest).takeWhile (fun ev => !ev.isUpdate) := by
  simp [hev]

theorem mem_takeWhile_cons {c ev : Event} {rest : List Event} (hev : ev.isUpdate = false)
    (hc : c ∈ rest.takeWhile (fun ev => !ev.isUpdate)) :
    c ∈ (ev :: rest).takeWhile (fun ev => !ev.isUpdate) := by
  simp only [List.takeWhile_cons, hev, Bool.not_false, if_true, List.mem_cons]
  exact Or.inr hc

-- In the two lemmas on the cache lookups `change` exposes the branch taken: unfolding by the equations
-- of the lookup would make Lean generate them first, which takes longer than the proofs.
theorem cachedCred_spec : ∀ (evs : List Event) (l : Nat) (b : Bool) (e : List Nat),
    cachedCred evs l = (some b, some e) →
      b = true ∧ ∃ c ∈ evs.takeWhile (fun ev => !ev.isUpdate), ∃ acc ref,
        (c = .cred acc ref (some e) ∨ c = .skep acc ref (some e)) ∧ l ∈ acc := by
  intro evs l b e
  induction evs with
  | nil => intro h; cases h
  | cons ev rest ih =>
    intro h
    cases ev with
    | cred acc ref ext =>
      change ite _ _ _ = _ at h
      by_cases hc : (acc.contains l && ext.isSome) = true
      · rw [if_pos hc] at h
        rw [Bool.and_eq_true, List.contains_iff_mem] at hc
        cases h
        exact ⟨rfl, _, mem_takeWhile_head rfl, acc, ref, Or.inl rfl, hc.1⟩
      · rw [if_neg hc] at h
        change ite _ _ _ = _ at h
        by_cases hr : ref.contains l = true
        · rw [if_pos hr] at h; cases h
        · rw [if_neg hr] at h
          obtain ⟨hb, c, hc, hrest⟩ := ih h
          exact ⟨hb, c, mem_takeWhile_cons rfl hc, hrest⟩
    | skep acc ref ext =>
      change ite _ _ _ = _ at h
      by_cases hc : (acc.contains l && ext.isSome) = true
      · rw [if_pos hc] at h
        rw [Bool.and_eq_true, List.contains_iff_mem] at hc
        cases h
        exact ⟨rfl, _, mem_takeWhile_head rfl, acc, ref, Or.inr rfl, hc.1⟩
      · rw [if_neg hc] at h
        obtain ⟨hb, c, hc, hrest⟩ := ih h
        exact ⟨hb, c, mem_takeWhile_cons rfl hc, hrest⟩
    | newArg _ => cases h
    | remArg _ => cases h
    | newAtt _ _ => cases h
    | remAtt _ _ => cases h

theorem cachedSkep_spec : ∀ (evs : List Event) (l : Nat) (b : Bool) (e : List Nat),
    cachedSkep evs l = (some b, some e) →
      b = false ∧ ∃ c ∈ evs.takeWhile (fun ev => !ev.isUpdate), ∃ acc ref,
        (c = .cred acc ref (some e) ∨ c = .skep acc ref (some e)) ∧ l ∈ ref := by
  intro evs l b e
  induction evs with
  | nil => intro h; cases h
  | cons ev rest ih =>
    intro h
    cases ev with
    | skep acc ref ext =>
      change ite _ _ _ = _ at h
      by_cases ha : acc.contains l = true
      · rw [if_pos ha] at h; cases h
      · rw [if_neg ha] at h
        change ite _ _ _ = _ at h
        by_cases hc : (ref.contains l && ext.isSome) = true
        · rw [if_pos hc] at h
          rw [Bool.and_eq_true, List.contains_iff_mem] at hc
          cases h
          exact ⟨rfl, _, mem_takeWhile_head rfl, acc, ref, Or.inr rfl, hc.1⟩
        · rw [if_neg hc] at h
          obtain ⟨hb, c, hc, hrest⟩ := ih h
          exact ⟨hb, c, mem_takeWhile_cons rfl hc, hrest⟩
    | cred acc ref ext =>
      change ite _ _ _ = _ at h
      by_cases hc : (ref.contains l && ext.isSome) = true
      · rw [if_pos hc] at h
        rw [Bool.and_eq_true, List.contains_iff_mem] at hc
        cases h
        exact ⟨rfl, _, mem_takeWhile_head rfl, acc, ref, Or.inl rfl, hc.1⟩
      · rw [if_neg hc] at h
        obtain ⟨hb, c, hc, hrest⟩ := ih h
        exact ⟨hb, c, mem_takeWhile_cons rfl hc, hrest⟩
    | newArg _ => cases h
    | remArg _ => cases h
    | newAtt _ _ => cases h
    | remAtt _ _ => cases h

structure Buf where
  af : Store
  pending : Store
  buffer : List Event
  next : Nat

/-- the computations a query may still read: those after the last update -/
def Buf.tail (b : Buf) : List Event := b.buffer.reverse.takeWhile (fun ev => !ev.isUpdate)

/-- an addition is buffered only when it made the framework grow: the tests
`self.pending_af.n_arguments() > n_arguments` and `self.pending_af.n_attacks() > n_attacks` of
`buffered_dynamic_constraints_encoder.rs` and `buffered_dynamic_constraints_encoder_attacks.rs` -/
def grew (st p : Store) : StoreOp → Bool
  | .newArg _ => decide (p.nArguments > st.nArguments)
  | .newAtt _ _ => decide (p.nAttacks > st.nAttacks)
  | _ => true

/-- mirrors `DState.update` and `DynAtt.ADState.update` of the model (`Model/Dyn.lean`, `Model/DynAtt.lean`),
which spell this function out operation by operation on their own state (`update_buf`) -/
def Buf.update (b : Buf) (op : StoreOp) : Buf × UpdRes :=
  match b.pending.step op with
  | .ok p =>
    if grew b.pending p op then ({ b with pending := p, buffer := b.buffer ++ [Event.ofOp op] }, .ok)
    else ({ b with pending := p }, .ok)
  | .err _ => (b, .err)
  | .panic => (b, .panic)

/-- what holds of the buffer between two API calls -/
structure BufInv (sem : DSem) (b : Buf) : Prop where
  pend_inv : b.pending.Inv
  sync : EffRun b.af (b.buffer.drop b.next) b.pending
  next_le : b.next ≤ b.buffer.length
  cache : ∀ c ∈ b.tail, CompSound sem b.pending c

theorem eff_iff_grew {st p : Store} {op : StoreOp} : Eff st op p ↔ st.step op = .ok p ∧ grew st p op = true := by
  unfold Eff grew
  cases op <;> simp

theorem EffRun_append : ∀ (evs : List Event) (st st1 st2 : Store) (ev : Event) (op : StoreOp),
    EffRun st evs st1 → Event.op ev = some op → Eff st1 op st2 → EffRun st (evs ++ [ev]) st2 := by
  intro evs
  induction evs with
  | nil =>
    rintro st st1 st2 ev op rfl hop heff
    show match Event.op ev with | none => _ | some op => _
    rw [hop]
    exact ⟨st2, heff, rfl⟩
  | cons e rest ih =>
    intro st st1 st2 ev op h hop heff
    obtain ⟨sta, h1, h2⟩ := EffRun_cons h
    show match Event.op e with | none => _ | some op => _
    cases he : Event.op e with
    | none => rw [he] at h1; subst h1; exact ih _ st1 st2 ev op h2 hop heff
    | some op' => rw [he] at h1; exact ⟨sta, h1, ih sta st1 st2 ev op h2 hop heff⟩

theorem Buf.tail_update (b : Buf) (p : Store) (op : StoreOp) :
    ({ b with pending := p, buffer := b.buffer ++ [Event.ofOp op] } : Buf).tail = [] := by
  simp [Buf.tail, Event.isUpdate_ofOp op]

/-- the call reports what the store reports on the pending framework; it changes nothing (an error, or an
addition of what is there), or it buffers an explicit update of the pending framework -/
theorem BufInv.update {sem : DSem} {b : Buf} (h : BufInv sem b) (op : StoreOp) :
    (b.pending.step op = .ok b.pending ∧ b.update op = (b, .ok)) ∨
    (b.pending.step op = .err b.pending ∧ b.update op = (b, .err)) ∨
    ∃ p, b.pending.step op = .ok p ∧ UpdBy b.pending op p ∧
      b.update op = ({ b with pending := p, buffer := b.buffer ++ [Event.ofOp op] }, .ok) ∧
      BufInv sem { b with pending := p, buffer := b.buffer ++ [Event.ofOp op] } := by
  unfold Buf.update
  rcases step_by h.pend_inv op with he | ⟨he, hadd⟩ | ⟨p, he, hu⟩
  · exact Or.inr (Or.inl ⟨he, by rw [he]⟩)
  · refine Or.inl ⟨he, ?_⟩
    rw [he]
    -- an addition that leaves the store as it is did not make it grow
    rcases hadd with ⟨l, rfl⟩ | ⟨la, lb, rfl⟩ <;> simp [grew]
  · have hg : grew b.pending p op = true := by
      cases hu with
      | pushArg _ => exact decide_eq_true (len_pushArg h.pend_inv _)
      | pushAtt _ _ _ => exact decide_eq_true (nAttacks_pushAtt h.pend_inv _ _)
      | dropAtt _ _ _ _ _ _ _ => rfl
      | dropArg _ => rfl
    refine Or.inr (Or.inr ⟨p, he, hu, by rw [he]; simp only [hg, if_true],
      Upd.inv h.pend_inv ⟨op, hu⟩, ?_, ?_, ?_⟩)
    · show EffRun b.af ((b.buffer ++ [Event.ofOp op]).drop b.next) p
      rw [List.drop_append_of_le_length h.next_le]
      exact EffRun_append _ _ _ _ _ _ h.sync (Event.op_ofOp op) (eff_iff_grew.2 ⟨he, hg⟩)
    · show b.next ≤ (b.buffer ++ [Event.ofOp op]).length
      rw [List.length_append]; exact Nat.le_trans h.next_le (Nat.le_add_right _ _)
    · intro c hc; rw [b.tail_update p op] at hc; cases hc

/-- nothing is left to replay: the state in which a query makes its SAT call (`update_encoding` establishes it) -/
structure Buf.Synced (b : Buf) : Prop where
  af_eq : b.af = b.pending
  next_eq : b.next = b.buffer.length

/-- from the postcondition of `updateEncoding` (`wp_updateEncoding` of either model) -/
theorem Buf.Synced.of_updateEncoding {b : Buf} {p : Store} {evs : List Event} (haf : b.af = p) (hp : b.pending = p)
    (hb : b.buffer = evs) (hn : b.next = evs.length) : b.Synced :=
  ⟨haf.trans hp.symm, hn.trans (congrArg List.length hb).symm⟩

theorem BufInv.push {sem : DSem} {b : Buf} (h : BufInv sem b) (hy : b.Synced) {c : Event} (hc : c.isUpdate = false) (hsound : CompSound sem b.pending c) :
    BufInv sem { b with buffer := b.buffer ++ [c] } := by
  refine ⟨h.pend_inv, ?_, ?_, ?_⟩
  · show EffRun b.af ((b.buffer ++ [c]).drop b.next) b.pending
    rw [hy.next_eq, List.drop_append_of_le_length (Nat.le_refl _), List.drop_length, List.nil_append]
    show match Event.op c with | none => _ | some op => _
    rw [op_none_of_not_update hc]
    exact hy.af_eq.symm
  · show b.next ≤ (b.buffer ++ [c]).length
    rw [List.length_append]; exact Nat.le_trans h.next_le (Nat.le_add_right _ _)
  · intro c' hc'
    have : ({ b with buffer := b.buffer ++ [c] } : Buf).tail = c :: b.tail := by
      simp [Buf.tail, hc]
    rw [this] at hc'
    rcases List.mem_cons.1 hc' with rfl | hc'
    · exact hsound
    · exact h.cache c' hc'

/-- `e` is the extension recorded by a computation that a query may still read -/
def Buf.Cached (b : Buf) (e : List Nat) : Prop :=
  ∃ c ∈ b.tail, ∃ acc ref, c = .cred acc ref (some e) ∨ c = .skep acc ref (some e)

theorem BufInv.cache_sound {sem : DSem} {b : Buf} (h : BufInv sem b) {c : Event} (hcm : c ∈ b.tail)
    {acc ref e : List Nat} (hcc : c = .cred acc ref (some e) ∨ c = .skep acc ref (some e)) :
    IsExt sem b.pending.g (ofList e) ∧ (∀ l ∈ acc, ∃ id, b.pending.Live id l ∧ id ∈ e) ∧
      (∀ l ∈ ref, ∀ id, b.pending.Live id l → id ∉ e) := by
  rcases hcc with rfl | rfl <;> exact h.cache _ hcm e rfl

/-- reading the labels of a cached extension does not panic (unless panics are tolerated, `C`): when
the solver still holds the framework it was computed for (`hts`), its ids are ids of that framework -/
theorem BufInv.wp_cachedLabels {C : Prop} {sem : DSem} {b : Buf} (h : BufInv sem b)
    (hts : C ∨ (b.tail ≠ [] → b.af = b.pending)) {e : List Nat} (hit : b.Cached e) (w : World)
    (Q : List Nat → World → Prop) (hQ : ∀ ls, Q ls w) : wp C (needLabels b.af e) w Q := by
  obtain ⟨c, hcm, acc, ref, hcc⟩ := hit
  rcases hts with hC | hts
  · unfold needLabels
    cases labelsOf b.af e with
    | none => exact hC
    | some ls => exact hQ ls
  · have hext := (h.cache_sound hcm hcc).1
    refine wp_needLabels _ _ _ _ (fun i hi => ?_) (fun ls _ => hQ ls)
    rw [hts (List.ne_nil_of_mem hcm)]
    exact isExt_live hext i (List.contains_iff_mem.2 hi)

theorem BufInv.cred_hit {sem : DSem} {b : Buf} (h : BufInv sem b) {l : Nat} {bb : Bool} {e : List Nat}
    (hc : cachedCred b.buffer.reverse l = (some bb, some e)) :
    bb = true ∧ CredOK sem b.pending l ⟨true, some e⟩ ∧ b.Cached e := by
  obtain ⟨hb, c, hcm, acc, ref, hcc, hlacc⟩ := cachedCred_spec _ _ _ _ hc
  refine ⟨hb, fun id' hl' => ?_, c, hcm, acc, ref, hcc⟩
  obtain ⟨hext, hacc, _⟩ := h.cache_sound hcm hcc
  obtain ⟨id'', hl'', hin⟩ := hacc l hlacc
  obtain rfl : id'' = id' := h.pend_inv.label_inj id'' id' l hl'' hl'
  exact ⟨fun _ => ⟨e, rfl, hext, hin⟩, fun hf => (nomatch hf)⟩

theorem BufInv.skep_hit {sem : DSem} {b : Buf} (h : BufInv sem b) {l : Nat} {bb : Bool} {e : List Nat}
    (hc : cachedSkep b.buffer.reverse l = (some bb, some e)) :
    bb = false ∧ SkepOK sem b.pending l ⟨false, some e⟩ ∧ b.Cached e := by
  obtain ⟨hb, c, hcm, acc, ref, hcc, hlref⟩ := cachedSkep_spec _ _ _ _ hc
  refine ⟨hb, fun id' hl' => ?_, c, hcm, acc, ref, hcc⟩
  obtain ⟨hext, _, href⟩ := h.cache_sound hcm hcc
  exact ⟨fun hf => (nomatch hf), fun _ => ⟨e, rfl, hext, href l hlref id' hl'⟩⟩

def DState.buf (d : DState) : Buf := ⟨d.af, d.pending, d.buffer, d.next⟩

theorem DState.update_buf (d : DState) (op : StoreOp) :
    d.update op = ({ d with pending := (d.buf.update op).1.pending, buffer := (d.buf.update op).1.buffer },
      (d.buf.update op).2) := by
  cases op with
  | newArg l =>
    by_cases hc : (d.pending.newArgument l).nArguments > d.pending.nArguments <;>
      simp [DState.update, Buf.update, Store.step, DState.buf, grew, Event.ofOp, hc]
  | remArg l =>
    simp only [DState.update, Buf.update, Store.step, DState.buf, grew, Event.ofOp]
    cases d.pending.removeArgument l <;> rfl
  | newAtt a b =>
    simp only [DState.update, Buf.update, Store.step, DState.buf, grew, Event.ofOp]
    cases d.pending.newAttack a b with
    | ok p => by_cases hc : p.nAttacks > d.pending.nAttacks <;> simp [hc]
    | err _ => rfl
    | panic => rfl
  | remAtt a b =>
    simp only [DState.update, Buf.update, Store.step, DState.buf, grew, Event.ofOp]
    cases d.pending.removeAttack a b <;> rfl

end Crusta.Dyn

namespace Crusta.DynAtt
open Crusta.Dyn Crusta.Store

def ADState.buf (d : ADState) : Buf := ⟨d.af, d.pending, d.buffer, d.next⟩

theorem ADState.update_buf (d : ADState) (op : StoreOp) :
    d.update op = ({ d with pending := (d.buf.update op).1.pending, buffer := (d.buf.update op).1.buffer },
      (d.buf.update op).2) := by
  cases op with
  | newArg l =>
    by_cases hc : (d.pending.newArgument l).nArguments > d.pending.nArguments <;>
      simp [ADState.update, Buf.update, Store.step, ADState.buf, grew, Event.ofOp, hc]
  | remArg l =>
    simp only [ADState.update, Buf.update, Store.step, ADState.buf, grew, Event.ofOp]
    cases d.pending.removeArgument l <;> rfl
  | newAtt a b =>
    simp only [ADState.update, Buf.update, Store.step, ADState.buf, grew, Event.ofOp]
    cases d.pending.newAttack a b with
    | ok p => by_cases hc : p.nAttacks > d.pending.nAttacks <;> simp [hc]
    | err _ => rfl
    | panic => rfl
  | remAtt a b =>
    simp only [ADState.update, Buf.update, Store.step, ADState.buf, grew, Event.ofOp]
    cases d.pending.removeAttack a b <;> rfl

end Crusta.DynAtt
