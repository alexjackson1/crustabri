import Crusta.Proofs.DynPR
import Crusta.Proofs.DynBuf

/-!
# Every reachable state of a dynamic solver, every query, every sound reply list

`Reach`: the states reachable from a fresh solver by updates and by queries run on sound replies.
`reach_inv` + `query_ok`: in every such state the pending framework is the one obtained by applying the
accepted updates, and every answer is correct for it.  The update path does not involve the encoder
(`update_preserves` is `BufInv.update`, `DynBuf.lean`); `query_spec` is one query in the calculus, for every
reading of the crash nodes.
-/

namespace Crusta.Dyn
open Crusta.Store

theorem encInv_init (sem : DSem) (d : Nat → Prop) :
    EncInv Store.empty ({ sem := sem } : Enc) [] (fun _ => false) (fun _ => false) d := by
  have hty : ∀ v, ({ sem := sem } : Enc).ty v = .ignored := by
    intro v
    unfold Enc.ty
    cases v with
    | zero => rfl
    | succ n => rfl
  have hid : ∀ i, Store.empty.hasId i = false := fun i => rfl
  constructor
  · show 1 ≤ 1; omega
  · rfl
  · rfl
  · intro i hi; rw [hid] at hi; cases hi
  · intro i s hs; simp [Enc.sv] at hs
  · intro v i hv; rw [hty] at hv; cases hv
  · intro v i hv; rw [hty] at hv; cases hv
  · intro v i hv; rw [hty] at hv; cases hv
  · intro l
    constructor
    · intro h; simp at h
    · rintro ⟨s, i, _, ht⟩; rw [hty] at ht; cases ht
  · simp
  · intro v hv; cases hv
  · intro v hv; cases hv
  · intro v ⟨h, _⟩; cases h
  · intro c hc; simp at hc
  · intro i hi; rw [hid] at hi; cases hi
  · intro v i hv; rw [hty] at hv; cases hv

theorem QInv_init (sem : DSem) : QInv sem (DState.init sem) ({} : World).onNew := by
  refine ⟨⟨⟨by simp [World.onNew], Bounded_onNew Bounded_empty⟩, inv_empty, ⟨rfl, _, _, encInv_init sem _⟩, rfl, rfl,
    Nat.le_refl _, fun h => (h rfl).elim⟩, inv_empty, ?_, rows_empty⟩
  intro c hc
  simp [DState.init] at hc

/-- **the update entry points** (C09): the result is the store's, an error or a redundant update
changes nothing, and the invariant is kept -/
theorem update_preserves {sem : DSem} {d : DState} {w : World} (h : QInv sem d w) (op : StoreOp) :
    QInv sem (d.update op).1 w ∧
    ((d.update op).2 = .ok ∧ d.pending.step op = .ok (d.update op).1.pending ∨
     (d.update op).2 = .err ∧ d.pending.step op = .err d.pending ∧ (d.update op).1 = d) ∧
    ((d.update op).1.pending = d.pending → (d.update op).1 = d) := by
  rw [DState.update_buf]
  rcases h.buf.update op with ⟨hok, hd⟩ | ⟨herr, hd⟩ | ⟨p, hok, hu, hd, hb⟩ <;> rw [hd]
  · exact ⟨h, Or.inl ⟨rfl, hok⟩, fun _ => rfl⟩
  · exact ⟨h, Or.inr ⟨rfl, herr, rfl⟩, fun _ => rfl⟩
  · exact ⟨⟨⟨h.dinv.w0, h.dinv.af_inv, h.dinv.clean, h.dinv.disabled, hb.sync, hb.next_le,
      fun hne => absurd (d.buf.tail_update p op) hne⟩, hb.pend_inv, hb.cache, step_rows h.pend_inv h.pend_rows op _ hok⟩,
      Or.inl ⟨rfl, hok⟩, fun heq => absurd heq hu.ne⟩

/-- the number of iterations of the search loop of the preferred solver is bounded by this function
of the number of argument ids ever issued for the framework (generously: `2 ^ n + 1` iterations
suffice, `subsets_succ_le_prFuel`; the fuel exists in the model only, so nothing depends on the constant) -/
def prFuel (st : Store) : Nat := 3 * 2 ^ st.labels.length + 2

theorem subsets_succ_le_prFuel (st : Store) : (subsets st.labels.length).length + 1 ≤ prFuel st := by
  rw [length_subsets]; unfold prFuel; omega

/-- the queries a dynamic solver offers: the complete solver has no skeptical entry point and the preferred
one no credulous one (`unimplemented!()`, a crash node of `query`) -/
def Supported : DSem → DQuery → Prop
  | .CO, .cred => True
  | .ST, _ => True
  | .PR, .skep => True
  | _, _ => False

/-- enough fuel for the model's loop (only the preferred solver has one) -/
def FuelOK (sem : DSem) (st : Store) (fuel : Nat) : Prop := sem = .PR → prFuel st ≤ fuel

/-- **one query on a state satisfying the invariant**, all three semantics, for every reading `C` of the
crash nodes.  `ht`: either crashes are tolerated, or the query is one the solver offers and the model's
loop has fuel enough; then no crash node is reachable.  `C = True` is partial correctness, `C = False`
total correctness -/
theorem query_spec {C : Prop} {sem : DSem} {fuel : Nat} {d : DState} {w : World} (h : QInv sem d w)
    (q : DQuery) (ht : C ∨ Supported sem q ∧ FuelOK sem d.pending fuel)
    {l id : Nat} (hl : d.pending.Live id l) :
    wp C (query fuel d q l) w (fun r w' => QInv sem r.1 w' ∧ r.1.pending = d.pending ∧
      AnswerOK sem d.pending q l r.2) := by
  unfold query
  rw [h.dinv.clean.1]
  cases sem with
  | PR =>
    cases q with
    | cred => exact ht.elim (fun hC => hC) (fun hs => hs.1.elim)
    | skep =>
      exact wp_mono _ _ _ _ (fun _ _ hh => hh.1) (wp_prSkepQuery_calls fuel _ h hl (length_le_subsets d.pending)
        (ht.imp (fun hC => hC) (fun hs => Nat.le_trans (subsets_succ_le_prFuel _) (hs.2 rfl))))
  | CO =>
    cases q with
    | cred => exact wp_credQuery (by simp) h hl
    | skep => exact ht.elim (fun hC => hC) (fun hs => hs.1.elim)
  | ST =>
    cases q with
    | cred => exact wp_credQuery (by simp) h hl
    | skep => exact wp_stSkepQuery h hl

theorem query_ok {sem : DSem} {fuel : Nat} {d : DState} {w : World} (h : QInv sem d w)
    (q : DQuery) {l id : Nat} (hl : d.pending.Live id l)
    {rs : List Reply} (hs : RunSound (query fuel d q l) rs w) {d' : DState} {a : AccAns} {w' : World}
    (hrun : interp (query fuel d q l) rs w = (.done (d', a), w')) :
    QInv sem d' w' ∧ d'.pending = d.pending ∧ AnswerOK sem d.pending q l a :=
  wp_sound _ rs w w' (d', a) _ (query_spec h q (Or.inl trivial) hl) hs hrun

/-- the states reachable from a fresh solver: by update calls, and by queries about existing
arguments that ran to completion on sound replies; indexed by the update calls made so far -/
inductive Reach (sem : DSem) (fuel : Nat) : List StoreOp → DState → World → Prop
  | init : Reach sem fuel [] (DState.init sem) ({} : World).onNew
  | update {ops : List StoreOp} {d : DState} {w : World} (op : StoreOp) :
      Reach sem fuel ops d w → Reach sem fuel (ops ++ [op]) (d.update op).1 w
  | query {ops : List StoreOp} {d : DState} {w : World} (q : DQuery) (l id : Nat) (rs : List Reply)
      (d' : DState) (a : AccAns) (w' : World) :
      Reach sem fuel ops d w → d.pending.Live id l → RunSound (query fuel d q l) rs w →
      interp (query fuel d q l) rs w = (.done (d', a), w') → Reach sem fuel ops d' w'

/-- **every reachable state satisfies the invariant**, and its pending framework is the store
obtained by applying the update calls made so far (rejected ones having no effect) -/
theorem reach_inv {sem : DSem} {fuel : Nat} {ops : List StoreOp} {d : DState} {w : World}
    (h : Reach sem fuel ops d w) :
    QInv sem d w ∧ d.enc.sem = sem ∧ runOps Store.empty ops = some d.pending := by
  suffices e : QInv sem d w ∧ runOps Store.empty ops = some d.pending from ⟨e.1, e.1.dinv.clean.1, e.2⟩
  induction h with
  | init => exact ⟨QInv_init sem, rfl⟩
  | @update ops d w op _ ih =>
    obtain ⟨hq, hrun⟩ := ih
    obtain ⟨hq', hres, _⟩ := update_preserves hq op
    refine ⟨hq', ?_⟩
    rcases hres with ⟨_, hok⟩ | ⟨_, herr, hd⟩
    · exact runOps_snoc (Or.inl hok) hrun
    · rw [hd]; exact runOps_snoc (Or.inr herr) hrun
  | @query ops d w q l id rs d' a w' _ hl hs hrun ih =>
    obtain ⟨hq', hp, _⟩ := query_ok ih.1 q hl hs hrun
    exact ⟨hq', by rw [hp]; exact ih.2⟩

end Crusta.Dyn
