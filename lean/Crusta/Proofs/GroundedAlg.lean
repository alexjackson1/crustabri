import Crusta.Proofs.ListAux
import Crusta.Proofs.Deciders
import Crusta.Proofs.GExist
import Crusta.Proofs.AttackRows

/-!
# The worklist algorithm `groundedV` computes the grounded extension

`groundedV_spec`: on every view presenting a graph, the result lists the least complete extension.
Leastness is an invariant (the members lie in every complete extension); conflict-freeness follows
from it, a complete extension existing (`G.exists_grounded`).  `GrOK`: what that says on the view of a compact
framework, in the terms of `Spec/AF.lean`.
-/

namespace Crusta

/-- the unmarked entries of `l`, counted with multiplicity -/
def und (df : List Bool) (l : List Nat) : Nat := l.countP (fun b => !(df.getD b false))

theorem und_set (df : List Bool) (t : Nat) (ht : t < df.length) (hf : df.getD t false = false)
    (l : List Nat) : und (df.set t true) l + l.count t = und df l := by
  induction l with
  | nil => rfl
  | cons b l ih =>
    -- the head counts on the left for being unmarked and different from `t`, or for being `t`
    have key : (if (!(df.set t true).getD b false) = true then 1 else 0) + (if (b == t) = true then 1 else 0)
        = if (!df.getD b false) = true then 1 else 0 := by
      by_cases hb : b = t
      · rw [hb, getD_set_eq _ _ _ _ ht, hf, beq_self_eq_true]; rfl
      · rw [getD_set_ne _ _ _ _ _ (Ne.symm hb), beq_false_of_ne hb]; rfl
    unfold und at ih ⊢
    rw [List.countP_cons, List.countP_cons, List.count_cons, ← ih, ← key]
    exact Nat.add_add_add_comm ..

theorem und_zero {df : List Bool} {l : List Nat} (h : und df l = 0) :
    ∀ b ∈ l, df.getD b false = true := by
  intro b hb
  have := List.countP_eq_zero.1 h b hb
  simpa using this

theorem und_pos {df : List Bool} {l : List Nat} (h : 1 ≤ und df l) :
    ∃ b ∈ l, df.getD b false = false := by
  obtain ⟨b, hb, hp⟩ := List.countP_pos_iff.1 h
  exact ⟨b, hb, by simpa using hp⟩

theorem und_replicate (n : Nat) (l : List Nat) : und (List.replicate n false) l = l.length :=
  List.countP_eq_length.2 fun b _ => by rw [getD_replicate_self]; rfl

/-- invariant of the algorithm; `N` = length of the two vectors, above every live id; `ds` = the
targets of the freshly defeated argument still to be walked by `grDefend`.  A counter is the number
of unmarked attackers plus the pending decrements (`cnt_ok`); the members lie in every complete
extension (`ext_least`), which gives leastness and, one complete extension existing, conflict-freeness -/
structure GrInv (v : FwView) (g : G) (N : Nat) (st : GrSt) (ds : List Nat) : Prop where
  ext_nodup : st.ext.Nodup
  ext_live : ∀ a ∈ st.ext, g.live a = true
  len_def : st.defeated.length = N
  len_cnt : st.cnt.length = N
  def_sound : ∀ t, st.defeated.getD t false = true → ∃ a ∈ st.ext, g.att a t
  cnt_ok : ∀ d, g.live d = true → d ∉ st.ext →
    st.cnt.getD d 0 = und st.defeated (v.attTo d) + ds.count d ∧ 1 ≤ st.cnt.getD d 0
  ext_pend : ∀ d ∈ st.ext, d ∉ ds
  ext_att : ∀ d ∈ st.ext, ∀ b, g.att b d → st.defeated.getD b false = true
  ext_least : ∀ T, g.Complete T → ∀ a ∈ st.ext, T a = true

variable {v : FwView} {g : G} {N : Nat}

theorem GrInv.cnt_tail {st : GrSt} {d d' : Nat} {ds : List Nat} (h : GrInv v g N st (d :: ds))
    (hl : g.live d' = true) (hn : d' ∉ st.ext) (hne : d ≠ d') :
    st.cnt.getD d' 0 = und st.defeated (v.attTo d') + ds.count d' ∧ 1 ≤ st.cnt.getD d' 0 := by
  obtain ⟨hc, h1⟩ := h.cnt_ok d' hl hn
  exact ⟨by rw [hc, List.count_cons_of_ne hne], h1⟩

theorem GrInv.push {st : GrSt} {d : Nat} {ds : List Nat} (hv : v.Ok g)
    (h : GrInv v g N st (d :: ds)) (hlive : g.live d = true) (hnot : d ∉ st.ext)
    (hund : und st.defeated (v.attTo d) = 0) (hds : d ∉ ds) :
    GrInv v g N { st with ext := st.ext ++ [d] } ds := by
  have hatt : ∀ b, g.att b d → st.defeated.getD b false = true :=
    fun b hb => und_zero hund b ((hv.attTo_mem d b).2 hb)
  refine ⟨nodup_concat h.ext_nodup hnot, forall_mem_concat h.ext_live hlive, h.len_def, h.len_cnt, ?_, ?_, ?_,
    forall_mem_concat h.ext_att hatt, fun T hT => forall_mem_concat (h.ext_least T hT) ?_⟩
  · intro t ht
    obtain ⟨a, ha, hat⟩ := h.def_sound t ht
    exact ⟨a, List.mem_append_left _ ha, hat⟩
  · intro d' hl hn
    exact h.cnt_tail hl (fun hm => hn (List.mem_append_left _ hm))
      (fun e => hn (List.mem_append_right _ (List.mem_singleton.2 e.symm)))
  · exact forall_mem_concat (fun d' hd' hm => h.ext_pend d' hd' (List.mem_cons_of_mem _ hm)) hds
  · -- every attacker of `d` is marked, hence attacked by a member, which is in `T`: `T` defends `d`
    refine hT.2 d hlive fun b hb => ?_
    obtain ⟨a, ha, hab⟩ := h.def_sound b (hatt b hb)
    exact ⟨a, hab, h.ext_least T hT a ha⟩

theorem GrInv.dec {st : GrSt} {d : Nat} {ds : List Nat}
    (h : GrInv v g N st (d :: ds)) (hdN : d < N) (h2 : 2 ≤ st.cnt.getD d 0) :
    GrInv v g N { st with cnt := st.cnt.set d (st.cnt.getD d 0 - 1) } ds := by
  refine ⟨h.ext_nodup, h.ext_live, h.len_def, (List.length_set ..).trans h.len_cnt, h.def_sound, ?_,
    fun d' hd' hm => h.ext_pend d' hd' (List.mem_cons_of_mem _ hm), h.ext_att, h.ext_least⟩
  intro d' hl hn
  show (st.cnt.set d _).getD d' 0 = und st.defeated (v.attTo d') + ds.count d' ∧
    1 ≤ (st.cnt.set d _).getD d' 0
  by_cases e : d = d'
  · subst e
    rw [getD_set_eq _ _ _ _ (h.len_cnt ▸ hdN)]
    have hc := (h.cnt_ok d hl hn).1
    rw [List.count_cons_self] at hc
    exact ⟨by rw [hc]; rfl, Nat.le_sub_of_add_le h2⟩
  · rw [getD_set_ne _ _ _ _ _ e]
    exact h.cnt_tail hl hn e

theorem grDefend_inv (hv : v.Ok g) (hN : ∀ a, g.live a = true → a < N) :
    ∀ (ds : List Nat) (st : GrSt), GrInv v g N st ds → (∀ d ∈ ds, g.live d = true) →
      GrInv v g N (grDefend st ds) [] ∧ (grDefend st ds).defeated = st.defeated ∧
        ∃ l, (grDefend st ds).ext = st.ext ++ l := by
  intro ds
  induction ds with
  | nil => exact fun st h _ => ⟨h, rfl, [], (List.append_nil _).symm⟩
  | cons d ds ih =>
    intro st h hl
    have hlive : g.live d = true := hl d List.mem_cons_self
    have hnot : d ∉ st.ext := fun hm => h.ext_pend d hm List.mem_cons_self
    obtain ⟨hc, h1⟩ := h.cnt_ok d hlive hnot
    rw [List.count_cons_self] at hc
    have hl' : ∀ d' ∈ ds, g.live d' = true := fun d' hd' => hl d' (List.mem_cons_of_mem _ hd')
    unfold grDefend
    by_cases hone : st.cnt.getD d 0 = 1
    · rw [if_pos (beq_iff_eq.2 hone)]
      -- `und + (count + 1) = 1`: no unmarked attacker is left and `d` is not pending again
      have h0 := Nat.eq_zero_of_add_eq_zero (Nat.succ.inj (hc.symm.trans hone))
      have hds : d ∉ ds := fun hm => absurd (List.count_pos_iff.2 hm) (h0.2 ▸ Nat.lt_irrefl 0)
      obtain ⟨i1, i2, l, i3⟩ := ih _ (h.push hv hlive hnot h0.1 hds) hl'
      exact ⟨i1, i2, d :: l, i3.trans (List.append_assoc ..)⟩
    · rw [if_neg (fun e => hone (beq_iff_eq.1 e))]
      exact ih _ (h.dec (hN d hlive) (Nat.lt_of_le_of_ne h1 (Ne.symm hone))) hl'

theorem GrInv.mark {st : GrSt} {a t : Nat} (hv : v.Ok g) (hN : ∀ a, g.live a = true → a < N)
    (h : GrInv v g N st []) (hund : st.defeated.getD t false = false) (ha : a ∈ st.ext) (hat : g.att a t) :
    GrInv v g N { st with defeated := st.defeated.set t true } (v.attFrom t) := by
  have htN : t < st.defeated.length := h.len_def ▸ hN t (hv.wf a t hat).2
  refine ⟨h.ext_nodup, h.ext_live, (List.length_set ..).trans h.len_def, h.len_cnt, ?_, ?_, ?_,
    fun d hd b hb => getD_set_true_mono _ _ _ (h.ext_att d hd b hb), h.ext_least⟩
  · intro t' ht'
    by_cases e : t = t'
    · exact e ▸ ⟨a, ha, hat⟩
    · exact h.def_sound t' ((getD_set_ne _ _ _ _ _ e).symm.trans ht')
  · intro d hl hn
    obtain ⟨hc, h1⟩ := h.cnt_ok d hl hn
    refine ⟨?_, h1⟩
    show st.cnt.getD d 0 = und (st.defeated.set t true) (v.attTo d) + (v.attFrom t).count d
    rw [hv.count t d, und_set _ _ htN hund, hc]
    rfl
  · intro d hd hm
    have := h.ext_att d hd t ((hv.attFrom_mem t d).1 hm)
    rw [hund] at this; cases this

theorem grDefeat_inv (hv : v.Ok g) (hN : ∀ a, g.live a = true → a < N) (a : Nat) :
    ∀ (ts : List Nat) (st : GrSt), GrInv v g N st [] → a ∈ st.ext → (∀ t ∈ ts, g.att a t) →
      GrInv v g N (grDefeat v st ts) [] ∧
      (∀ t, (st.defeated.getD t false = true ∨ t ∈ ts) →
        (grDefeat v st ts).defeated.getD t false = true) ∧
      ∃ l, (grDefeat v st ts).ext = st.ext ++ l := by
  intro ts
  induction ts with
  | nil =>
    exact fun st h _ _ => ⟨h, fun t ht => ht.elim id nofun, [], (List.append_nil _).symm⟩
  | cons t ts ih =>
    intro st h ha hts
    have hts' : ∀ t' ∈ ts, g.att a t' := fun t' ht' => hts t' (List.mem_cons_of_mem _ ht')
    unfold grDefeat
    by_cases hdef : st.defeated.getD t false = true
    · rw [if_pos hdef]
      obtain ⟨i1, i2, i3⟩ := ih st h ha hts'
      refine ⟨i1, fun t' ht' => i2 t' ?_, i3⟩
      rcases ht' with ht' | ht'
      · exact Or.inl ht'
      · rcases List.mem_cons.1 ht' with e | e
        · exact Or.inl (e ▸ hdef)
        · exact Or.inr e
    · rw [if_neg hdef]
      have hat : g.att a t := hts t List.mem_cons_self
      have hm := h.mark hv hN (Bool.not_eq_true _ ▸ hdef) ha hat
      obtain ⟨d1, d2, l1, d3⟩ := grDefend_inv hv hN (v.attFrom t) _ hm
        (fun d hd => (hv.wf t d ((hv.attFrom_mem t d).1 hd)).2)
      obtain ⟨i1, i2, l2, i3⟩ := ih _ d1 (d3 ▸ List.mem_append_left _ ha) hts'
      refine ⟨i1, fun t' ht' => i2 t' ?_, l1 ++ l2, i3.trans (d3 ▸ List.append_assoc ..)⟩
      rw [d2]
      show (st.defeated.set t true).getD t' false = true ∨ t' ∈ ts
      rcases ht' with ht' | ht'
      · exact Or.inl (getD_set_true_mono _ _ _ ht')
      · rcases List.mem_cons.1 ht' with e | e
        · rw [e]
          exact Or.inl (getD_set_eq _ _ _ _ (h.len_def ▸ hN t (hv.wf a t hat).2))
        · exact Or.inr e

/-- the first `q` members of `ext` are fully processed: all their targets are marked -/
def Proc (g : G) (st : GrSt) (q : Nat) : Prop :=
  ∀ j a t, j < q → st.ext[j]? = some a → g.att a t → st.defeated.getD t false = true

theorem Proc.all {st : GrSt} {q : Nat} (hp : Proc g st q) (hq : st.ext.length ≤ q) :
    ∀ a ∈ st.ext, ∀ t, g.att a t → st.defeated.getD t false = true := fun a ha t hat =>
  let ⟨j, hj⟩ := List.mem_iff_getElem?.1 ha
  hp j a t (Nat.lt_of_lt_of_le (List.getElem?_eq_some_iff.1 hj).1 hq) hj hat

theorem grLoop_inv (hv : v.Ok g) (hN : ∀ a, g.live a = true → a < N) :
    ∀ (fuel i : Nat) (st : GrSt), GrInv v g N st [] → Proc g st i → N + 1 ≤ fuel + i →
      GrInv v g N (grLoop v fuel i st) [] ∧
      ∀ a ∈ (grLoop v fuel i st).ext, ∀ t, g.att a t → (grLoop v fuel i st).defeated.getD t false = true := by
  intro fuel
  induction fuel with
  | zero =>
    intro i st h hp hf
    exact ⟨h, hp.all (Nat.le_trans (nodup_length_le N st.ext h.ext_nodup fun a ha => hN a (h.ext_live a ha))
      (Nat.le_of_succ_le ((Nat.zero_add i).symm ▸ hf)))⟩
  | succ fuel ih =>
    intro i st h hp hf
    unfold grLoop
    cases hsome : st.ext[i]? with
    | none => exact ⟨h, hp.all (List.getElem?_eq_none_iff.1 hsome)⟩
    | some a =>
      have hi : i < st.ext.length := (List.getElem?_eq_some_iff.1 hsome).1
      obtain ⟨i1, i2, l, i3⟩ := grDefeat_inv hv hN a (v.attFrom a) st h (List.mem_of_getElem? hsome)
        (fun t ht => (hv.attFrom_mem a t).1 ht)
      refine ih (i + 1) _ i1 (fun j a' t hj ha' hat => ?_) (Nat.add_right_comm fuel 1 i ▸ hf)
      rw [i3, List.getElem?_append_left (Nat.lt_of_lt_of_le hj hi)] at ha'
      by_cases e : j = i
      · cases (e ▸ ha').symm.trans hsome
        exact i2 t (Or.inr ((hv.attFrom_mem _ t).2 hat))
      · exact i2 t (Or.inl (hp j a' t (Nat.lt_of_le_of_ne (Nat.le_of_lt_succ hj) e) ha' hat))

/-- the record `groundedV` starts its loop from, word for word, so that `groundedV_spec` passes it
after unfolding -/
def grInit (v : FwView) (m : Nat) : GrSt :=
  { ext := v.live.filter (fun a => (v.attTo a).length == 0)
    defeated := List.replicate (m + 1) false
    cnt := (List.range (m + 1)).map (fun a => if v.isLive a then (v.attTo a).length else 0) }

theorem grInit_inv (hv : v.Ok g) (m : Nat) (hN : ∀ a, g.live a = true → a < m + 1) :
    GrInv v g (m + 1) (grInit v m) [] := by
  have hmem : ∀ d, d ∈ (grInit v m).ext ↔ (g.live d = true ∧ v.attTo d = []) := fun d =>
    List.mem_filter.trans (and_congr (hv.live_mem d) (beq_iff_eq.trans List.length_eq_zero_iff))
  have hext : ∀ d, d ∈ (grInit v m).ext → ∀ b, ¬ g.att b d := by
    intro d hd b hb
    have hb' := (hv.attTo_mem d b).2 hb
    rw [((hmem d).1 hd).2] at hb'; cases hb'
  refine ⟨hv.live_nodup.sublist List.filter_sublist, fun a ha => ((hmem a).1 ha).1, List.length_replicate,
    (List.length_map _).trans List.length_range, ?_, ?_, fun _ _ => List.not_mem_nil,
    fun d hd b hb => absurd hb (hext d hd b),
    fun T hT d hd => hT.2 d ((hmem d).1 hd).1 fun b hb => absurd hb (hext d hd b)⟩
  · intro t ht
    have ht' : (List.replicate (m + 1) false).getD t false = true := ht
    rw [getD_replicate_self] at ht'; cases ht'
  · intro d hl hn
    have hlen : (v.attTo d).length ≠ 0 := fun e => hn ((hmem d).2 ⟨hl, List.length_eq_zero_iff.1 e⟩)
    show ((List.range (m + 1)).map _).getD d 0 = und (List.replicate (m + 1) false) (v.attTo d) + 0 ∧
      1 ≤ ((List.range (m + 1)).map _).getD d 0
    rw [getD_map_range, if_pos (hN d hl), hv.isLive d, hl, und_replicate, if_pos rfl]
    exact ⟨rfl, Nat.pos_of_ne_zero hlen⟩

variable {st : GrSt}

theorem final_spec (hv : v.Ok g) (hfin : g.Fin) (h : GrInv v g N st [])
    (hp : ∀ a ∈ st.ext, ∀ t, g.att a t → st.defeated.getD t false = true) : g.Grounded (ofList st.ext) := by
  refine G.grounded_of_closed ((g.exists_grounded hfin).imp fun _ h => h.1)
    (fun a ha => h.ext_live a (ofList_true.1 ha)) (fun T hT a ha => h.ext_least T hT a (ofList_true.1 ha))
    (fun d hd b hb => ?_) fun d hl hdef => ?_
  · obtain ⟨c, hc, hcb⟩ := h.def_sound b (h.ext_att d (ofList_true.1 hd) b hb)
    exact ⟨c, hcb, ofList_true.2 hc⟩
  · -- a live argument outside `ext` still has an unmarked attacker, which nothing in `ext` attacks
    refine Classical.byContradiction fun hnot => ?_
    obtain ⟨hc, h1⟩ := h.cnt_ok d hl (fun hm => hnot (ofList_true.2 hm))
    obtain ⟨b, hb, hbu⟩ := und_pos (hc ▸ h1 : 1 ≤ und st.defeated (v.attTo d) + 0)
    obtain ⟨c, hcb, hc'⟩ := hdef b ((hv.attTo_mem d b).1 hb)
    have := hp c (ofList_true.1 hc') b hcb
    rw [hbu] at this; cases this

theorem groundedV_spec (v : FwView) (g : G) (h : v.Ok g) :
    g.Grounded (ofList (groundedV v)) ∧ (groundedV v).Nodup ∧ ∀ a ∈ groundedV v, g.live a = true := by
  unfold groundedV
  cases hm : v.maxId with
  | none =>
    have hdead : ∀ a, ¬ g.live a = true := fun a ha => by
      obtain ⟨m, hm', _⟩ := h.maxId_ge a ha
      rw [hm] at hm'; cases hm'
    exact ⟨⟨⟨⟨⟨nofun, nofun⟩, nofun⟩, fun a ha => absurd ha (hdead a)⟩, fun _ _ => nofun⟩,
      List.nodup_nil, nofun⟩
  | some m =>
    have hN : ∀ a, g.live a = true → a < m + 1 := fun a ha => by
      obtain ⟨m', hm', hle⟩ := h.maxId_ge a ha
      cases hm.symm.trans hm'
      exact Nat.lt_succ_of_le hle
    -- fuel `m + 2`: `ext` is duplicate-free and below `m + 1`, so at most `m + 1` rounds read a member
    -- and one more reads `none`
    obtain ⟨f1, f2⟩ := grLoop_inv h hN (m + 2) 0 (grInit v m) (grInit_inv h m hN)
      (fun j a t hj => absurd hj (Nat.not_lt_zero _)) (Nat.le_refl _)
    exact ⟨final_spec h ⟨m + 1, hN⟩ f1 f2, f1.ext_nodup, f1.ext_live⟩

/-- what the solver proofs need from the grounded algorithm on a compact framework -/
def GrOK (af : AF) : Prop :=
  Complete af (ofList (groundedV af.view)) ∧ (∀ a ∈ groundedV af.view, a < af.n) ∧
    ∀ T, Complete af T → SubsetS (ofList (groundedV af.view)) T

theorem GrOK_of_wf (af : AF) (hwf : af.WF) : GrOK af := by
  obtain ⟨hgr, _, hlive⟩ := groundedV_spec af.view af.g (AF.view_ok af hwf)
  refine ⟨(AF.g_complete af _).1 hgr.1, ?_, ?_⟩
  · intro a ha
    have := hlive a ha
    simpa [AF.g] using this
  · intro T hT
    exact hgr.2 T ((AF.g_complete af T).2 hT)

end Crusta
