import Crusta.Spec.AF

/-!
# Maximal members exist

Going strictly up in a family lowers a measure (for ⊆ on a framework: `outside`, the number of
arguments outside the set), so every member lies below a maximal one (`exists_max_above`, for ⊆:
`exists_subMax`).

`SubL T E`, the set `T` lies inside the list `E`, is how the searches for maximal members compare a
member with a blocked list; it stands here, below both the static and the dynamic search.
-/

namespace Crusta

def outside (n : Nat) (S : ASet) : Nat := ((List.range n).filter (fun a => !S a)).length

theorem countP_lt_of (p q : Nat → Bool) (a : Nat) (hq : q a = true) (hpa : p a = false) :
    ∀ (l : List Nat), (∀ x ∈ l, p x = true → q x = true) → a ∈ l → l.countP p < l.countP q := by
  intro l
  induction l with
  | nil => exact fun _ => nofun
  | cons x xs ih =>
    intro hpq h
    have hxs := fun y hy => hpq y (List.mem_cons_of_mem x hy)
    rw [List.countP_cons, List.countP_cons]
    rcases List.mem_cons.1 h with rfl | h'
    · have := List.countP_mono_left (l := xs) (p := p) (q := q) hxs
      rw [hq, hpa, if_pos rfl, if_neg Bool.false_ne_true]
      exact Nat.lt_succ_of_le this
    · have := ih hxs h'
      cases hpx : p x with
      | false => rw [if_neg Bool.false_ne_true]; exact Nat.lt_of_lt_of_le this (Nat.le_add_right _ _)
      | true => rw [hpq x List.mem_cons_self hpx, if_pos rfl]; exact Nat.succ_lt_succ this

theorem outside_lt {n : Nat} {S T : ASet} (hsub : ∀ a, a < n → S a = true → T a = true)
    (h : ∃ a, a < n ∧ S a = false ∧ T a = true) : outside n T < outside n S := by
  obtain ⟨a, ha, hS, hT⟩ := h
  unfold outside
  rw [← List.countP_eq_length_filter, ← List.countP_eq_length_filter]
  refine countP_lt_of _ _ a (by rw [hS]; rfl) (by rw [hT]; rfl) _ (fun x hx hTx => ?_) (List.mem_range.2 ha)
  cases hSx : S x with
  | false => rfl
  | true => rw [hsub x (List.mem_range.1 hx) hSx] at hTx; exact hTx

theorem exists_max_above {α : Type} (P : α → Prop) (Le : α → α → Prop) (μ : α → Nat) (hrefl : ∀ S, Le S S)
    (htrans : ∀ {S T U}, Le S T → Le T U → Le S U) (hμ : ∀ S T, P T → Le S T → ¬ Le T S → μ T < μ S) :
    ∀ S, P S → ∃ M, P M ∧ Le S M ∧ ∀ T, P T → Le M T → Le T M := by
  suffices H : ∀ k S, μ S ≤ k → P S → ∃ M, P M ∧ Le S M ∧ ∀ T, P T → Le M T → Le T M from
    fun S hS => H _ S (Nat.le_refl _) hS
  intro k
  induction k with
  | zero =>
    intro S hk hS
    exact ⟨S, hS, hrefl S, fun T hT hle => Classical.byContradiction fun hn =>
      absurd (Nat.lt_of_lt_of_le (hμ S T hT hle hn) hk) (Nat.not_lt_zero _)⟩
  | succ k ih =>
    intro S hk hS
    by_cases hmax : ∀ T, P T → Le S T → Le T S
    · exact ⟨S, hS, hrefl S, hmax⟩
    · simp only [Classical.not_forall] at hmax
      obtain ⟨T, hT, hST, hn⟩ := hmax
      obtain ⟨M, hM, hTM, hmaxM⟩ := ih T (Nat.le_of_lt_succ (Nat.lt_of_lt_of_le (hμ S T hT hST hn) hk)) hT
      exact ⟨M, hM, htrans hST hTM, hmaxM⟩

theorem exists_subMax {n : Nat} (P : ASet → Prop) (hsub : ∀ S, P S → ∀ a, S a = true → a < n) (S : ASet)
    (hS : P S) : ∃ M, P M ∧ SubsetS S M ∧ ∀ T, P T → SubsetS M T → SubsetS T M := by
  refine exists_max_above P SubsetS (outside n) (fun _ _ h => h)
    (fun h1 h2 a ha => h2 a (h1 a ha)) (fun S T hT hST hn => ?_) S hS
  simp only [SubsetS, Classical.not_forall, Bool.not_eq_true] at hn
  obtain ⟨a, hTa, hSa⟩ := hn
  exact outside_lt (fun a _ => hST a) ⟨a, hsub T hT a hTa, hSa, hTa⟩

def SubL (T : ASet) (E : List Nat) : Prop := ∀ a, T a = true → a ∈ E

end Crusta
