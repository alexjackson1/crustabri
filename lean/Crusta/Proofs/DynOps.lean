import Crusta.Proofs.DynInv
import Crusta.Proofs.DynStore

/-!
# The encoder operations preserve the invariant

One preservation lemma for `EncInv` per encoder operation that changes the tables (`inv_retireSel`,
`inv_withSel`, `inv_newArg`, `inv_forgotten`) and a frame lemma (`EncInv.frame`) for what leaves them alone.
The `wp` theorems the replay builds on are stated with `EInv`.
-/

namespace Crusta.Dyn
open Prog (addClause addClauses getNVars doSolve)

theorem wp_newSolverVar {C : Prop} (e : Enc) (t : VarType) (w : World) (Q : Nat × Enc → World → Prop) :
    wp C (newSolverVar e t) w Q ↔ Q (allocVar e t (w.nVarsOf 0)) (w.onNVars 0) := Iff.rfl

theorem wp_foldProg {α β : Type} {C : Prop} (f : β → α → Prog β) (I : List α → β → World → Prop) :
    ∀ (l : List α) (b : β) (w : World), I l b w →
      (∀ a rest b w, I (a :: rest) b w → wp C (f b a) w (fun b' w' => I rest b' w')) →
      wp C (foldProg f l b) w (fun b' w' => I [] b' w') := by
  intro l
  induction l with
  | nil => exact fun _ _ h0 _ => h0
  | cons a rest ih =>
    intro b w h0 step
    show wp C ((f b a).bind (fun b' => foldProg f rest b')) w _
    rw [wp_bind]
    exact wp_mono _ _ _ _ (fun b' w' h' => ih b' w' h' step) (step a rest b w h0)

/-- every variable of the database of solver 0 is at most its `n_vars`, so that a freshly allocated
variable occurs nowhere -/
def W0 (w : World) : Prop := 0 < w.solvers.length ∧ w.Bounded

theorem W0.db_le {w : World} (h : W0 w) : ∀ c ∈ w.db 0, ∀ l ∈ c, l.var ≤ w.nVarsOf 0 := h.2 0 h.1

theorem W0.occurs_le {w : World} (h : W0 w) {v : Nat} (ho : Occurs (w.db 0) v) : v ≤ w.nVarsOf 0 := by
  obtain ⟨c, hc, l, hl, rfl⟩ := ho
  exact h.db_le c hc l hl

theorem W0.step {w w' : World} (h : W0 w) (hs : w.Step w') : W0 w' :=
  ⟨Nat.lt_of_lt_of_le h.1 hs.len_le, h.2.step hs⟩

theorem wp_W0 {α : Type} {C : Prop} (p : Prog α) : ∀ (w : World) (Q : α → World → Prop),
    W0 w → wp C p w Q → wp C p w (fun a w' => W0 w' ∧ Q a w') :=
  wp_inv (fun _ _ hs h => h.step hs) p

theorem allocVar_eq (e : Enc) (t : VarType) (nv : Nat) : allocVar e t nv =
    (e.vars.length + (nv + 1 - e.vars.length),
      { e with vars := e.vars ++ List.replicate (nv + 1 - e.vars.length) .ignored ++ [t] }) := by
  unfold allocVar
  simp only [List.length_append, List.length_singleton, Nat.add_sub_cancel, List.length_replicate]

theorem ty_allocVar (e : Enc) (t : VarType) (nv v : Nat) :
    (allocVar e t nv).2.ty v = if v = (allocVar e t nv).1 then t else e.ty v := by
  rw [allocVar_eq]
  unfold Enc.ty
  simp only [] -- reduces the projections of the pair and of the record, so that `getD_push` sees `_ ++ [t]`
  rw [getD_push, getD_append_replicate, List.length_append, List.length_replicate]

theorem allocVar_fst (e : Enc) (t : VarType) (nv : Nat) :
    e.vars.length ≤ (allocVar e t nv).1 ∧ nv + 1 ≤ (allocVar e t nv).1 ∧
      (allocVar e t nv).2.vars.length = (allocVar e t nv).1 + 1 := by
  rw [allocVar_eq]
  refine ⟨Nat.le_add_right _ _, Nat.sub_le_iff_le_add'.1 (Nat.le_refl _), ?_⟩
  simp only [List.length_append, List.length_singleton, List.length_replicate]

@[simp] theorem allocVar_av (e : Enc) (t : VarType) (nv i : Nat) : (allocVar e t nv).2.av i = e.av i := rfl
@[simp] theorem allocVar_sv (e : Enc) (t : VarType) (nv i : Nat) : (allocVar e t nv).2.sv i = e.sv i := rfl
@[simp] theorem allocVar_asm (e : Enc) (t : VarType) (nv : Nat) : (allocVar e t nv).2.assumptions = e.assumptions := rfl
@[simp] theorem allocVar_sem (e : Enc) (t : VarType) (nv : Nat) : (allocVar e t nv).2.sem = e.sem := rfl
@[simp] theorem allocVar_argVar (e : Enc) (t : VarType) (nv : Nat) : (allocVar e t nv).2.argVar = e.argVar := rfl
@[simp] theorem allocVar_selVar (e : Enc) (t : VarType) (nv : Nat) : (allocVar e t nv).2.selVar = e.selVar := rfl
@[simp] theorem allocVar_enabled (e : Enc) (t : VarType) (nv : Nat) : (allocVar e t nv).2.enabled = e.enabled := rfl

theorem ty_fresh (e : Enc) (v : Nat) (h : e.vars.length ≤ v) : e.ty v = .ignored := by
  unfold Enc.ty; exact getD_ge _ _ _ h

theorem ty_set_ignored (e : Enc) (s v : Nat) :
    ({ e with vars := e.vars.set s .ignored } : Enc).ty v = if v = s then .ignored else e.ty v := by
  unfold Enc.ty
  simp only
  by_cases h : v = s
  · subst h
    rw [if_pos rfl]
    by_cases hl : v < e.vars.length
    · exact getD_set_eq _ _ _ _ hl
    · rw [getD_ge _ _ _ (by simp; omega)]
  · rw [if_neg h]
    exact getD_set_ne _ _ _ _ _ (fun h' => h h'.symm)

theorem swapRemoveL_perm {α : Type} (l : List α) (pos : Nat) (h : pos < l.length) :
    (swapRemoveL l pos).Perm (l.eraseIdx pos) := by
  rcases List.eq_nil_or_concat l with rfl | ⟨init, last, rfl⟩
  · cases h
  · rw [List.concat_eq_append] at h ⊢
    rw [List.length_append] at h
    have hp := set_dropLast_perm init last (Nat.le_of_lt_succ h)
    unfold swapRemoveL
    rw [List.getLast?_concat]
    show List.Perm (if (pos + 1 == (init ++ [last]).length) = true then _ else _) _
    split
    · next e =>
      -- the last slot: overwriting it with itself changes nothing
      obtain rfl : pos = init.length := Nat.succ.inj ((beq_iff_eq.1 e).trans List.length_append)
      rwa [List.set_append_right _ _ (Nat.le_refl _), Nat.sub_self, List.set_cons_zero] at hp
    · exact hp

theorem mem_swapRemoveL {α : Type} {l : List α} (hn : l.Nodup) {pos : Nat} (h : pos < l.length) (x : α) :
    x ∈ swapRemoveL l pos ↔ (x ∈ l ∧ x ≠ l[pos]) := by
  rw [(swapRemoveL_perm l pos h).mem_iff, List.mem_eraseIdx_iff_getElem]
  constructor
  · rintro ⟨i, hi, hne, rfl⟩
    refine ⟨List.getElem_mem _, ?_⟩
    intro heq
    have : l[i]? = l[pos]? := by rw [List.getElem?_eq_getElem hi, List.getElem?_eq_getElem h, heq]
    exact hne ((List.getElem?_inj hi hn).1 this)
  · rintro ⟨hx, hne⟩
    obtain ⟨i, hi, rfl⟩ := List.mem_iff_getElem.1 hx
    exact ⟨i, hi, fun e => hne (by subst e; rfl), rfl⟩

theorem nodup_swapRemoveL {α : Type} {l : List α} (hn : l.Nodup) {pos : Nat} (h : pos < l.length) :
    (swapRemoveL l pos).Nodup :=
  (swapRemoveL_perm l pos h).nodup_iff.2 (hn.eraseIdx pos)

/-- state after `remove_selector(s)` found at position `p` -/
def retire (e : Enc) (s p : Nat) : Enc :=
  { e with vars := e.vars.set s .ignored, assumptions := swapRemoveL e.assumptions p }

theorem wp_removeSelector {C : Prop} (e : Enc) (s : Nat) (w : World) (Q : Enc → World → Prop)
    (hmem : pl s ∈ e.assumptions) :
    ∃ p, ∃ hp : p < e.assumptions.length, e.assumptions[p] = pl s ∧
      (wp C (removeSelector e s) w Q ↔ Q (retire e s p) (w.onClause 0 [nl s])) := by
  cases hf : e.assumptions.findIdx? (fun l => l == pl s) with
  | none =>
    have := List.findIdx?_eq_none_iff.1 hf _ hmem
    simp at this
  | some p =>
    obtain ⟨hp, hpe, _⟩ := List.findIdx?_eq_some_iff_getElem.1 hf
    refine ⟨p, hp, by simpa using hpe, ?_⟩
    show wp C ((addClause 0 [nl s]).bind _) w Q ↔ _
    rw [wp_bind, wp_addClause1, hf]
    rfl

theorem ty_lt_of_ne {e : Enc} {v : Nat} (h : e.ty v ≠ .ignored) : v < e.vars.length := by
  apply Classical.byContradiction
  intro hn
  exact h (ty_fresh e v (by omega))

theorem sv_lt {e : Enc} {i s : Nat} (h : e.sv i = some s) : i < e.selVar.length := by
  apply Classical.byContradiction
  intro hn
  unfold Enc.sv at h
  rw [getD_ge _ _ _ (by omega)] at h; cases h

theorem av_lt {e : Enc} {i v : Nat} (h : e.av i = some v) : i < e.argVar.length := by
  apply Classical.byContradiction
  intro hn
  unfold Enc.av at h
  rw [getD_ge _ _ _ (by omega)] at h; cases h

theorem CurClauses_transfer {st st' : Store} {e e' : Enc} {j : Nat}
    (hatt : attackersOf st' j = attackersOf st j) (hsem : e'.sem = e.sem) (hj : e'.av j = e.av j)
    (hb : ∀ b ∈ attackersOf st j, e'.av b = e.av b) (s : Nat) (cl : Cnf) :
    CurClauses st' e' j s cl ↔ CurClauses st e j s cl := by
  unfold CurClauses
  rw [hatt, hsem, hj, List.map_congr_left hb]

theorem ClauseKind.imp {st st' : Store} {e e' : Enc} {T T' F F' : Nat → Bool} {d d' : Nat → Prop} {c : Clause}
    (hk : ClauseKind st e T F d c)
    (hdisj : ∀ v i, e.ty (v + 1) = .disj i → e'.ty (v + 1) = .disj i)
    (hF : ∀ s, F s = true → F' s = true) (hT : ∀ t, T t = true → T' t = true)
    (hsel : ∀ i s, e.sv i = some s → F' s = true ∨ (e'.sv i = some s ∧
      (¬ d' i → ¬ d i ∧ ∀ cl, CurClauses st e i s cl → CurClauses st' e' i s cl))) :
    ClauseKind st' e' T' F' d' c := by
  rcases hk with ⟨v, i, rfl, ht⟩ | ⟨s, hs, hm⟩ | ⟨t, ht, hm⟩ | ⟨i, s, hs, hm, hcl⟩
  · exact Or.inl ⟨v, i, rfl, hdisj v i ht⟩
  · exact Or.inr (Or.inl ⟨s, hF s hs, hm⟩)
  · exact Or.inr (Or.inr (Or.inl ⟨t, hT t ht, hm⟩))
  · rcases hsel i s hs with hF' | ⟨hs', hd⟩
    · exact Or.inr (Or.inl ⟨s, hF', hm⟩)
    · refine Or.inr (Or.inr (Or.inr ⟨i, s, hs', hm, fun hn => ?_⟩))
      obtain ⟨cl, h1, h2⟩ := hcl (hd hn).1
      exact ⟨cl, (hd hn).2 cl h1, h2⟩

theorem ty_upd_hold {e e' : Enc} {k : Nat} {t : VarType} (hty : ∀ v, e'.ty v = if v = k then t else e.ty v)
    {v : Nat} {t' : VarType} (hv : e'.ty v = t') (hne : t' ≠ t) : v ≠ k ∧ e.ty v = t' := by
  rw [hty] at hv
  by_cases hvk : v = k
  · rw [if_pos hvk] at hv; exact absurd hv.symm hne
  · rw [if_neg hvk] at hv; exact ⟨hvk, hv⟩

theorem ty_upd_keep {e e' : Enc} {k : Nat} {t : VarType} (hty : ∀ v, e'.ty v = if v = k then t else e.ty v)
    {v : Nat} {t' : VarType} (hv : e.ty v = t') (hne : t' ≠ e.ty k) : e'.ty v = t' := by
  rw [hty, if_neg (fun (hvk : v = k) => hne (by rw [← hv, hvk]))]; exact hv

/-- state after `dropSel`: the selector `s` of argument `i` retired and forgotten -/
def retireSel (e : Enc) (i s p : Nat) : Enc :=
  { retire e s p with selVar := e.selVar.set i none }

theorem ty_retireSel (e : Enc) (i s p v : Nat) :
    (retireSel e i s p).ty v = if v = s then .ignored else e.ty v := ty_set_ignored e s v

theorem sv_retireSel (e : Enc) (i s p j : Nat) (hi : i < e.selVar.length) :
    (retireSel e i s p).sv j = if j = i then none else e.sv j := by
  unfold retireSel Enc.sv
  exact getD_set_of_lt _ _ _ _ _ hi

/-- the retired selector joins the variables forced false, which switches the old constraints of `i` off;
`i` is left without constraints (dirty) -/
theorem inv_retireSel {st : Store} {e : Enc} {Γ : Cnf} {T F : Nat → Bool} {dirty : Nat → Prop}
    (h : EncInv st e Γ T F dirty) {i s p : Nat} (hs : e.sv i = some s)
    (hp : p < e.assumptions.length) (hpe : e.assumptions[p] = pl s) :
    EncInv st (retireSel e i s p) ([nl s] :: Γ) T (fun v => F v || v == s) (fun j => dirty j ∨ j = i) := by
  have htys : e.ty s = .sel i := (h.sv_live i s hs).2
  have hty := ty_retireSel e i s p
  have hsv : ∀ j, (retireSel e i s p).sv j = if j = i then none else e.sv j :=
    fun j => sv_retireSel e i s p j (sv_lt hs)
  have hold : ∀ v t, (retireSel e i s p).ty v = t → t ≠ .ignored → v ≠ s ∧ e.ty v = t :=
    fun v t => ty_upd_hold hty
  have hkeep : ∀ v t, e.ty v = t → t ≠ .sel i → (retireSel e i s p).ty v = t :=
    fun v t hv hne => ty_upd_keep hty hv (htys ▸ hne)
  have hign : ∀ v, e.ty v = .ignored → (retireSel e i s p).ty v = .ignored := by
    intro v hv; rw [hty]; split
    · rfl
    · exact hv
  have hΓ : ∀ c ∈ Γ, c ∈ [nl s] :: Γ := fun c hc => List.mem_cons_of_mem _ hc
  have hFs : ∀ v, (F v || v == s) = true ↔ (F v = true ∨ v = s) := fun v => by
    rw [Bool.or_eq_true, beq_iff_eq]
  have hsv_keep : ∀ j s', e.sv j = some s' → j ≠ i → (retireSel e i s p).sv j = some s' := by
    intro j s' hs' hji; rw [hsv, if_neg hji]; exact hs'
  constructor
  · show 1 ≤ (e.vars.set s .ignored).length
    rw [List.length_set]; exact h.vars_pos
  · exact h.sz_a
  · show (e.selVar.set i none).length = _
    rw [List.length_set]; exact h.sz_s
  · intro j hj
    obtain ⟨v, hv, hv1, hvt, hp'⟩ := h.av_live j hj
    exact ⟨v, hv, hv1, hkeep _ _ hvt nofun, fun hsem => ⟨hkeep _ _ (hp' hsem).1 nofun, hΓ _ (hp' hsem).2⟩⟩
  · intro j s' hs'
    rw [hsv] at hs'
    by_cases hji : j = i
    · rw [if_pos hji] at hs'; cases hs'
    · rw [if_neg hji] at hs'
      obtain ⟨hl, ht⟩ := h.sv_live j s' hs'
      exact ⟨hl, hkeep _ _ ht (fun hh => hji (VarType.sel.inj hh))⟩
  · intro v j hv
    exact h.ty_arg v j (hold v _ hv nofun).2
  · intro v j hv
    obtain ⟨hvs, hv⟩ := hold v _ hv nofun
    have := h.ty_sel v j hv
    refine hsv_keep j v this ?_
    intro hji; subst hji; rw [hs] at this; exact hvs (Option.some.inj this).symm
  · intro v j hv
    obtain ⟨h1, h2⟩ := h.ty_disj v j (hold v _ hv nofun).2
    exact ⟨h1, h2.imp (fun h2 => hkeep _ _ h2 nofun) id⟩
  · intro l
    show l ∈ swapRemoveL e.assumptions p ↔ _
    rw [mem_swapRemoveL h.asm_nodup hp, hpe, h.asm]
    constructor
    · rintro ⟨⟨s', j, rfl, ht⟩, hne⟩
      exact ⟨s', j, rfl, by rw [hty, if_neg (fun (e' : s' = s) => hne (by rw [e']))]; exact ht⟩
    · rintro ⟨s', j, rfl, ht⟩
      obtain ⟨hvs, ht⟩ := hold s' _ ht nofun
      exact ⟨⟨s', j, rfl, ht⟩, fun e' => hvs (congrArg Lit.var e')⟩
  · exact nodup_swapRemoveL h.asm_nodup hp
  · intro v hv
    exact ⟨hign v (h.ghostT v hv).1, (h.ghostT v hv).2.mono hΓ⟩
  · intro v hv
    rcases (hFs v).1 hv with hv | rfl
    · exact ⟨hign v (h.ghostF v hv).1, (h.ghostF v hv).2.mono hΓ⟩
    · exact ⟨by rw [hty, if_pos rfl], [nl v], List.mem_cons_self, nl v, List.mem_cons_self, rfl⟩
  · intro v ⟨hT, hF⟩
    rcases (hFs v).1 hF with hF | rfl
    · exact h.ghostTF v ⟨hT, hF⟩
    · have := (h.ghostT v hT).1
      rw [htys] at this; cases this
  · intro c hc
    rcases List.mem_cons.1 hc with rfl | hc
    · exact Or.inr (Or.inl ⟨s, (hFs s).2 (Or.inr rfl), List.mem_cons_self⟩)
    · refine (h.acc c hc).imp (fun v j ht => hkeep _ _ ht nofun) (fun v hv => (hFs v).2 (Or.inl hv)) (fun _ ht => ht) ?_
      intro j s' hs'
      by_cases hji : j = i
      · subst hji
        rw [hs] at hs'
        exact Or.inl ((hFs s').2 (Or.inr (Option.some.inj hs').symm))
      · exact Or.inr ⟨hsv_keep j s' hs' hji, fun hd => ⟨fun hd' => hd (Or.inl hd'),
          fun cl => (CurClauses_transfer rfl rfl rfl (fun _ _ => rfl) s' cl).2⟩⟩
  · intro j hj hd
    obtain ⟨s', cl, h1, h2, h3⟩ := h.act j hj (fun hd' => hd (Or.inl hd'))
    exact ⟨s', cl, hsv_keep j s' h1 (fun e' => hd (Or.inr e')),
      (CurClauses_transfer rfl rfl rfl (fun _ _ => rfl) s' cl).2 h2, fun c hc => hΓ c (h3 c hc)⟩
  · intro v j hv
    exact hΓ _ (h.disj_cl v j (hold _ _ hv nofun).2)

theorem nl_sel_mem_attackClauses (sem : DSem) (s xt : Nat) (xs : List Nat) :
    ∀ c ∈ attackClauses sem s xt xs, nl s ∈ c := by
  intro c hc
  by_cases hsem : sem = .ST
  · subst hsem
    simp only [attackClauses, List.mem_append, List.mem_map, List.mem_singleton] at hc
    rcases hc with ⟨xa, _, rfl⟩ | rfl <;> exact List.mem_cons_self
  · rw [attackClauses_eq_co hsem] at hc
    simp only [List.mem_append, List.mem_map, List.mem_singleton] at hc
    rcases hc with ((⟨xa, _, rfl⟩ | rfl) | ⟨xa, _, rfl⟩) | rfl <;> exact List.mem_cons_self

/-- state after a fresh selector was allocated for argument `i` -/
def withSel (e : Enc) (i nv : Nat) : Enc := withSelOf (allocVar e (.sel i) nv) i

/-- what `emitAttackClauses` looks up -/
theorem vars_of_live {st : Store} {e : Enc} {Γ : Cnf} {T F : Nat → Bool} {dirty : Nat → Prop}
    (hinv : st.Inv) (h : EncInv st e Γ T F dirty) {i : Nat} (hi : st.hasId i = true) :
    e.av i = some (e.xv i) ∧ optAll ((attackersOf st i).map e.av) = some ((attackersOf st i).map e.xv) :=
  ⟨(h.av_xv hi).1, optAll_map_of_forall _ _ _ (fun b hb =>
    (h.av_xv (Store.g_wf hinv b i ((mem_attackersOf hinv i b).1 hb)).1).1)⟩

/-- under a fresh selector, above every variable of the database, `i` is clean again
(`cl.reverse`: `addClauses` pushes the clauses one by one, `db_addAllS`) -/
theorem inv_withSel {st : Store} {e : Enc} {Γ : Cnf} {T F : Nat → Bool} {dirty : Nat → Prop}
    (hinv : st.Inv) (h : EncInv st e Γ T F dirty) {i : Nat} (hi : st.hasId i = true) (hs : e.sv i = none)
    (nv : Nat) (hnv : ∀ c ∈ Γ, ∀ l ∈ c, l.var ≤ nv) :
    let k := (allocVar e (.sel i) nv).1
    let cl := attackClauses e.sem k (e.xv i) ((attackersOf st i).map e.xv)
    EncInv st (withSel e i nv) (cl.reverse ++ Γ) T F (fun j => dirty j ∧ j ≠ i) := by
  intro k cl
  obtain ⟨hk1, hk2, hk3⟩ := allocVar_fst e (.sel i) nv
  have htyk : e.ty k = .ignored := ty_fresh e k hk1
  have hocc : ∀ v, Occurs Γ v → v ≠ k := by
    rintro v ⟨c, hc, l, hl, rfl⟩
    exact Nat.ne_of_lt (Nat.lt_of_le_of_lt (hnv c hc l hl) hk2)
  have hil : i < e.selVar.length := by
    rw [h.sz_s]; obtain ⟨l, hl⟩ := Store.hasId_iff.1 hi; exact Store.live_lt hl
  have hty : ∀ v, (withSel e i nv).ty v = if v = k then .sel i else e.ty v := ty_allocVar e (.sel i) nv
  have hsv : ∀ j, (withSel e i nv).sv j = if j = i then some k else e.sv j := by
    intro j; unfold withSel Enc.sv; exact getD_set_of_lt _ _ _ _ _ hil
  have hold : ∀ v t, (withSel e i nv).ty v = t → t ≠ .sel i → v ≠ k ∧ e.ty v = t := fun v t => ty_upd_hold hty
  have hkeep : ∀ v t, e.ty v = t → t ≠ .ignored → (withSel e i nv).ty v = t :=
    fun v t hv hne => ty_upd_keep hty hv (htyk ▸ hne)
  have hsv_keep : ∀ j s', e.sv j = some s' → (withSel e i nv).sv j = some s' := by
    intro j s' hs'
    rw [hsv, if_neg]; exact hs'
    intro hji; subst hji; rw [hs] at hs'; cases hs'
  have hcurc : ∀ j s' cl', CurClauses st (withSel e i nv) j s' cl' ↔ CurClauses st e j s' cl' :=
    fun j s' cl' => CurClauses_transfer rfl rfl rfl (fun _ _ => rfl) s' cl'
  obtain ⟨hxi, hxs⟩ := vars_of_live hinv h hi
  have hcur : CurClauses st (withSel e i nv) i k cl := (hcurc i k cl).2 ⟨_, _, hxi, hxs, rfl⟩
  have hΓ : ∀ c ∈ Γ, c ∈ cl.reverse ++ Γ := fun c hc => List.mem_append_right _ hc
  constructor
  · show 1 ≤ (allocVar e (.sel i) nv).2.vars.length
    rw [hk3]; exact Nat.le_add_left 1 _
  · exact h.sz_a
  · show (e.selVar.set i _).length = _
    rw [List.length_set]; exact h.sz_s
  · intro j hj
    obtain ⟨v, hv, hv1, hvt, hp'⟩ := h.av_live j hj
    exact ⟨v, hv, hv1, hkeep v _ hvt nofun, fun hsem => ⟨hkeep _ _ (hp' hsem).1 nofun, hΓ _ (hp' hsem).2⟩⟩
  · intro j s' hs'
    rw [hsv] at hs'
    by_cases hji : j = i
    · rw [if_pos hji] at hs'
      obtain rfl := Option.some.inj hs'
      subst hji
      exact ⟨hi, by rw [hty, if_pos rfl]⟩
    · rw [if_neg hji] at hs'
      obtain ⟨hl, ht⟩ := h.sv_live j s' hs'
      exact ⟨hl, hkeep _ _ ht nofun⟩
  · intro v j hv
    exact h.ty_arg v j (hold v _ hv nofun).2
  · intro v j hv
    rw [hty] at hv
    by_cases hvk : v = k
    · rw [if_pos hvk] at hv
      obtain rfl := VarType.sel.inj hv
      rw [hsv, if_pos rfl, hvk]
    · rw [if_neg hvk] at hv
      exact hsv_keep j v (h.ty_sel v j hv)
  · intro v j hv
    obtain ⟨h1, h2⟩ := h.ty_disj v j (hold v _ hv nofun).2
    exact ⟨h1, h2.imp (fun h2 => hkeep _ _ h2 nofun) id⟩
  · intro l
    show l ∈ e.assumptions ++ [pl k] ↔ _
    rw [List.mem_append, h.asm, List.mem_singleton]
    constructor
    · rintro (⟨s', j, rfl, ht⟩ | rfl)
      · exact ⟨s', j, rfl, hkeep _ _ ht nofun⟩
      · exact ⟨k, i, rfl, by rw [hty, if_pos rfl]⟩
    · rintro ⟨s', j, rfl, ht⟩
      rw [hty] at ht
      by_cases hvk : s' = k
      · right; rw [hvk]
      · rw [if_neg hvk] at ht; exact Or.inl ⟨s', j, rfl, ht⟩
  · show (e.assumptions ++ [pl k]).Nodup
    refine List.nodup_append.2 ⟨h.asm_nodup, List.pairwise_singleton _ _, ?_⟩
    intro a ha b hb
    rw [List.mem_singleton] at hb; subst hb
    rintro rfl
    obtain ⟨s', j, he, ht⟩ := (h.asm _).1 ha
    obtain rfl : k = s' := congrArg Lit.var he
    rw [htyk] at ht; cases ht
  · intro v hv
    obtain ⟨h1, h2⟩ := h.ghostT v hv
    exact ⟨by rw [hty, if_neg (hocc v h2)]; exact h1, h2.mono hΓ⟩
  · intro v hv
    obtain ⟨h1, h2⟩ := h.ghostF v hv
    exact ⟨by rw [hty, if_neg (hocc v h2)]; exact h1, h2.mono hΓ⟩
  · exact h.ghostTF
  · intro c hc
    rcases List.mem_append.1 hc with hc | hc
    · have hc' : c ∈ cl := List.mem_reverse.1 hc
      exact Or.inr (Or.inr (Or.inr ⟨i, k, by rw [hsv, if_pos rfl], nl_sel_mem_attackClauses _ _ _ _ c hc',
        fun _ => ⟨cl, hcur, hc'⟩⟩))
    · refine (h.acc c hc).imp (fun v j ht => hkeep _ _ ht nofun) (fun _ hv => hv) (fun _ ht => ht) ?_
      intro j s' hs'
      have hji : j ≠ i := by intro e'; subst e'; rw [hs] at hs'; cases hs'
      exact Or.inr ⟨hsv_keep j s' hs', fun hd => ⟨fun hd' => hd ⟨hd', hji⟩, fun cl' => (hcurc j s' cl').2⟩⟩
  · intro j hj hd
    by_cases hji : j = i
    · subst hji
      exact ⟨k, cl, by rw [hsv, if_pos rfl], hcur, fun c hc => List.mem_append_left _ (List.mem_reverse.2 hc)⟩
    · obtain ⟨s', cl', h1, h2, h3⟩ := h.act j hj (fun hd' => hd ⟨hd', hji⟩)
      exact ⟨s', cl', hsv_keep j s' h1, (hcurc j s' cl').2 h2, fun c hc => hΓ c (h3 c hc)⟩
  · intro v j hv
    exact hΓ _ (h.disj_cl v j (hold _ _ hv nofun).2)

/-- the encoder tables untouched: the store may change as long as it keeps its ids and the attackers
of the clean arguments, the database may grow by clauses that contain a literal forced true -/
theorem EncInv.frame {st st' : Store} {e : Enc} {Γ Γ' : Cnf} {T T' F : Nat → Bool} {d d' : Nat → Prop}
    (h : EncInv st e Γ T F d) (hlen : st'.labels.length = st.labels.length)
    (hid : ∀ j, st'.hasId j = st.hasId j)
    (hd : ∀ j, st.hasId j = true → ¬ d' j → ¬ d j ∧ attackersOf st' j = attackersOf st j)
    (hΓ : ∀ c ∈ Γ, c ∈ Γ') (hnew : ∀ c ∈ Γ', c ∈ Γ ∨ ∃ t, T' t = true ∧ pl t ∈ c)
    (hT : ∀ v, T v = true → T' v = true)
    (hT' : ∀ v, T' v = true → T v = true ∨ (e.ty v = .ignored ∧ F v = false ∧ Occurs Γ' v)) :
    EncInv st' e Γ' T' F d' := by
  have hcur : ∀ j s, e.sv j = some s → ¬ d' j → ¬ d j ∧ ∀ cl, CurClauses st e j s cl → CurClauses st' e j s cl := by
    intro j s hs hn
    obtain ⟨h1, h2⟩ := hd j (h.sv_live j s hs).1 hn
    exact ⟨h1, fun cl => (CurClauses_transfer h2 rfl rfl (fun _ _ => rfl) s cl).2⟩
  constructor
  · exact h.vars_pos
  · rw [hlen]; exact h.sz_a
  · rw [hlen]; exact h.sz_s
  · intro j hj
    rw [hid] at hj
    obtain ⟨v, hv, hv1, hvt, hp'⟩ := h.av_live j hj
    exact ⟨v, hv, hv1, hvt, fun hsem => ⟨(hp' hsem).1, hΓ _ (hp' hsem).2⟩⟩
  · intro j s hs; rw [hid]; exact h.sv_live j s hs
  · intro v j hv; rw [hid]; exact h.ty_arg v j hv
  · exact h.ty_sel
  · intro v j hv
    rw [hid, hlen]
    exact ⟨(h.ty_disj v j hv).1, (h.ty_disj v j hv).2.imp id (fun h2 => ⟨hT _ h2.1, h2.2⟩)⟩
  · exact h.asm
  · exact h.asm_nodup
  · intro v hv
    rcases hT' v hv with hv | ⟨h1, _, h3⟩
    · exact ⟨(h.ghostT v hv).1, (h.ghostT v hv).2.mono hΓ⟩
    · exact ⟨h1, h3⟩
  · intro v hv
    exact ⟨(h.ghostF v hv).1, (h.ghostF v hv).2.mono hΓ⟩
  · intro v ⟨hTv, hFv⟩
    rcases hT' v hTv with hTv | ⟨_, h2, _⟩
    · exact h.ghostTF v ⟨hTv, hFv⟩
    · rw [h2] at hFv; cases hFv
  · intro c hc
    rcases hnew c hc with hc | ⟨t, ht, hm⟩
    · exact (h.acc c hc).imp (fun _ _ ht => ht) (fun _ hv => hv) hT
        (fun j s hs => Or.inr ⟨hs, hcur j s hs⟩)
    · exact Or.inr (Or.inr (Or.inl ⟨t, ht, hm⟩))
  · intro j hj hn
    rw [hid] at hj
    obtain ⟨s, cl, h1, h2, h3⟩ := h.act j hj (hd j hj hn).1
    exact ⟨s, cl, h1, (hcur j s h1 hn).2 cl h2, fun c hc => hΓ c (h3 c hc)⟩
  · intro v j hv
    exact hΓ _ (h.disj_cl v j hv)

theorem EncInv.restrict {st : Store} {e : Enc} {Γ : Cnf} {T F : Nat → Bool} {d d' : Nat → Prop}
    (h : EncInv st e Γ T F d) (hd : ∀ j, st.hasId j = true → d j → d' j) : EncInv st e Γ T F d' :=
  h.frame rfl (fun _ => rfl) (fun j hj hn => ⟨fun hdj => hn (hd j hj hdj), rfl⟩) (fun _ hc => hc)
    (fun _ hc => Or.inl hc) (fun _ hv => hv) (fun _ hv => Or.inl hv)

/-- stated for any `e1` whose tables relate to those of `e` as `allocArg` makes them: its two branches share it -/
theorem inv_newArg {st : Store} {e e1 : Enc} {Γ Γ' : Cnf} {T F : Nat → Bool} {d : Nat → Prop}
    (hinv : st.Inv) (h : EncInv st e Γ T F d) {l v : Nat}
    (hv : e.vars.length ≤ v) (hnv : ∀ c ∈ Γ, ∀ l ∈ c, l.var < v) (hsem : e1.sem = e.sem)
    (hty : ∀ x, e1.ty x = if x = v then .arg st.labels.length
      else if e.sem ≠ .ST ∧ x = v + 1 then .disj st.labels.length else e.ty x)
    (hargVar : e1.argVar = e.argVar ++ [some v]) (hselVar : e1.selVar = e.selVar ++ [none])
    (hasm : e1.assumptions = e.assumptions)
    (hΓ1 : ∀ c ∈ Γ, c ∈ Γ') (hΓ2 : e.sem ≠ .ST → [nl v, nl (v + 1)] ∈ Γ')
    (hΓ3 : ∀ c ∈ Γ', c ∈ Γ ∨ (e.sem ≠ .ST ∧ c = [nl v, nl (v + 1)])) :
    EncInv (st.pushArg l) e1 Γ' T F (fun j => d j ∨ j = st.labels.length) := by
  have hpos := h.vars_pos
  have hav : ∀ j, e1.av j = if j = st.labels.length then some v else e.av j := by
    intro j; unfold Enc.av; rw [hargVar, getD_push, h.sz_a]
  have hsv : ∀ j, e1.sv j = e.sv j := by
    intro j; unfold Enc.sv; rw [hselVar, getD_push]
    split
    · rename_i hj; rw [hj, getD_ge _ _ _ (Nat.le_refl _)]
    · rfl
  have hid : ∀ j, (st.pushArg l).hasId j = true ↔ (st.hasId j = true ∨ j = st.labels.length) := by
    intro j; rw [hasId_pushArg, Bool.or_eq_true, beq_iff_eq]
  have hlive_lt : ∀ j, st.hasId j = true → j < st.labels.length := by
    intro j hj; obtain ⟨l', hl'⟩ := Store.hasId_iff.1 hj; exact Store.live_lt hl'
  -- the two new variables are above the table and above every variable of the database
  have hlow : ∀ x, x < v → e1.ty x = e.ty x := by
    intro x hx
    rw [hty, if_neg (Nat.ne_of_lt hx), if_neg (fun hh => Nat.ne_of_lt (Nat.lt_succ_of_lt hx) hh.2)]
  have hkeep : ∀ x t, e.ty x = t → t ≠ .ignored → e1.ty x = t := by
    intro x t hx hne
    rw [hlow x (Nat.lt_of_lt_of_le (ty_lt_of_ne (by rw [hx]; exact hne)) hv)]; exact hx
  have hkeepI : ∀ x, Occurs Γ x → e1.ty x = e.ty x := by
    rintro x ⟨c, hc, l', hl', rfl⟩
    exact hlow _ (hnv c hc l' hl')
  have hcases : ∀ x t, e1.ty x = t → (x = v ∧ t = .arg st.labels.length) ∨
      (e.sem ≠ .ST ∧ x = v + 1 ∧ t = .disj st.labels.length) ∨ e.ty x = t := by
    intro x t hx
    rw [hty] at hx
    by_cases h1 : x = v
    · rw [if_pos h1] at hx; exact Or.inl ⟨h1, hx.symm⟩
    · rw [if_neg h1] at hx
      by_cases h2 : e.sem ≠ .ST ∧ x = v + 1
      · rw [if_pos h2] at hx; exact Or.inr (Or.inl ⟨h2.1, h2.2, hx.symm⟩)
      · rw [if_neg h2] at hx; exact Or.inr (Or.inr hx)
  have hold : ∀ x t, e1.ty x = t → t ≠ .arg st.labels.length → t ≠ .disj st.labels.length → e.ty x = t := by
    intro x t hx h1 h2
    rcases hcases x t hx with ⟨_, ht⟩ | ⟨_, _, ht⟩ | hx
    · exact absurd ht h1
    · exact absurd ht h2
    · exact hx
  have havold : ∀ j, st.hasId j = true → e1.av j = e.av j := by
    intro j hj; rw [hav, if_neg (Nat.ne_of_lt (hlive_lt j hj))]
  have hcur : ∀ j, st.hasId j = true → ∀ s cl, CurClauses st e j s cl → CurClauses (st.pushArg l) e1 j s cl :=
    fun j hj s cl => (CurClauses_transfer (attackersOf_pushArg st l j) hsem (havold j hj)
      (fun b hb => havold b (Store.g_wf hinv b j ((mem_attackersOf hinv j b).1 hb)).1) s cl).2
  have hlen := Store.length_labels_pushArg st l
  constructor
  · exact Nat.lt_of_le_of_lt (Nat.zero_le v) (ty_lt_of_ne (e := e1) (v := v) (by rw [hty, if_pos rfl]; exact nofun))
  · rw [hargVar, List.length_append, h.sz_a, hlen]; rfl
  · rw [hselVar, List.length_append, h.sz_s, hlen]; rfl
  · intro j hj
    rcases (hid j).1 hj with hj | rfl
    · obtain ⟨x, hx, hx1, hxt, hp'⟩ := h.av_live j hj
      refine ⟨x, by rw [havold j hj]; exact hx, hx1, hkeep _ _ hxt nofun, fun hs => ?_⟩
      rw [hsem] at hs
      exact ⟨hkeep _ _ (hp' hs).1 nofun, hΓ1 _ (hp' hs).2⟩
    · refine ⟨v, by rw [hav, if_pos rfl], Nat.le_trans hpos hv, by rw [hty, if_pos rfl], fun hs => ?_⟩
      rw [hsem] at hs
      exact ⟨by rw [hty, if_neg (Nat.succ_ne_self v), if_pos ⟨hs, rfl⟩], hΓ2 hs⟩
  · intro j s hs
    rw [hsv] at hs
    obtain ⟨hl', ht⟩ := h.sv_live j s hs
    exact ⟨(hid j).2 (Or.inl hl'), hkeep _ _ ht nofun⟩
  · intro x j hx
    rcases hcases x _ hx with ⟨rfl, ht⟩ | ⟨_, _, ht⟩ | hx
    · obtain rfl := VarType.arg.inj ht
      exact ⟨(hid _).2 (Or.inr rfl), by rw [hav, if_pos rfl]⟩
    · cases ht
    · obtain ⟨hl', ha⟩ := h.ty_arg x j hx
      exact ⟨(hid j).2 (Or.inl hl'), by rw [havold j hl']; exact ha⟩
  · intro x j hx
    rw [hsv]
    exact h.ty_sel x j (hold x _ hx nofun nofun)
  · intro x j hx
    rcases hcases x _ hx with ⟨_, ht⟩ | ⟨_, rfl, ht⟩ | hx
    · cases ht
    · obtain rfl := VarType.disj.inj ht
      rw [Nat.add_sub_cancel, hlen]
      exact ⟨⟨Nat.le_add_left 1 v, Nat.lt_succ_self _⟩, Or.inl (by rw [hty, if_pos rfl])⟩
    · obtain ⟨⟨hx1, hjl⟩, hx2⟩ := h.ty_disj x j hx
      refine ⟨⟨hx1, by rw [hlen]; exact Nat.lt_succ_of_lt hjl⟩, hx2.imp (fun hx2 => hkeep _ _ hx2 nofun) ?_⟩
      rintro ⟨hT, hdead⟩
      refine ⟨hT, ?_⟩
      cases hh : (st.pushArg l).hasId j
      · rfl
      · rcases (hid j).1 hh with hh' | hh'
        · rw [hdead] at hh'; cases hh'
        · exact absurd hh' (Nat.ne_of_lt hjl)
  · intro l'
    rw [hasm, h.asm]
    exact ⟨fun ⟨s, j, hl, ht⟩ => ⟨s, j, hl, hkeep _ _ ht nofun⟩,
      fun ⟨s, j, hl, ht⟩ => ⟨s, j, hl, hold s _ ht nofun nofun⟩⟩
  · rw [hasm]; exact h.asm_nodup
  · intro x hx
    obtain ⟨h1, h2⟩ := h.ghostT x hx
    exact ⟨by rw [hkeepI x h2]; exact h1, h2.mono hΓ1⟩
  · intro x hx
    obtain ⟨h1, h2⟩ := h.ghostF x hx
    exact ⟨by rw [hkeepI x h2]; exact h1, h2.mono hΓ1⟩
  · exact h.ghostTF
  · intro c hc
    rcases hΓ3 c hc with hc | ⟨hs, rfl⟩
    · exact (h.acc c hc).imp (fun x j ht => hkeep _ _ ht nofun) (fun _ hv => hv) (fun _ ht => ht)
        (fun j s hs => Or.inr ⟨by rw [hsv]; exact hs,
          fun hn => ⟨fun hdj => hn (Or.inl hdj), hcur j (h.sv_live j s hs).1 s⟩⟩)
    · exact Or.inl ⟨v, st.labels.length, rfl, by rw [hty, if_neg (Nat.succ_ne_self v), if_pos ⟨hs, rfl⟩]⟩
  · intro j hj hn
    rcases (hid j).1 hj with hj' | hj'
    · obtain ⟨s, cl, h1, h2, h3⟩ := h.act j hj' (fun hdj => hn (Or.inl hdj))
      exact ⟨s, cl, by rw [hsv]; exact h1, hcur j hj' s cl h2, fun c hc => hΓ1 c (h3 c hc)⟩
    · exact absurd (Or.inr hj') hn
  · intro x j hx
    rcases hcases _ _ hx with ⟨_, ht⟩ | ⟨hs, h2, _⟩ | hx
    · cases ht
    · obtain rfl : x = v := Nat.succ.inj h2
      exact hΓ2 hs
    · exact hΓ1 _ (h.disj_cl x j hx)

/-- the state `forgetArg` returns -/
def forgotten (e : Enc) (id v : Nat) : Enc :=
  { e with argVar := e.argVar.set id none, vars := e.vars.set v .ignored }

/-- the variable of the removed argument (its selector already retired) joins the variables forced true,
and the arguments it attacked have lost an attacker (dirty) -/
theorem inv_forgotten {st : Store} {e : Enc} {Γ : Cnf} {T F : Nat → Bool} {d : Nat → Prop}
    (hinv : st.Inv) (h : EncInv st e Γ T F d) {l id v : Nat} (hl : st.Live id l)
    (hs : e.sv id = none) (hv : e.av id = some v) :
    EncInv (st.dropArg l id) (forgotten e id v) ([pl v] :: Γ) (fun x => T x || x == v) F
      (fun j => d j ∨ st.HasAtt id j) := by
  have hidl : st.hasId id = true := Store.hasId_iff.2 ⟨l, hl⟩
  have htyv : e.ty v = .arg id := by
    have := (h.av_xv hidl).2.2.1
    rwa [xv_of_av hv] at this
  have hty : ∀ x, (forgotten e id v).ty x = if x = v then .ignored else e.ty x := ty_set_ignored e v
  have hav : ∀ j, (forgotten e id v).av j = if j = id then none else e.av j := by
    intro j; unfold forgotten Enc.av; exact getD_set_of_lt _ _ _ _ _ (av_lt hv)
  have hid : ∀ j, (st.dropArg l id).hasId j = true ↔ (st.hasId j = true ∧ j ≠ id) := by
    intro j; rw [hasId_dropArg, Bool.and_eq_true, Bool.not_eq_true', beq_eq_false_iff_ne]
  have hold : ∀ x t, (forgotten e id v).ty x = t → t ≠ .ignored → x ≠ v ∧ e.ty x = t :=
    fun x t => ty_upd_hold hty
  have hkeep : ∀ x t, e.ty x = t → t ≠ .arg id → (forgotten e id v).ty x = t :=
    fun x t hx hne => ty_upd_keep hty hx (htyv ▸ hne)
  have hign : ∀ x, e.ty x = .ignored → (forgotten e id v).ty x = .ignored := by
    intro x hx; rw [hty]; split
    · rfl
    · exact hx
  have hΓ : ∀ c ∈ Γ, c ∈ [pl v] :: Γ := fun c hc => List.mem_cons_of_mem _ hc
  have hTv : ∀ x, (T x || x == v) = true ↔ (T x = true ∨ x = v) := fun x => by
    rw [Bool.or_eq_true, beq_iff_eq]
  have hcur : ∀ j, st.hasId j = true → j ≠ id → ¬ st.HasAtt id j → ∀ s cl,
      CurClauses st e j s cl → CurClauses (st.dropArg l id) (forgotten e id v) j s cl := by
    intro j hj hji hno s cl
    refine (CurClauses_transfer (e := e) (e' := forgotten e id v) (attackersOf_dropArg hinv hji hno) rfl
      (by rw [hav, if_neg hji]) ?_ s cl).2
    intro b hb
    rw [hav, if_neg]
    rintro rfl
    exact hno ((mem_attackersOf hinv j b).1 hb)
  have hsv_ne : ∀ j s, e.sv j = some s → j ≠ id := by
    rintro j s hs' rfl; rw [hs] at hs'; cases hs'
  have hlen := Store.length_labels_dropArg st l id
  constructor
  · show 1 ≤ (e.vars.set v .ignored).length
    rw [List.length_set]; exact h.vars_pos
  · show (e.argVar.set id none).length = _
    rw [List.length_set, hlen]; exact h.sz_a
  · rw [hlen]; exact h.sz_s
  · intro j hj
    obtain ⟨hj1, hj2⟩ := (hid j).1 hj
    obtain ⟨x, hx, hx1, hxt, hp'⟩ := h.av_live j hj1
    exact ⟨x, by rw [hav, if_neg hj2]; exact hx, hx1, hkeep _ _ hxt (fun hh => hj2 (VarType.arg.inj hh)),
      fun hsem => ⟨hkeep _ _ (hp' hsem).1 nofun, hΓ _ (hp' hsem).2⟩⟩
  · intro j s hs'
    obtain ⟨hl', ht⟩ := h.sv_live j s hs'
    exact ⟨(hid j).2 ⟨hl', hsv_ne j s hs'⟩, hkeep _ _ ht nofun⟩
  · intro x j hx
    obtain ⟨hxv, hx⟩ := hold x _ hx nofun
    obtain ⟨hl', ha⟩ := h.ty_arg x j hx
    have hji : j ≠ id := by
      rintro rfl; rw [hv] at ha; exact hxv (Option.some.inj ha).symm
    exact ⟨(hid j).2 ⟨hl', hji⟩, by rw [hav, if_neg hji]; exact ha⟩
  · intro x j hx
    exact h.ty_sel x j (hold x _ hx nofun).2
  · intro x j hx
    obtain ⟨⟨hx1, hjl⟩, hx2⟩ := h.ty_disj x j (hold x _ hx nofun).2
    refine ⟨⟨hx1, by rw [hlen]; exact hjl⟩, ?_⟩
    have hdead : ∀ {j'}, st.hasId j' = false ∨ j' = id → (st.dropArg l id).hasId j' = false := by
      intro j' hj'
      cases hh : (st.dropArg l id).hasId j'
      · rfl
      · obtain ⟨h1, h2⟩ := (hid j').1 hh
        rcases hj' with hj' | hj'
        · rw [hj'] at h1; cases h1
        · exact absurd hj' h2
    rcases hx2 with hx2 | ⟨hT, hd'⟩
    · by_cases hji : j = id
      · subst hji
        have ha := (h.ty_arg (x - 1) j hx2).2
        rw [hv] at ha
        exact Or.inr ⟨(hTv _).2 (Or.inr (Option.some.inj ha).symm), hdead (Or.inr rfl)⟩
      · exact Or.inl (hkeep _ _ hx2 (fun hh => hji (VarType.arg.inj hh)))
    · exact Or.inr ⟨(hTv _).2 (Or.inl hT), hdead (Or.inl hd')⟩
  · intro l'
    show l' ∈ e.assumptions ↔ _
    rw [h.asm]
    exact ⟨fun ⟨s, j, hl, ht⟩ => ⟨s, j, hl, hkeep _ _ ht nofun⟩,
      fun ⟨s, j, hl, ht⟩ => ⟨s, j, hl, (hold s _ ht nofun).2⟩⟩
  · exact h.asm_nodup
  · intro x hx
    rcases (hTv x).1 hx with hx | rfl
    · exact ⟨hign x (h.ghostT x hx).1, (h.ghostT x hx).2.mono hΓ⟩
    · exact ⟨by rw [hty, if_pos rfl], [pl x], List.mem_cons_self, pl x, List.mem_cons_self, rfl⟩
  · intro x hx
    exact ⟨hign x (h.ghostF x hx).1, (h.ghostF x hx).2.mono hΓ⟩
  · intro x ⟨hT, hF⟩
    rcases (hTv x).1 hT with hT | rfl
    · exact h.ghostTF x ⟨hT, hF⟩
    · have := (h.ghostF x hF).1
      rw [htyv] at this; cases this
  · intro c hc
    rcases List.mem_cons.1 hc with rfl | hc
    · exact Or.inr (Or.inr (Or.inl ⟨v, (hTv v).2 (Or.inr rfl), List.mem_cons_self⟩))
    · exact (h.acc c hc).imp (fun x j ht => hkeep _ _ ht nofun) (fun _ hF => hF)
        (fun t ht => (hTv t).2 (Or.inl ht))
        (fun j s hs' => Or.inr ⟨hs', fun hn => ⟨fun hdj => hn (Or.inl hdj),
          hcur j (h.sv_live j s hs').1 (hsv_ne j s hs') (fun ha => hn (Or.inr ha)) s⟩⟩)
  · intro j hj hn
    obtain ⟨hj1, hj2⟩ := (hid j).1 hj
    obtain ⟨s, cl, h1, h2, h3⟩ := h.act j hj1 (fun hdj => hn (Or.inl hdj))
    exact ⟨s, cl, h1, hcur j hj1 hj2 (fun ha => hn (Or.inr ha)) s cl h2, fun c hc => hΓ c (h3 c hc)⟩
  · intro x j hx
    exact hΓ _ (h.disj_cl x j (hold _ _ hx nofun).2)

/-- `EncInv` of the database of solver 0, the ghost sets hidden -/
def EInv (sem : DSem) (st : Store) (dirty : Nat → Prop) (e : Enc) (w : World) : Prop :=
  e.sem = sem ∧ ∃ T F, EncInv st e (w.db 0) T F dirty

theorem EInv.restrict {sem : DSem} {st : Store} {d d' : Nat → Prop} {e : Enc} {w : World}
    (h : EInv sem st d e w) (hd : ∀ j, st.hasId j = true → d j → d' j) : EInv sem st d' e w := by
  obtain ⟨hs, T, F, hI⟩ := h
  exact ⟨hs, T, F, hI.restrict hd⟩

theorem wp_dropSel {C : Prop} {sem : DSem} {st : Store} {dirty : Nat → Prop} {e : Enc} {w : World}
    (h : EInv sem st dirty e w) (to : Nat) :
    wp C (dropSel e to) w (fun e1 w1 => EInv sem st (fun j => dirty j ∨ j = to) e1 w1 ∧ e1.sv to = none ∧
      e1.enabled = e.enabled ∧ e1.argVar = e.argVar) := by
  obtain ⟨hsem, T, F, hI⟩ := h
  unfold dropSel
  cases hs : e.selVar.getD to none with
  | none =>
    exact ⟨⟨hsem, T, F, hI.restrict (fun j _ hj => Or.inl hj)⟩, hs, rfl, rfl⟩
  | some s =>
    have hs' : e.sv to = some s := hs
    have hmem : pl s ∈ e.assumptions := (hI.asm _).2 ⟨s, to, rfl, (hI.sv_live to s hs').2⟩
    simp only
    rw [wp_bind]
    obtain ⟨p, hp, hpe, hiff⟩ := wp_removeSelector (C := C) e s w
      (fun e' w' => wp C (Prog.pure { e' with selVar := e'.selVar.set to none } : Prog Enc) w'
        (fun e1 w1 => EInv sem st (fun j => dirty j ∨ j = to) e1 w1 ∧ e1.sv to = none ∧
          e1.enabled = e.enabled ∧ e1.argVar = e.argVar)) hmem
    rw [hiff]
    show EInv sem st _ (retireSel e to s p) _ ∧ _
    have hI' := inv_retireSel hI hs' hp hpe
    refine ⟨⟨hsem, T, _, by rw [db_onClause_same]; exact hI'⟩, ?_, rfl, rfl⟩
    have := sv_retireSel e to s p to (sv_lt hs')
    rw [if_pos rfl] at this
    exact this

theorem wp_updateAttacksTo {C : Prop} {sem : DSem} {st : Store} {dirty : Nat → Prop} {e : Enc} {w : World}
    (hinv : st.Inv) (h : EInv sem st dirty e w) (hw : W0 w) (hen : e.enabled = true) {to : Nat}
    (hi : st.hasId to = true) :
    wp C (updateAttacksTo st e to) w (fun e' w' => EInv sem st (fun j => dirty j ∧ j ≠ to) e' w' ∧
      e'.enabled = true) := by
  have hlt : to < e.selVar.length := by
    obtain ⟨_, T, F, hI⟩ := h
    rw [hI.sz_s]; obtain ⟨l, hl⟩ := Store.hasId_iff.1 hi; exact Store.live_lt hl
  unfold updateAttacksTo
  rw [if_neg (by rw [hen]; exact Bool.noConfusion), if_neg (Nat.not_le_of_lt hlt), wp_bind]
  refine wp_mono _ _ _ _ ?_ (wp_W0 _ _ _ hw (wp_dropSel h to))
  rintro e1 w1 ⟨hw1, ⟨hsem, T, F, hI⟩, hsv, hen1, _⟩
  rw [wp_bind, wp_newSolverVar]
  have hle := hw1.db_le
  generalize hnv : w1.nVarsOf 0 = nv at hle
  have hI2 := inv_withSel hinv hI hi hsv nv hle
  simp only at hI2
  obtain ⟨hxi, hxs⟩ := vars_of_live hinv hI hi
  unfold emitAttackClauses
  rw [if_neg (by simp [hi])]
  have hws : (withSelOf (allocVar e1 (.sel to) nv) to) = withSel e1 to nv := rfl
  rw [hws]
  have h1 : (withSel e1 to nv).argVar.getD to none = some (e1.xv to) := hxi
  have h2 : optAll ((st.iterTo to).map (fun p => (withSel e1 to nv).argVar.getD p.1 none)) =
      some ((attackersOf st to).map e1.xv) := by
    have : (st.iterTo to).map (fun p => (withSel e1 to nv).argVar.getD p.1 none) = (attackersOf st to).map e1.av := by
      unfold attackersOf; rw [List.map_map]; rfl
    rw [this]; exact hxs
  rw [h1, h2]
  simp only
  rw [wp_bind, wp_addClausesS]
  show EInv sem st _ (withSel e1 to nv) _ ∧ _
  refine ⟨⟨hsem, T, F, ?_⟩, ?_⟩
  · rw [db_addAllS, if_pos rfl, db_onNVars]
    exact hI2.restrict (fun j _ hj => ⟨hj.1.resolve_right hj.2, hj.2⟩)
  · show e1.enabled = true
    rw [hen1, hen]

theorem updateAttacksTo_disabled (st : Store) (e : Enc) (to : Nat) (h : e.enabled = false) :
    updateAttacksTo st e to = .pure e := by
  unfold updateAttacksTo; simp [h]

theorem allocArg_eq (e : Enc) (id : Nat) : allocArg e id =
    (newSolverVar e (.arg id)).bind fun r =>
      if e.sem = .ST then .pure { r.2 with argVar := r.2.argVar ++ [some r.1], selVar := r.2.selVar ++ [none] }
      else (newSolverVar r.2 (.disj id)).bind fun r' => (addClause 0 [nl r.1, nl r'.1]).bind fun _ =>
        .pure { r'.2 with argVar := r'.2.argVar ++ [some r.1], selVar := r'.2.selVar ++ [none] } := by
  unfold allocArg
  cases e.sem <;> rfl

theorem wp_allocArg {C : Prop} {sem : DSem} {st : Store} {d : Nat → Prop} {e : Enc} {w : World}
    (hinv : st.Inv) (h : EInv sem st d e w) (hw : W0 w) (l : Nat) :
    wp C (allocArg e st.labels.length) w (fun e1 w1 =>
      EInv sem (st.pushArg l) (fun j => d j ∨ j = st.labels.length) e1 w1 ∧ e1.enabled = e.enabled) := by
  obtain ⟨hsem, T, F, hI⟩ := h
  have hle := hw.db_le
  rw [allocArg_eq, wp_bind, wp_newSolverVar]
  generalize hnv' : w.nVarsOf 0 = nv at hle
  obtain ⟨hev, hnv, hlen⟩ := allocVar_fst e (.arg st.labels.length) nv
  have hty1 := ty_allocVar e (.arg st.labels.length) nv
  generalize (allocVar e (.arg st.labels.length) nv).1 = v at hev hnv hlen hty1
  have hlt : ∀ c ∈ w.db 0, ∀ l ∈ c, l.var < v := fun c hc l' hl' => Nat.lt_of_lt_of_le (Nat.lt_succ_of_le (hle c hc l' hl')) hnv
  by_cases hs : e.sem = .ST
  · rw [if_pos hs]
    refine ⟨⟨hsem, T, F, ?_⟩, rfl⟩
    rw [db_onNVars]
    refine inv_newArg hinv hI (l := l) (v := v) hev hlt rfl ?_ rfl rfl rfl (fun c hc => hc)
      (fun hn => absurd hs hn) (fun c hc => Or.inl hc)
    intro x
    rw [if_neg (fun hh : e.sem ≠ .ST ∧ x = v + 1 => hh.1 hs)]
    exact hty1 x
  · rw [if_neg hs, wp_bind, wp_newSolverVar, nVarsOf_onNVars, hnv', wp_bind, wp_addClause1]
    have hv2 := congrArg Prod.fst (allocVar_eq (allocVar e (.arg st.labels.length) nv).2 (.disj st.labels.length) nv)
    have hty2 := ty_allocVar (allocVar e (.arg st.labels.length) nv).2 (.disj st.labels.length) nv
    rw [hlen, Nat.sub_eq_zero_of_le (Nat.le_succ_of_le hnv)] at hv2
    rw [hv2] at hty2 ⊢
    refine ⟨⟨hsem, T, F, ?_⟩, rfl⟩
    rw [db_onClause_same, db_onNVars, db_onNVars]
    refine inv_newArg hinv hI (l := l) (v := v) hev hlt rfl ?_ rfl rfl rfl
      (fun c hc => List.mem_cons_of_mem _ hc) (fun _ => List.mem_cons_self) ?_
    · intro x
      refine (hty2 x).trans ?_
      rw [hty1]
      by_cases h1 : x = v
      · rw [if_pos h1, if_pos h1, if_neg (h1 ▸ (Nat.succ_ne_self v).symm)]
      · rw [if_neg h1, if_neg h1]
        by_cases h2 : x = v + 1
        · rw [if_pos h2, if_pos ⟨hs, h2⟩]
        · rw [if_neg h2, if_neg (fun hh => h2 hh.2)]
    · intro c hc
      rcases List.mem_cons.1 hc with rfl | hc
      · exact Or.inr ⟨hs, rfl⟩
      · exact Or.inl hc

end Crusta.Dyn
