import Crusta.Proofs.CliCompose
import Crusta.Proofs.StoreIccma
import Crusta.Proofs.StoreRoundTrip
import Crusta.Proofs.ReaderWFApx

/-!
# From the bytes of an Aspartix instance file to the answer of the command line

The Aspartix reader builds the framework over the de-duplicated labels (ids = positions in
declaration order) and calls `new_attack` (by labels, duplicate test) once per attack line.  In the
store labels are natural numbers: the label at position `i` is modelled by the number `i`.  The
store so reached presents the declared graph (`apxStore_g`), which is composed with the reader and
`cli_answer_valid_read`.
-/

namespace Crusta
open Crusta.IO

/-- the update history of the Aspartix reader: one `new_argument` per (de-duplicated) label, the
label being its position, then one `new_attack` per attack in order -/
def apxOps (fw : ApxFw) : List StoreOp :=
  (List.range fw.labels.length).map StoreOp.newArg ++ fw.atts.map (fun p => StoreOp.newAtt p.1 p.2)

/-- the store built by the Aspartix reader (the fold of the run-time driver over `apxOps`) -/
def apxStore (fw : ApxFw) : Store :=
  (apxOps fw).foldl (fun s o => match s.step o with | .ok s' => s' | .err s' => s' | .panic => s) Store.empty

namespace Store

/-- the state of the reader's store: ids are handed out in order, so label `i` gets id `i` -/
structure ApxInv (n : Nat) (s : Store) : Prop where
  inv : s.Inv
  rows : s.RowsNodup
  live : ∀ i l, s.Live i l ↔ (i < n ∧ l = i)

theorem apxInv_args (n : Nat) :
    (foldFrom Store.empty ((List.range n).map StoreOp.newArg)).ApxInv n ∧
    (foldFrom Store.empty ((List.range n).map StoreOp.newArg)).labels.length = n ∧
    ∀ a b, ¬ (foldFrom Store.empty ((List.range n).map StoreOp.newArg)).HasAtt a b := by
  induction n with
  | zero =>
    refine ⟨⟨inv_empty, rows_empty, ?_⟩, rfl, ?_⟩
    · exact fun i l => ⟨fun h => (nomatch h), fun h => absurd h.1 (Nat.not_lt_zero i)⟩
    · exact fun a b ⟨i, hi⟩ => nomatch hi
  | succ n ih =>
    obtain ⟨hs, hlen, hatt⟩ := ih
    have e : foldFrom Store.empty ((List.range (n + 1)).map StoreOp.newArg) =
        (foldFrom Store.empty ((List.range n).map StoreOp.newArg)).newArgument n := by
      simp only [foldFrom, List.range_succ, List.map_append, List.foldl_append, List.map_cons, List.map_nil,
        List.foldl_cons, List.foldl_nil, Store.step]
    rw [e]
    generalize foldFrom Store.empty ((List.range n).map StoreOp.newArg) = s at hs hlen hatt
    have hfresh : ∀ i, ¬ s.Live i n := by
      intro i hi
      have := (hs.live i n).1 hi
      exact Nat.lt_irrefl i (this.2 ▸ this.1)
    have hrows : (s.newArgument n).RowsNodup := step_rows hs.inv hs.rows (.newArg n) _ rfl
    have hinv : (s.newArgument n).Inv := inv_newArgument hs.inv n
    rw [newArgument_fresh hs.inv hfresh] at hrows hinv ⊢
    refine ⟨⟨hinv, hrows, ?_⟩, ?_, ?_⟩
    · intro i l
      rw [live_pushArg, hs.live, hlen]
      constructor
      · rintro (⟨h1, h2⟩ | ⟨rfl, rfl⟩)
        · exact ⟨Nat.lt_succ_of_lt h1, h2⟩
        · exact ⟨Nat.lt_succ_self _, rfl⟩
      · rintro ⟨h1, rfl⟩
        exact (Nat.lt_succ_iff_lt_or_eq.1 h1).imp (fun h => ⟨h, rfl⟩) (fun h => ⟨h, h⟩)
    · exact (length_labels_pushArg s n).trans (congrArg (· + 1) hlen)
    · exact hatt

theorem apxInv_atts {n : Nat} (atts : List (Nat × Nat)) (h : ∀ p ∈ atts, p.1 < n ∧ p.2 < n) :
    ∀ s : Store, s.ApxInv n →
      (foldFrom s (atts.map (fun p => StoreOp.newAtt p.1 p.2))).ApxInv n ∧
      ∀ a b, (foldFrom s (atts.map (fun p => StoreOp.newAtt p.1 p.2))).HasAtt a b ↔
        (s.HasAtt a b ∨ (a, b) ∈ atts) := by
  intro s hs
  rw [foldFrom, List.foldl_map]
  refine fold_hasAtt atts (fun s p hp hs => ?_) s hs
  obtain ⟨hp1, hp2⟩ := h p hp
  have hl1 : s.Live p.1 p.1 := (hs.live _ _).2 ⟨hp1, rfl⟩
  have hl2 : s.Live p.2 p.2 := (hs.live _ _).2 ⟨hp2, rfl⟩
  have hspec := (newAttack_spec hs.inv p.1 p.2).1 p.1 p.2 hl1 hl2
  -- one line: afterwards the attack is there, and nothing else has changed
  by_cases hh : s.HasAtt p.1 p.2
  · rw [show s.step (.newAtt p.1 p.2) = .ok s from hspec.1 hh]
    exact ⟨hs, fun a b => ⟨Or.inl, fun h => h.elim id fun e => by cases e; exact hh⟩⟩
  · have he : s.step (.newAtt p.1 p.2) = .ok (s.pushAtt p.1 p.2) := hspec.2 hh
    rw [he]
    exact ⟨⟨inv_pushAtt hs.inv hl1 hl2 hh, step_rows hs.inv hs.rows _ _ he, hs.live⟩,
      fun a b => (hasAtt_pushAtt ..).trans (or_congr_right (Prod.ext_iff (x := (a, b)) (y := p)).symm)⟩

end Store

/-- only the range of the attacks matters: `new_attack` tests for duplicates -/
theorem apxStore_apxInv (fw : ApxFw) (h : ∀ p ∈ fw.atts, p.1 < fw.labels.length ∧ p.2 < fw.labels.length) :
    (apxStore fw).ApxInv fw.labels.length ∧ ∀ a b, (apxStore fw).HasAtt a b ↔ (a, b) ∈ fw.atts := by
  obtain ⟨h1, _, h3⟩ := Store.apxInv_args fw.labels.length
  obtain ⟨k1, k2⟩ := Store.apxInv_atts fw.atts h _ h1
  have e : apxStore fw = Store.foldFrom (Store.foldFrom Store.empty ((List.range fw.labels.length).map StoreOp.newArg))
      (fw.atts.map (fun p => StoreOp.newAtt p.1 p.2)) := by
    rw [apxStore, apxOps, List.foldl_append]; rfl
  rw [e]
  exact ⟨k1, fun a b => (k2 a b).trans (or_iff_right (h3 a b))⟩

theorem apxStore_g (fw : ApxFw)
    (hlt : ∀ p ∈ fw.atts, p.1 < fw.labels.length ∧ p.2 < fw.labels.length) :
    (apxStore fw).view.Ok (apxStore fw).g ∧
    (∀ a, (apxStore fw).g.live a = true ↔ a < fw.labels.length) ∧
    (∀ a b, (apxStore fw).g.att a b ↔ (a, b) ∈ fw.atts) := by
  obtain ⟨h1, h2⟩ := apxStore_apxInv fw hlt
  exact ⟨Store.view_ok _ h1.inv h1.rows, Store.hasId_iff_lt (lab := id) h1.live, h2⟩

/-- the argument with id `i` carries the label `i` (the position of its name), and the look-up by
label (`ArgumentSet::get_argument`) of position `i` finds id `i` -/
theorem apxStore_labels (fw : ApxFw)
    (hlt : ∀ p ∈ fw.atts, p.1 < fw.labels.length ∧ p.2 < fw.labels.length) :
    (∀ i l, (apxStore fw).Live i l ↔ (i < fw.labels.length ∧ l = i)) ∧
    (∀ i, i < fw.labels.length → (apxStore fw).getArg i = some i) := by
  obtain ⟨h1, _⟩ := apxStore_apxInv fw hlt
  exact ⟨h1.live, fun i hi => (Store.getArg_eq_some h1.inv).2 ((h1.live i i).2 ⟨hi, rfl⟩)⟩

/-- the reader's history runs without panic -/
theorem apxStore_runOps (fw : ApxFw) : Store.runOps Store.empty (apxOps fw) = some (apxStore fw) :=
  -- `apxStore fw` unfolds to `Store.foldOps (apxOps fw)`
  Store.runOps_foldOps (apxOps fw)

/-- non-vacuity: two labels, the attacks `(0,1)` and `(1,1)`; ids are positions, label = id -/
example : apxStore ⟨[[97], [98]], [(0, 1), (1, 1)]⟩ =
    ⟨[some 0, some 1], [(0, 0), (1, 1)], 0, [some (0, 1), some (1, 1)], [[0], [1]], [[], [0, 1]], 0⟩ := by decide +kernel

namespace Cli

/-- from the bytes of an Aspartix instance file to the answer: for every byte sequence the
Aspartix reader accepts, the store it builds presents exactly the declared graph (ids = positions of
the labels), and for every accepted problem string, `--encoding` value, certificate flag and `-a`
string the reader's argument look-up accepts, the dispatched solver program exists, never panics on
sound replies and returns what the problem asks for on that graph -/
theorem cli_on_apx_file (bs : List UInt8) (fw : ApxFw) (hfile : readApx bs = .ok fw)
    (s : Str) (t : Task) (σ : Sem) (hread : readProblem s = some (t, σ))
    (enc : Option String) (cfg : Cfg)
    (henc : ∀ k, dispatchEncoder σ enc (decide (s = s_SEPR)) = some k → cfg.enc = k)
    (cert : Bool) (argStr : Str) (a : Nat) (harg : t ≠ .SE → idxOf fw.labels argStr = some a)
    (w : World) (hb : w.Bounded)
    (hfuel : cfg.fuel ≥ fuelFor (1 + (apxStore fw).view.maxId.getD 0)) :
    (∀ x, (apxStore fw).g.live x = true ↔ x < fw.labels.length) ∧
    (∀ x y, (apxStore fw).g.att x y ↔ (x, y) ∈ fw.atts) ∧
    ∃ p, entryProg (dispatchSolver t σ) cfg (apxStore fw).view (entryOf t cert [a]) = some p ∧
      wp False p w (fun ans _ => ProblemOK t σ (apxStore fw).g (entryOf t cert [a]) ans) := by
  obtain ⟨hok, hlive, hatt⟩ := apxStore_g fw (readApx_wfa bs fw hfile).2.1
  exact ⟨hlive, hatt, cli_answer_valid_read s t σ hread enc cfg henc _ _ hok cert [a]
    (entryOf_args_live fun ht => (hlive a).2 (idxOf_lt _ _ _ (harg ht))) w hb hfuel⟩

end Cli
end Crusta
