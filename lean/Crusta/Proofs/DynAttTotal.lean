import Crusta.Proofs.DynAttHistory

/-!
# The attack-assumption dynamic solvers never panic on a supported query about an existing argument

`query_spec` (`DynAttHistory.lean`) is generic in what a crash node counts as; here `wp False` is drawn from
it, for every history of update calls and completed queries.  Why no `crash` node of the model
(`Crusta/Model/DynAtt.lean`) is reachable on replies a correct SAT solver may give:

* a failing replayed store update: the buffered events are effective (`EffRun`); index out of bounds on
  `solver_vars`, `max_argument_id` on an empty framework: `AInv.vars_len`, `WInv.av_lt`; `AEnc.updateEncoding`
  (semantics not handled, `n_arg_vars - n_args` underflow): `WInv.sem_ok`, the factor is at least 1 (`WInv.fac`);
* `AEnc.assumptions` (an attack on an argument without a solver variable) and `ADState.argLit`: after
  `update_encoding` every live argument has a variable (`AInv.av_live`, `assumptions_total`);
* `needLabels` on ids decoded from a model: they are ids of the framework (`Decode.live`); on the
  targets of the attacks of the queried argument: `Store.g_wf`;
* `fromCache`: see `wp_fromCache`; it needs `TailSync`, which holds initially and is kept by every update and
  every query (`ATInv`, `reach_tinv`);
* the `unimplemented!()` entry points are excluded by the hypothesis `AttSupported`.
-/

namespace Crusta.DynAtt
open Crusta Crusta.Dyn Crusta.Store

/-- what the queries need in order not to panic -/
structure ATInv (sem : DSem) (d : ADState) (w : World) : Prop where
  qinv : AQInv sem d w
  tail : TailSync d

/-- an effective update ends the tail of the buffer a query may read, any other leaves the state alone -/
theorem update_preserves_tinv {sem : DSem} {d : ADState} {w : World} (h : ATInv sem d w) (op : StoreOp) :
    ATInv sem (d.update op).1 w :=
  have := (update_keeps h.qinv op TailSync h.tail (fun _ ht hne => absurd ht hne)).1
  ⟨this.1, this.2⟩

theorem AttSupported.sem_ne {sem : DSem} {q : DQuery} (h : AttSupported sem q) : sem ≠ .PR := by
  intro hs; subst hs; cases q <;> exact h

theorem query_total {sem : DSem} {d : ADState} {w : World} (h : ATInv sem d w)
    (q : DQuery) (hq : AttSupported sem q) {l id : Nat} (hl : d.pending.Live id l) :
    wp False (query d q l) w (fun r w' => ATInv sem r.1 w' ∧ r.1.pending = d.pending ∧
      AnswerOK sem d.pending q l r.2) :=
  wp_mono _ _ _ _ (fun _ _ hr => ⟨⟨hr.1.1, hr.1.2 h.tail⟩, hr.2⟩)
    (query_spec h.qinv q (Or.inr ⟨h.tail, hq⟩) hl)

/-- every reachable state is tail-synchronised: `TailSync` is no restriction on the states the solvers can be in -/
theorem reach_tinv {sem : DSem} (hsem : sem ≠ .PR) {num den : Nat} (hfac : 0 < den ∧ den ≤ num)
    {ops : List StoreOp} {d : ADState} {w : World} (h : Reach sem num den ops d w) : ATInv sem d w := by
  induction h with
  | init => exact ⟨AQInv_init sem hsem num den hfac, fun hne => absurd rfl hne⟩
  | @update ops d w op _ ih => exact update_preserves_tinv ih op
  | @query ops d w q l id rs d' a w' _ hl hs hrun ih =>
    -- `query_spec` keeps `TailSync` whatever a crash node counts as
    have hr := wp_sound _ rs w w' (d', a) _ (query_spec ih.qinv q (Or.inl trivial) hl) hs hrun
    exact ⟨hr.1.1, hr.1.2 ih.tail⟩

/-- **the attack-assumption solvers never panic.**  After any history of update calls (valid,
redundant or rejected) and completed queries, with any reservation factor `num / den ≥ 1`, a query
the solver offers (`AttSupported`) about an argument of the current framework, run on replies a correct
SAT solver may give, reaches no crash node of the model: no `unwrap()` on a missing variable, label or
cached id, no index out of bounds, no arithmetic underflow in the re-encoding, no failing replayed update. -/
theorem att_never_panics {sem : DSem} {num den : Nat} (hfac : 0 < den ∧ den ≤ num)
    {ops : List StoreOp} {d : ADState} {w : World} (h : Reach sem num den ops d w)
    (q : DQuery) (hq : AttSupported sem q) {l id : Nat} (hl : d.pending.Live id l)
    {rs : List Reply} (hs : RunSound (query d q l) rs w) :
    ∀ msg w', interp (query d q l) rs w ≠ (.crashed msg, w') :=
  wp_no_crash _ rs w _ (query_total (reach_tinv hq.sem_ne hfac h) q hq hl) hs

/-- **the attack-assumption solvers stay usable.**  Under the same hypotheses the run ends with the
right answer (status and certificate for the framework obtained by applying the accepted updates), in
a state that is again reachable — hence satisfies the invariants `AQInv` and `TailSync`, so the next
call finds a usable solver — with the pending framework unchanged; or the SAT solver gave up
(`unknown`: the query is aborted); or the recorded reply list is too short.  It never panics. -/
theorem att_run_total {sem : DSem} {num den : Nat} (hfac : 0 < den ∧ den ≤ num)
    {ops : List StoreOp} {d : ADState} {w : World} (h : Reach sem num den ops d w)
    (q : DQuery) (hq : AttSupported sem q) {l id : Nat} (hl : d.pending.Live id l)
    {rs : List Reply} (hs : RunSound (query d q l) rs w) :
    (∃ d' a w', interp (query d q l) rs w = (.done (d', a), w') ∧
        Reach sem num den ops d' w' ∧ AQInv sem d' w' ∧ TailSync d' ∧ d'.pending = d.pending ∧
        runOps Store.empty ops = some d.pending ∧ AnswerOK sem d.pending q l a) ∨
    (∃ w', interp (query d q l) rs w = (.abort, w')) ∨
    (∃ w', interp (query d q l) rs w = (.starved, w')) := by
  rcases wp_run_total _ rs w _ (query_total (reach_tinv hq.sem_ne hfac h) q hq hl) hs with
    ⟨⟨d', a⟩, w', hrun, ht', hp, ha⟩ | hr
  · exact Or.inl ⟨d', a, w', hrun, Reach.query q l id rs d' a w' h hl hs hrun, ht'.qinv, ht'.tail, hp,
      (reach_inv hq.sem_ne hfac h).2, ha⟩
  · exact Or.inr hr

end Crusta.DynAtt
