import Crusta.Proofs.ReaderWF

/-!
# What the Aspartix reader accepts is a well-formed framework

`apxLine_iff` says exactly what an accepted line does, in terms of the framework `st.fw` the state
denotes; `readApx_inv`: whatever the bytes, a framework returned by `readApx` has pairwise distinct
labels, every attack between positions of declared labels, no attack listed twice, and every label
has any property that all results of `matchArg` have.
-/

namespace Crusta.IO

structure ApxFw.WFA (fw : ApxFw) : Prop where
  labels_nodup : fw.labels.Nodup
  atts_lt : ∀ p ∈ fw.atts, p.1 < fw.labels.length ∧ p.2 < fw.labels.length
  atts_nodup : fw.atts.Nodup

/-- the loop of `dedup` from any duplicate-free accumulator; its result is named `r` by `hr`, so that
the fold is written once and the induction rewrites it -/
theorem dedup_go_spec (l acc r : List Str) (h : acc.Nodup)
    (hr : l.foldl (fun acc x => if acc.contains x then acc else acc ++ [x]) acc = r) :
    r.Nodup ∧ (∀ x ∈ r, x ∈ acc ∨ x ∈ l) ∧ ((acc ++ l).Nodup → r = acc ++ l) := by
  induction l generalizing acc with
  | nil => cases hr; exact ⟨h, fun x hx => .inl hx, fun _ => (List.append_nil acc).symm⟩
  | cons y ys ih =>
    rw [List.foldl_cons] at hr
    by_cases hc : acc.contains y = true
    · rw [if_pos hc] at hr
      obtain ⟨h1, h2, _⟩ := ih acc h hr
      refine ⟨h1, fun x hx => (h2 x hx).imp id (List.mem_cons_of_mem _), fun hnd => ?_⟩
      exact absurd rfl ((List.nodup_append.1 hnd).2.2 y (List.contains_iff_mem.1 hc) y (List.mem_cons_self ..))
    · rw [if_neg hc] at hr
      have hy : y ∉ acc := mt List.contains_iff_mem.2 hc
      have hnd : (acc ++ [y]).Nodup := List.nodup_append.2 ⟨h, List.pairwise_singleton _ _,
        fun a ha b hb e => hy (by rw [← List.mem_singleton.1 hb, ← e]; exact ha)⟩
      obtain ⟨h1, h2, h3⟩ := ih (acc ++ [y]) hnd hr
      refine ⟨h1, fun x hx => ?_, fun hall => ?_⟩
      · rcases h2 x hx with h | h
        · rcases List.mem_append.1 h with h | h
          · exact .inl h
          · exact .inr (List.mem_singleton.1 h ▸ List.mem_cons_self ..)
        · exact .inr (List.mem_cons_of_mem _ h)
      · rw [h3 (by rwa [List.append_assoc, List.singleton_append]), List.append_assoc, List.singleton_append]

theorem dedup_is_nodup (l : List Str) : (dedup l).Nodup := (dedup_go_spec l [] _ List.nodup_nil rfl).1

theorem dedup_sub (l : List Str) : ∀ x ∈ dedup l, x ∈ l := fun x hx =>
  ((dedup_go_spec l [] _ List.nodup_nil rfl).2.1 x hx).elim (fun h => nomatch h) id

theorem dedup_eq_self (l : List Str) (h : l.Nodup) : dedup l = l :=
  (dedup_go_spec l [] _ List.nodup_nil rfl).2.2 h

theorem idxOf_lt (l : List Str) (x : Str) (i : Nat) (h : idxOf l x = some i) : i < l.length := by
  unfold idxOf at h
  rw [List.findIdx?_eq_some_iff_findIdx_eq] at h
  exact h.1

theorem wfa_fresh (labels : List Str) : (⟨dedup labels, []⟩ : ApxFw).WFA :=
  ⟨dedup_is_nodup labels, fun p hp => by simp at hp, List.nodup_nil⟩

/-- the framework a state denotes (created lazily at the first attack) -/
def ApxSt.fw (st : ApxSt) : ApxFw := match st.af with | some af => af | none => ⟨dedup st.labels, []⟩

theorem readApx_eq (bs : List UInt8) : readApx bs =
    match foldLines apxLine {} (lines bs) with | .error e => .error e | .ok st => .ok st.fw := by
  unfold readApx
  cases foldLines apxLine {} (lines bs) with
  | error e => rfl
  | ok st => dsimp only [ApxSt.fw]; cases st.af <;> rfl

/-- **what a line does**, exactly: a blank line nothing; an argument line, before any attack, adds its
label; an attack line between known labels fixes the framework `st.fw` and adds the attack unless it
is there; every other line is an error -/
theorem apxLine_iff {st st' : ApxSt} {line : Option Str} : apxLine st line = .ok st' ↔ ∃ l, line = some l ∧
    ((l.all isWs = true ∧ st' = st) ∨
     (l.all isWs = false ∧ ∃ lab, matchArg l = some lab ∧ st.af = none ∧
        st' = { st with labels := st.labels ++ [lab] }) ∨
     (l.all isWs = false ∧ matchArg l = none ∧ ∃ a b i j, matchAtt l = some (a, b) ∧
        idxOf st.fw.labels a = some i ∧ idxOf st.fw.labels b = some j ∧
        st' = { st with af := some (if st.fw.atts.contains (i, j) then st.fw
                                    else { st.fw with atts := st.fw.atts ++ [(i, j)] }) })) := by
  cases line with
  | none => exact ⟨fun h => (nomatch h), fun ⟨_, h, _⟩ => (nomatch h)⟩
  | some l =>
    -- the body of `apxLine`, with the framework it works on (written inline there) named `st.fw`
    show (if l.all isWs = true then .ok st else match matchArg l with
      | some lab =>
        if st.af.isSome = true then .error "found an argument declaration after an attack"
        else .ok { st with labels := st.labels ++ [lab] }
      | none => match matchAtt l with
        | none => .error "syntax error"
        | some (a, b) => match idxOf st.fw.labels a, idxOf st.fw.labels b with
          | some i, some j =>
            if st.fw.atts.contains (i, j) = true then .ok { st with af := some st.fw }
            else .ok { st with af := some { st.fw with atts := st.fw.atts ++ [(i, j)] } }
          | _, _ => .error "cannot add an attack: unknown argument") = Except.ok st' ↔ _
    simp only [Option.some.injEq, exists_eq_left']
    constructor
    · intro h
      split at h
      · cases h; exact .inl ⟨‹_›, rfl⟩
      · rename_i hb
        rw [Bool.not_eq_true] at hb
        split at h
        · rename_i lab hlab
          split at h
          · cases h
          · cases h
            exact .inr (.inl ⟨hb, lab, hlab, Option.not_isSome_iff_eq_none.1 ‹_›, rfl⟩)
        · rename_i hm
          split at h
          · cases h
          · rename_i a b hab
            split at h
            · rename_i i j hi hj
              refine .inr (.inr ⟨hb, hm, a, b, i, j, hab, hi, hj, ?_⟩)
              split at h <;> cases h
              · rw [if_pos ‹_›]
              · rw [if_neg ‹_›]
            · cases h
    · rintro (⟨hb, rfl⟩ | ⟨hb, lab, hm, haf, rfl⟩ | ⟨hb, hm, a, b, i, j, hab, hi, hj, rfl⟩)
      · exact if_pos hb
      · rw [if_neg (hb ▸ Bool.false_ne_true), hm]
        simp only [haf, Option.isSome_none, Bool.false_eq_true, if_false]
      · rw [if_neg (hb ▸ Bool.false_ne_true), hm, hab]
        simp only [hi, hj]
        split <;> rfl

theorem ApxFw.WFA.snoc {fw : ApxFw} (h : fw.WFA) {i j : Nat} (hi : i < fw.labels.length)
    (hj : j < fw.labels.length) (hc : fw.atts.contains (i, j) = false) :
    ApxFw.WFA { fw with atts := fw.atts ++ [(i, j)] } := by
  refine ⟨h.labels_nodup, List.forall_mem_append.2 ⟨h.atts_lt, fun p hp => ?_⟩, ?_⟩
  · rw [List.mem_singleton.1 hp]; exact ⟨hi, hj⟩
  · refine List.nodup_append.2 ⟨h.atts_nodup, List.pairwise_singleton _ _, fun p hp q hq e => ?_⟩
    rw [e, List.mem_singleton.1 hq] at hp
    rw [List.contains_iff_mem.2 hp] at hc; cases hc

/-- the invariant of the reader: the framework the state denotes is well formed, and every label seen
has the property `P` that every label `matchArg` returns has -/
def ApxSt.Good (P : Str → Prop) (st : ApxSt) : Prop :=
  st.fw.WFA ∧ ∀ x, x ∈ st.labels ∨ x ∈ st.fw.labels → P x

theorem apxLine_good {P : Str → Prop} (hP : ∀ l lab, matchArg l = some lab → P lab) (st st' : ApxSt)
    (line : Option Str) (h : st.Good P) (hr : apxLine st line = .ok st') : st'.Good P := by
  obtain ⟨l, _, ⟨_, rfl⟩ | ⟨_, lab, hm, haf, rfl⟩ | ⟨_, _, a, b, i, j, _, hi, hj, rfl⟩⟩ := apxLine_iff.1 hr
  · exact h
  · have e : ApxSt.fw { st with labels := st.labels ++ [lab] } = ⟨dedup (st.labels ++ [lab]), []⟩ := by
      unfold ApxSt.fw; rw [haf]
    refine ⟨e ▸ wfa_fresh _, fun x hx => ?_⟩
    rw [e] at hx
    rcases List.mem_append.1 (hx.elim id (dedup_sub _ x)) with h1 | h1
    · exact h.2 x (.inl h1)
    · rw [List.mem_singleton.1 h1]; exact hP l lab hm
  · refine ⟨?_, fun x hx => h.2 x (hx.imp id ?_)⟩
    · show ApxFw.WFA (if _ then _ else _)
      split
      · exact h.1
      · exact h.1.snoc (idxOf_lt _ _ _ hi) (idxOf_lt _ _ _ hj) (Bool.eq_false_iff.2 ‹_›)
    · show x ∈ (if _ then _ else _ : ApxFw).labels → _
      split <;> exact id

/-- every file the Aspartix reader accepts denotes a well-formed framework whose labels are results
of `matchArg` -/
theorem readApx_inv {P : Str → Prop} (hP : ∀ l lab, matchArg l = some lab → P lab) (bs : List UInt8)
    (fw : ApxFw) (h : readApx bs = .ok fw) : fw.WFA ∧ ∀ l ∈ fw.labels, P l := by
  rw [readApx_eq] at h
  split at h
  · cases h
  · rename_i st hst
    cases h
    have h0 : ApxSt.Good P {} := ⟨wfa_fresh [], fun x hx => by rcases hx with hx | hx <;> cases hx⟩
    have := foldLines_inv (apxLine_good hP) _ _ st h0 hst
    exact ⟨this.1, fun l hl => this.2 l (.inr hl)⟩

theorem readApx_wfa (bs : List UInt8) (fw : ApxFw) (h : readApx bs = .ok fw) :
    fw.labels.Nodup ∧ (∀ p ∈ fw.atts, p.1 < fw.labels.length ∧ p.2 < fw.labels.length) ∧ fw.atts.Nodup :=
  have hw := (readApx_inv (P := fun _ => True) (fun _ _ _ => trivial) bs fw h).1
  ⟨hw.labels_nodup, hw.atts_lt, hw.atts_nodup⟩

end Crusta.IO
