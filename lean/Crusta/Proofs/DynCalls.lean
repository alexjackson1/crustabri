import Crusta.Proofs.DynCallsAux
import Crusta.Proofs.DynTotal
import Mathlib.Data.Finset.Powerset
import Mathlib.Data.Set.Card

/-!
# SAT calls of the preferred dynamic solver on sound replies (C18, dynamic part)

`DynCallsAux.lean` bounds the calls of every dynamic query for arbitrary replies (`Bounded`); for the
preferred solver that bound is the fuel of the model's loop.  Here the bound of the property: on sound
replies, in a state satisfying the solver invariant `QInv`, the skeptical query of the preferred solver
makes at most `|CO|` SAT calls (`dyn_pr_calls_co`; hence at most `|CO| + |PR| + 1`: `dyn_pr_calls`), `|CO|`
the number of complete extensions of the current framework (`nCO`) — and a loop fuel of `|CO| + 1` is never
exhausted, so that the fuel of the model does not matter (`C18.dynamic_preferred_fuel_irrelevant`, by
`CrashRefines`).  The counting itself is in the loop theorem of `DynPR.lean` (`wp_prLoop`), for any bound `N`
on the duplicate-free lists of complete sets; here `N` is `|CO|`.

As everywhere in the calculus, the postcondition speaks of the runs that return; for the runs that
are aborted by an `unknown` reply, or on unsound replies, the bound is the one of `DynCallsAux.lean`.
-/

namespace Crusta.Dyn
open Prog (addClause addClauses getNVars doSolve)
open Crusta.Store

/-- the crude bound: with enough fuel the query answers correctly, does not panic and makes at most `fuel` SAT calls -/
theorem dyn_pr_calls_fuel {fuel : Nat} {d : DState} {w : World} (h : QInv .PR d w) {l id : Nat}
    (hl : d.pending.Live id l) (hfuel : prFuel d.pending ≤ fuel) :
    wp False (prSkepQuery fuel d l) w (fun r w' =>
      (QInv .PR r.1 w' ∧ r.1.pending = d.pending ∧ SkepOK .PR d.pending l r.2) ∧
      w'.calls ≤ w.calls + fuel) :=
  wp_andT _ _ _ _ (prSkepQuery_no_other_crash h hl (Or.inr hfuel)) (wp_calls_le (dyn_prSkep_bounded_fuel fuel d l) w)

theorem dyn_pr_calls_crude {d : DState} {w : World} (h : QInv .PR d w) {l id : Nat}
    (hl : d.pending.Live id l) :
    wp False (prSkepQuery (prFuel d.pending) d l) w
      (fun _ w' => w'.calls ≤ w.calls + prFuel d.pending) :=
  wp_mono _ _ _ _ (fun _ _ hh => hh.2) (dyn_pr_calls_fuel h hl (Nat.le_refl _))

def asetOf (s : Finset Nat) : ASet := fun a => decide (a ∈ s)

open Classical in
noncomputable def countSets (n : Nat) (P : ASet → Prop) : Nat :=
  ((Finset.range n).powerset.filter (fun s => P (asetOf s))).card

/-- **`|CO|`: the number of complete extensions of the framework held by the store.**  An extension
is a set of live ids and every live id is below `st.labels.length` (the number of ids ever issued),
so the extensions are counted among the subsets of `{0, …, st.labels.length - 1}` (`nCO_eq_ncard`: the
count is the `Set.ncard` of the set of complete extensions).  Classical: `G.Complete` is not decidable. -/
noncomputable def nCO (st : Store) : Nat := countSets st.labels.length st.g.Complete

/-- **`|PR|`: the number of preferred extensions** (`G.Preferred`), counted in the same way -/
noncomputable def nPR (st : Store) : Nat := countSets st.labels.length st.g.Preferred

theorem asetOf_toFinset (e : List Nat) : asetOf e.toFinset = ofList e := by
  funext a
  simp [asetOf, ofList]

theorem length_le_countSets (n : Nat) (P : ASet → Prop) (hlt : ∀ S, P S → ∀ a, S a = true → a < n) :
    Search.Bound P (countSets n P) := by
  intro seen hd hP
  classical
  have hnd : (seen.map List.toFinset).Nodup := by
    unfold List.Nodup
    rw [List.pairwise_map]
    refine List.Pairwise.imp ?_ hd
    intro a b hab heq
    apply hab
    rw [← asetOf_toFinset, ← asetOf_toFinset, heq]
  have hsub : (seen.map List.toFinset).toFinset ⊆
      (Finset.range n).powerset.filter (fun s => P (asetOf s)) := by
    intro s hs
    rw [List.mem_toFinset, List.mem_map] at hs
    obtain ⟨e, he, rfl⟩ := hs
    rw [Finset.mem_filter, Finset.mem_powerset]
    refine ⟨?_, by rw [asetOf_toFinset]; exact hP e he⟩
    intro a ha
    rw [List.mem_toFinset] at ha
    exact Finset.mem_range.2 (hlt _ (hP e he) a (ofList_true.2 ha))
  have := Finset.card_le_card hsub
  rw [List.toFinset_card_of_nodup hnd, List.length_map] at this
  unfold countSets
  convert this

theorem length_le_nCO (st : Store) : Search.Bound st.g.Complete (nCO st) :=
  length_le_countSets _ _ (fun _ h _ ha => complete_lt h ha)

theorem countSets_le_pow (n : Nat) (P : ASet → Prop) : countSets n P ≤ 2 ^ n := by
  classical
  unfold countSets
  refine Nat.le_trans (Finset.card_filter_le _ _) ?_
  rw [Finset.card_powerset, Finset.card_range]

theorem countSets_mono (n : Nat) {P Q : ASet → Prop} (h : ∀ S, P S → Q S) : countSets n P ≤ countSets n Q := by
  classical
  unfold countSets
  apply Finset.card_le_card
  intro s hs
  rw [Finset.mem_filter] at hs ⊢
  exact ⟨hs.1, h _ hs.2⟩

theorem nPR_le_nCO (st : Store) : nPR st ≤ nCO st :=
  countSets_mono _ (fun _ h => G.preferred_complete h)

theorem nCO_succ_le_prFuel (st : Store) : nCO st + 1 ≤ prFuel st := by
  have := countSets_le_pow st.labels.length st.g.Complete
  unfold nCO prFuel
  omega

/-- **the skeptical query of the preferred dynamic solver makes at most `|CO|` SAT calls**, where
`|CO|` is the number of complete extensions of the current framework, as soon as the fuel of the
model's loop is at least `|CO| + 1` (then it is never exhausted); and the query answers correctly
and re-establishes the solver invariant -/
theorem dyn_pr_calls_co {fuel : Nat} {d : DState} {w : World} (h : QInv .PR d w) {l id : Nat}
    (hl : d.pending.Live id l) (hfuel : nCO d.pending + 1 ≤ fuel) :
    wp False (prSkepQuery fuel d l) w (fun r w' =>
      w'.calls ≤ w.calls + nCO d.pending ∧
      (QInv .PR r.1 w' ∧ r.1.pending = d.pending ∧ SkepOK .PR d.pending l r.2)) :=
  wp_mono _ _ _ _ (fun _ _ hh => ⟨hh.2, hh.1⟩)
    (wp_prSkepQuery_calls fuel _ h hl (length_le_nCO d.pending) (Or.inr hfuel))

/-- the bound in the form the property states it, `|CO| + |PR| + 1` (weaker than `dyn_pr_calls_co`, which
`Props/C18` uses) -/
theorem dyn_pr_calls {fuel : Nat} {d : DState} {w : World} (h : QInv .PR d w) {l id : Nat}
    (hl : d.pending.Live id l) (hfuel : prFuel d.pending ≤ fuel) :
    wp False (prSkepQuery fuel d l) w
      (fun _ w' => w'.calls ≤ w.calls + nCO d.pending + nPR d.pending + 1) := by
  refine wp_mono _ _ _ _ ?_ (dyn_pr_calls_co h hl (Nat.le_trans (nCO_succ_le_prFuel _) hfuel))
  intro _ w' hh
  have : w'.calls ≤ w.calls + nCO d.pending := hh.1
  omega

theorem dyn_pr_calls_run {fuel : Nat} {d : DState} {w : World} (h : QInv .PR d w) {l id : Nat}
    (hl : d.pending.Live id l) (hfuel : prFuel d.pending ≤ fuel) (rs : List Reply)
    (hs : RunSound (prSkepQuery fuel d l) rs w) :
    (∀ msg w', interp (prSkepQuery fuel d l) rs w ≠ (.crashed msg, w')) ∧
    ∀ a w', interp (prSkepQuery fuel d l) rs w = (.done a, w') →
      w'.calls ≤ w.calls + (nCO d.pending + nPR d.pending + 1) :=
  calls_of_wp _ w _ (wp_mono _ _ _ _ (fun _ w' (hh : w'.calls ≤ _) => by omega) (dyn_pr_calls h hl hfuel)) rs hs

theorem dyn_query_pr_calls {fuel : Nat} {d : DState} {w : World} (h : QInv .PR d w) (henc : d.enc.sem = .PR)
    {l id : Nat} (hl : d.pending.Live id l) (hfuel : prFuel d.pending ≤ fuel) :
    wp False (query fuel d .skep l) w
      (fun _ w' => w'.calls ≤ w.calls + nCO d.pending + nPR d.pending + 1) := by
  unfold query
  rw [henc]
  exact dyn_pr_calls h hl hfuel

theorem asetOf_injective : Function.Injective asetOf := by
  intro s t h
  ext a
  have := congrFun h a
  simpa [asetOf] using this

theorem countSets_eq_ncard (n : Nat) (P : ASet → Prop) (hlt : ∀ S, P S → ∀ a, S a = true → a < n) :
    countSets n P = Set.ncard {S : ASet | P S} := by
  classical
  have himg : {S : ASet | P S} =
      asetOf '' (((Finset.range n).powerset.filter (fun s => P (asetOf s)) : Finset (Finset Nat)) : Set (Finset Nat)) := by
    ext S
    simp only [Set.mem_ofPred_eq, Set.mem_image, Finset.mem_coe, Finset.mem_filter, Finset.mem_powerset]
    constructor
    · intro hS
      have he : asetOf ((Finset.range n).filter (fun a => S a = true)) = S := by
        funext a
        cases hSa : S a
        · simp [asetOf, hSa]
        · simp [asetOf, hSa, hlt S hS a hSa]
      exact ⟨_, ⟨Finset.filter_subset _ _, by rw [he]; exact hS⟩, he⟩
    · rintro ⟨s, ⟨_, hs⟩, rfl⟩
      exact hs
  rw [himg, Set.ncard_image_of_injective _ asetOf_injective, Set.ncard_coe_finset]
  rfl

theorem nCO_eq_ncard (st : Store) : nCO st = Set.ncard {S : ASet | st.g.Complete S} :=
  countSets_eq_ncard _ _ (fun _ h _ ha => complete_lt h ha)

theorem nPR_eq_ncard (st : Store) : nPR st = Set.ncard {S : ASet | st.g.Preferred S} :=
  countSets_eq_ncard _ _ (fun _ h _ ha => complete_lt (G.preferred_complete h) ha)

end Crusta.Dyn

namespace Crusta

/-- `p` runs like `q` whenever the run of `q` does not end in a crash -/
def CrashRefines {α : Type} (p q : Prog α) : Prop :=
  ∀ (rs : List Reply) (w : World), (∀ msg w', interp q rs w ≠ (.crashed msg, w')) → interp p rs w = interp q rs w

theorem CrashRefines.refl {α : Type} (p : Prog α) : CrashRefines p p := fun _ _ _ => rfl

theorem CrashRefines.of_crash {α : Type} (p : Prog α) (msg : String) : CrashRefines p (.crash msg) := by
  intro rs w h
  exact absurd rfl (h msg w)

theorem CrashRefines.bind_right {α β : Type} (p : Prog α) {f g : α → Prog β}
    (h : ∀ a, CrashRefines (f a) (g a)) : CrashRefines (p.bind f) (p.bind g) := by
  intro rs w hnc
  rw [interp_bind] at hnc ⊢
  rw [interp_bind]
  generalize interp p rs w = res at hnc ⊢
  obtain ⟨oc, w1⟩ := res
  cases oc with
  | done a => exact h a _ _ hnc
  | abort => rfl
  | crashed m => rfl
  | starved => rfl

theorem CrashRefines.bind_left {α β : Type} {p q : Prog α} (h : CrashRefines p q) (f : α → Prog β) :
    CrashRefines (p.bind f) (q.bind f) := by
  intro rs w hnc
  rw [interp_bind] at hnc ⊢
  rw [interp_bind]
  have hq : ∀ msg w', interp q rs w ≠ (.crashed msg, w') := by
    intro msg w' he
    rw [he] at hnc
    exact hnc msg w' rfl
  rw [h rs w hq]

theorem CrashRefines.ite {α : Type} {c : Prop} [Decidable c] {p q p' q' : Prog α}
    (h1 : c → CrashRefines p q) (h2 : ¬ c → CrashRefines p' q') :
    CrashRefines (if c then p else p') (if c then q else q') := by
  by_cases hc : c
  · rw [if_pos hc, if_pos hc]; exact h1 hc
  · rw [if_neg hc, if_neg hc]; exact h2 hc

end Crusta

namespace Crusta.Dyn
open Crusta.Store

theorem prLoop_fuel_succ (d : DState) (argId len : Nat) : ∀ (fuel : Nat) (m : DMEC) (st : PrSt),
    CrashRefines (prLoop d argId len (fuel + 1) m st) (prLoop d argId len fuel m st) := by
  intro fuel
  induction fuel with
  | zero => exact fun _ _ => CrashRefines.of_crash _ _
  | succ fuel ih =>
    intro m st
    conv => lhs; unfold prLoop
    conv => rhs; unfold prLoop
    simp only [Prog.bind_eq]
    apply CrashRefines.bind_right
    intro m'
    generalize m'.state = s
    cases s with
    | maximal =>
      simp only
      apply CrashRefines.ite
      · intro _; exact CrashRefines.refl _
      · intro _; exact ih _ _
    | intermediate =>
      simp only
      apply CrashRefines.ite
      · intro _
        apply CrashRefines.bind_right
        intro _
        exact ih _ _
      · intro _; exact ih _ _
    | none => exact CrashRefines.refl _
    | justDiscarded => exact ih _ _
    | init => exact ih _ _

theorem prSkepQuery_fuel_succ (fuel : Nat) (d : DState) (l : Nat) :
    CrashRefines (prSkepQuery (fuel + 1) d l) (prSkepQuery fuel d l) := by
  rw [prSkepQuery_eq, prSkepQuery_eq]
  split
  · exact CrashRefines.refl _
  · apply CrashRefines.bind_right
    intro d'
    unfold prSkepSolve
    simp only [Prog.bind_eq]
    apply CrashRefines.bind_right
    intro nv
    apply CrashRefines.bind_right
    intro argId
    apply CrashRefines.bind_left
    exact prLoop_fuel_succ d' argId _ fuel _ _

theorem prSkepQuery_fuel_add (d : DState) (l : Nat) (rs : List Reply) (w : World) (fuel : Nat)
    (hnc : ∀ msg w', interp (prSkepQuery fuel d l) rs w ≠ (.crashed msg, w')) :
    ∀ k, interp (prSkepQuery (fuel + k) d l) rs w = interp (prSkepQuery fuel d l) rs w := by
  intro k
  induction k with
  | zero => rfl
  | succ k ih =>
    have := prSkepQuery_fuel_succ (fuel + k) d l rs w (by rw [ih]; exact hnc)
    rw [← ih, ← this]
    rfl

end Crusta.Dyn
