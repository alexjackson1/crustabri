import Crusta.Proofs.Decomp
import Crusta.Proofs.GExist

/-!
# All seven semantics decompose over a partition of the live arguments into closed parts

`Parts g parts`: `parts` is a list of pairwise disjoint sets that no attack leaves or enters and that
cover the live arguments.  Then `g.X S ↔ ∀ U ∈ parts, (g.restrict U).X (inter S U)` for `S ⊆ live`
(`cf_parts … ideal_parts_fin`).  The pointwise semantics go through `local_parts`.  The others have
one of two shapes, maximal in a decomposing family for a decomposing preorder (`max_parts`) or a
member of one family below every member of another (`least_parts`); in both, a competitor on one
part is spliced into a global set to be compared with.
-/

namespace Crusta

structure Parts (g : G) (parts : List (Nat → Bool)) : Prop where
  closed : ∀ U ∈ parts, g.ClosedB U
  disjoint : parts.Pairwise (fun U V => ∀ a, ¬ (U a = true ∧ V a = true))
  cover : ∀ a, g.live a = true → ∃ U ∈ parts, U a = true

theorem Parts.rel {g : G} {parts : List (Nat → Bool)} (hp : Parts g parts) {U V : Nat → Bool}
    (hU : U ∈ parts) (hV : V ∈ parts) : U = V ∨ ∀ a, ¬ (U a = true ∧ V a = true) :=
  List.Pairwise.forall_of_forall_of_flip (R := fun U V => U = V ∨ ∀ a, ¬ (U a = true ∧ V a = true))
    (fun _ _ => Or.inl rfl) (hp.disjoint.imp Or.inr)
    (hp.disjoint.imp fun h => Or.inr fun a hh => h a ⟨hh.2, hh.1⟩) hU hV

def splice (U : Nat → Bool) (T S : ASet) : ASet := fun a => bif U a then T a else S a

theorem inter_splice_self {U : Nat → Bool} {T : ASet} (S : ASet) (hT : ∀ a, T a = true → U a = true) :
    inter (splice U T S) U = T := by
  funext a
  cases hU : U a with
  | true => simp [inter, splice, hU]
  | false =>
    have : T a = false := by
      cases hTa : T a with
      | false => rfl
      | true => rw [hT a hTa] at hU; cases hU
    simp [inter, splice, hU, this]

theorem inter_splice_disj {U V : Nat → Bool} (T S : ASet) (hd : ∀ a, ¬ (U a = true ∧ V a = true)) :
    inter (splice U T S) V = inter S V := by
  funext a
  cases hV : V a with
  | false => simp [inter, hV]
  | true =>
    have : U a = false := by
      cases hU : U a with
      | false => rfl
      | true => exact absurd ⟨hU, hV⟩ (hd a)
    simp [inter, splice, hV, this]

section
variable {g : G} {parts : List (Nat → Bool)}

theorem splice_live {U : Nat → Bool} {T S : ASet} (hT : SubsetS T (g.restrict U).live)
    (hS : SubsetS S g.live) : ∀ a, splice U T S a = true → g.live a = true := by
  intro a ha
  cases hU : U a with
  | true =>
    simp only [splice, hU, cond_true] at ha
    exact (restrict_live_iff.1 (hT a ha)).1
  | false =>
    simp only [splice, hU, cond_false] at ha
    exact hS a ha

theorem local_parts (hp : Parts g parts) (φ : Bool → Prop → Prop → Prop) (S : ASet)
    (hS : SubsetS S g.live) :
    g.Local φ S ↔ ∀ U ∈ parts, (g.restrict U).Local φ (inter S U) := by
  constructor
  · intro h U hU
    refine ⟨fun a ha => ?_, fun a ha => ?_⟩
    · obtain ⟨h1, h2⟩ := (inter_true _ _ a).1 ha
      exact restrict_live_iff.2 ⟨h.1 a h1, h2⟩
    · obtain ⟨hl, hUa⟩ := restrict_live_iff.1 ha
      exact (obs_restrict (hp.closed U hU) φ S hUa).2 (h.2 a hl)
  · intro h
    refine ⟨hS, fun a ha => ?_⟩
    obtain ⟨U, hU, hUa⟩ := hp.cover a ha
    exact (obs_restrict (hp.closed U hU) φ S hUa).1 ((h U hU).2 a (restrict_live_iff.2 ⟨ha, hUa⟩))

theorem cf_parts (hp : Parts g parts) (S : ASet) (hS : SubsetS S g.live) :
    g.CF S ↔ ∀ U ∈ parts, (g.restrict U).CF (inter S U) := by
  simp only [G.cf_eq_local]; exact local_parts hp _ S hS

theorem adm_parts (hp : Parts g parts) (S : ASet) (hS : SubsetS S g.live) :
    g.Admissible S ↔ ∀ U ∈ parts, (g.restrict U).Admissible (inter S U) := by
  simp only [G.admissible_eq_local]; exact local_parts hp _ S hS

theorem complete_parts (hp : Parts g parts) (S : ASet) (hS : SubsetS S g.live) :
    g.Complete S ↔ ∀ U ∈ parts, (g.restrict U).Complete (inter S U) := by
  simp only [G.complete_eq_local]; exact local_parts hp _ S hS

theorem stable_parts (hp : Parts g parts) (S : ASet) (hS : SubsetS S g.live) :
    g.Stable S ↔ ∀ U ∈ parts, (g.restrict U).Stable (inter S U) := by
  simp only [G.stable_eq_local]; exact local_parts hp _ S hS

theorem subsetS_down {S T : ASet} (h : SubsetS S T) (U : Nat → Bool) : SubsetS (inter S U) (inter T U) := by
  intro a ha
  obtain ⟨h1, h2⟩ := (inter_true _ _ a).1 ha
  exact (inter_true _ _ a).2 ⟨h a h1, h2⟩

theorem subsetS_up (hp : Parts g parts) (S T : ASet) (hS : SubsetS S g.live)
    (h : ∀ U ∈ parts, SubsetS (inter S U) (inter T U)) : SubsetS S T := by
  intro a ha
  obtain ⟨U, hU, hUa⟩ := hp.cover a (hS a ha)
  exact ((inter_true _ _ a).1 (h U hU a ((inter_true _ _ a).2 ⟨ha, hUa⟩))).1

theorem inRange_restrict {U : Nat → Bool} (hc : g.ClosedB U) (S : ASet) (a : Nat) (ha : U a = true) :
    (g.restrict U).InRange (inter S U) a ↔ g.InRange S a := by
  unfold G.InRange
  rw [attackedBy_restrict hc S a ha, inter_true]
  simp [ha]

theorem rangeSub_down {U : Nat → Bool} (hc : g.ClosedB U) {S T : ASet} (h : g.RangeSub S T) :
    (g.restrict U).RangeSub (inter S U) (inter T U) := by
  intro a ha
  have hUa : U a = true := ha.elim (fun h => ((inter_true _ _ a).1 h).2) fun ⟨_, hb, _⟩ => hb.2.2
  exact (inRange_restrict hc T a hUa).2 (h a ((inRange_restrict hc S a hUa).1 ha))

theorem rangeSub_up (hp : Parts g parts) (S T : ASet) (hS : SubsetS S g.live)
    (h : ∀ U ∈ parts, (g.restrict U).RangeSub (inter S U) (inter T U)) : g.RangeSub S T := by
  intro a ha
  have : ∃ U ∈ parts, U a = true := by
    rcases ha with hSa | ⟨b, hb, hSb⟩
    · exact hp.cover a (hS a hSa)
    · obtain ⟨U, hU, hUb⟩ := hp.cover b (hS b hSb)
      exact ⟨U, hU, by rw [← hp.closed U hU b a hb]; exact hUb⟩
  obtain ⟨U, hU, hUa⟩ := this
  have hc := hp.closed U hU
  exact (inRange_restrict hc T a hUa).1 (h U hU a ((inRange_restrict hc S a hUa).2 ha))

theorem max_parts (hp : Parts g parts) (B : G → ASet → Prop) (Le : G → ASet → ASet → Prop)
    (hBl : ∀ (g' : G) T, B g' T → SubsetS T g'.live)
    (hB : ∀ T, (SubsetS T g.live) → (B g T ↔ ∀ U ∈ parts, B (g.restrict U) (inter T U)))
    (hrefl : ∀ (g' : G) T, Le g' T T)
    (hdown : ∀ S T, Le g S T → ∀ U ∈ parts, Le (g.restrict U) (inter S U) (inter T U))
    (hup : ∀ S T, (SubsetS S g.live) →
      (∀ U ∈ parts, Le (g.restrict U) (inter S U) (inter T U)) → Le g S T)
    (S : ASet) (hS : SubsetS S g.live) :
    (B g S ∧ ∀ T, B g T → Le g S T → Le g T S) ↔
      ∀ U ∈ parts, (B (g.restrict U) (inter S U) ∧
        ∀ T, B (g.restrict U) T → Le (g.restrict U) (inter S U) T → Le (g.restrict U) T (inter S U)) := by
  constructor
  · rintro ⟨hBS, hmax⟩ U hU
    refine ⟨(hB S hS).1 hBS U hU, fun T hT hle => ?_⟩
    have hTU : ∀ a, T a = true → U a = true := fun a ha => (restrict_live_iff.1 (hBl _ T hT a ha)).2
    have hlive := splice_live (hBl _ T hT) hS
    have hBT' : B g (splice U T S) := by
      refine (hB _ hlive).2 (fun V hV => ?_)
      rcases hp.rel hU hV with rfl | hd
      · rw [inter_splice_self S hTU]; exact hT
      · rw [inter_splice_disj T S hd]; exact (hB S hS).1 hBS V hV
    have hle' : Le g S (splice U T S) := by
      refine hup _ _ hS (fun V hV => ?_)
      rcases hp.rel hU hV with rfl | hd
      · rw [inter_splice_self S hTU]; exact hle
      · rw [inter_splice_disj T S hd]; exact hrefl _ _
    have := hdown _ _ (hmax _ hBT' hle') U hU
    rwa [inter_splice_self S hTU] at this
  · intro h
    have hBS : B g S := (hB S hS).2 (fun U hU => (h U hU).1)
    refine ⟨hBS, fun T hT hle => hup T S (hBl g T hT) (fun U hU => ?_)⟩
    exact (h U hU).2 (inter T U) ((hB T (hBl g T hT)).1 hT U hU) (hdown S T hle U hU)

theorem preferred_parts (hp : Parts g parts) (S : ASet) (hS : SubsetS S g.live) :
    g.Preferred S ↔ ∀ U ∈ parts, (g.restrict U).Preferred (inter S U) :=
  max_parts hp G.Admissible (fun _ => SubsetS) (fun _ _ h => h.1.1) (adm_parts hp)
    (fun _ _ _ h => h) (fun _ _ h U _ => subsetS_down h U) (subsetS_up hp) S hS

theorem semistable_parts (hp : Parts g parts) (S : ASet) (hS : SubsetS S g.live) :
    g.SemiStable S ↔ ∀ U ∈ parts, (g.restrict U).SemiStable (inter S U) :=
  max_parts hp G.Complete G.RangeSub (fun _ _ h => h.1.1.1) (complete_parts hp)
    (fun _ _ _ h => h) (fun _ _ h U hU => rangeSub_down (hp.closed U hU) h) (rangeSub_up hp) S hS

theorem stage_parts (hp : Parts g parts) (S : ASet) (hS : SubsetS S g.live) :
    g.Stage S ↔ ∀ U ∈ parts, (g.restrict U).Stage (inter S U) :=
  max_parts hp G.CF G.RangeSub (fun _ _ h => h.1) (cf_parts hp)
    (fun _ _ _ h => h) (fun _ _ h U hU => rangeSub_down (hp.closed U hU) h) (rangeSub_up hp) S hS

/-- `Q0`, any member of `Q`, fills the other parts when a member of `Q` on one part is extended to
the whole graph -/
theorem least_parts (hp : Parts g parts) (B Q : G → ASet → Prop)
    (hQl : ∀ (g' : G) T, Q g' T → SubsetS T g'.live)
    (hB : ∀ T, (SubsetS T g.live) → (B g T ↔ ∀ U ∈ parts, B (g.restrict U) (inter T U)))
    (hQ : ∀ T, (SubsetS T g.live) → (Q g T ↔ ∀ U ∈ parts, Q (g.restrict U) (inter T U)))
    (S : ASet) (hS : SubsetS S g.live) (hex : B g S → ∃ Q0, Q g Q0) :
    (B g S ∧ ∀ T, Q g T → SubsetS S T) ↔
      ∀ U ∈ parts, (B (g.restrict U) (inter S U) ∧ ∀ T, Q (g.restrict U) T → SubsetS (inter S U) T) := by
  constructor
  · rintro ⟨hBS, hleast⟩ U hU
    refine ⟨(hB S hS).1 hBS U hU, fun T hT a ha => ?_⟩
    obtain ⟨Q0, hQ0⟩ := hex hBS
    have hTU : ∀ a, T a = true → U a = true := fun a ha => (restrict_live_iff.1 (hQl _ T hT a ha)).2
    have hQ' : Q g (splice U T Q0) := by
      refine (hQ _ (splice_live (hQl _ T hT) (hQl g Q0 hQ0))).2 (fun V hV => ?_)
      rcases hp.rel hU hV with rfl | hd
      · rw [inter_splice_self Q0 hTU]; exact hT
      · rw [inter_splice_disj T Q0 hd]; exact (hQ Q0 (hQl g Q0 hQ0)).1 hQ0 V hV
    obtain ⟨hSa, hUa⟩ := (inter_true _ _ a).1 ha
    have := hleast _ hQ' a hSa
    simpa [splice, hUa] using this
  · intro h
    exact ⟨(hB S hS).2 (fun U hU => (h U hU).1), fun T hT =>
      subsetS_up hp S T hS (fun U hU => (h U hU).2 _ ((hQ T (hQl g T hT)).1 hT U hU))⟩

theorem grounded_parts (hp : Parts g parts) (S : ASet) (hS : SubsetS S g.live) :
    g.Grounded S ↔ ∀ U ∈ parts, (g.restrict U).Grounded (inter S U) :=
  least_parts hp G.Complete G.Complete (fun _ _ h => h.1.1.1) (complete_parts hp) (complete_parts hp) S hS
    (fun h => ⟨S, h⟩)

end

section
variable {g : G} {parts : List (Nat → Bool)}

theorem idealCand_parts (hp : Parts g parts) (hex : ∃ P, g.Preferred P) (S : ASet)
    (hS : SubsetS S g.live) :
    g.IdealCand S ↔ ∀ U ∈ parts, (g.restrict U).IdealCand (inter S U) :=
  least_parts hp G.Admissible G.Preferred (fun _ _ h => h.1.1.1) (adm_parts hp) (preferred_parts hp) S hS
    (fun _ => hex)

theorem ideal_parts_fin (hp : Parts g parts) (hfin : g.Fin) (S : ASet)
    (hS : SubsetS S g.live) :
    g.Ideal S ↔ ∀ U ∈ parts, (g.restrict U).Ideal (inter S U) :=
  max_parts hp G.IdealCand (fun _ => SubsetS) (fun _ _ h => h.1.1.1)
    (idealCand_parts hp (g.exists_preferred hfin)) (fun _ _ _ h => h) (fun _ _ h U _ => subsetS_down h U)
    (subsetS_up hp) S hS

end

end Crusta
