import Crusta.Proofs.Deciders
import Crusta.Proofs.GExist

/-!
# Textbook facts about the semantics on compact frameworks

Two presentations of one attack set give one graph (`AF.SameGraph.g_eq`).  What `GBasic.lean` and
`GExist.lean` prove for graphs is read off through `af.g`: the fundamental lemma, preferred ⊆ complete,
every admissible set lies in a preferred extension, the ideal extension is unique.  What only the
compact case needs is proved here directly: stable ⊆ preferred, semi-stable and stage, and
ST = SST = STG as soon as a stable extension exists.  The last section is what the ideal solver rests
on: the ideal extension is complete; a ⊆-maximal complete set inside the intersection of the preferred
extensions is ideal; so is the grounded extension when it is that intersection, and a unique
preferred extension.
-/

namespace Crusta

def AF.SameGraph (f g : AF) : Prop := f.n = g.n ∧ ∀ p, p ∈ f.atts ↔ p ∈ g.atts

theorem AF.SameGraph.symm {f g : AF} (h : f.SameGraph g) : g.SameGraph f :=
  ⟨h.1.symm, fun p => (h.2 p).symm⟩

theorem AF.SameGraph.g_eq {f g : AF} (h : f.SameGraph g) : f.g = g.g :=
  G.ext_of_eq (fun a => by simp only [AF.g, h.1]) (fun b a => h.2 (b, a))

theorem attackedBy_mono {af : AF} {S T : ASet} (h : SubsetS S T) {a : Nat} (ha : AttackedBy af S a) :
    AttackedBy af T a := by
  obtain ⟨b, hb, hs⟩ := ha; exact ⟨b, hb, h b hs⟩

theorem defended_mono {af : AF} {S T : ASet} (h : SubsetS S T) {a : Nat} (hd : Defended af S a) :
    Defended af T a := fun b hb => attackedBy_mono h (hd b hb)

theorem adm_add_defended {af : AF} {S : ASet} (hS : Admissible af S) {a : Nat} (ha : a < af.n)
    (hd : Defended af S a) : Admissible af (addArg S a) :=
  (af.g_admissible _).1 (G.admissible_addArg ((af.g_admissible S).2 hS) (decide_eq_true ha) hd)

theorem preferred_complete {af : AF} {S : ASet} (h : Preferred af S) : Complete af S :=
  (af.g_complete S).1 (G.preferred_complete ((af.g_preferred S).2 h))

theorem grounded_sub_preferred {af : AF} {E P : ASet} (hE : Grounded af E) (hP : Preferred af P) :
    SubsetS E P := hE.2 P (preferred_complete hP)

theorem AF.g_fin (af : AF) : af.g.Fin := ⟨af.n, fun _ => of_decide_eq_true⟩

theorem exists_preferred_superset {af : AF} {S : ASet} (hS : Admissible af S) :
    ∃ P, Preferred af P ∧ SubsetS S P :=
  let ⟨P, hP, hSP⟩ := af.g.exists_preferred_above af.g_fin S ((af.g_admissible S).2 hS)
  ⟨P, (af.g_preferred P).1 hP, hSP⟩

theorem preferred_of_max_complete {af : AF} {S : ASet} (hS : Complete af S)
    (hmax : ∀ T, Complete af T → SubsetS S T → SubsetS T S) : Preferred af S :=
  (af.g_preferred S).1 (G.preferred_of_max_complete af.g_fin ((af.g_complete S).2 hS)
    fun T hT => hmax T ((af.g_complete T).1 hT))

theorem exists_preferred (af : AF) : ∃ P, Preferred af P :=
  let ⟨P, hP⟩ := af.g.exists_preferred af.g_fin; ⟨P, (af.g_preferred P).1 hP⟩

theorem ideal_unique {af : AF} {S T : ASet} (hS : Ideal af S) (hT : Ideal af T) (a : Nat) : S a = T a :=
  G.ideal_unique (af.g.exists_preferred af.g_fin) ((af.g_ideal S).2 hS) ((af.g_ideal T).2 hT) a

theorem stable_admissible {af : AF} (hwf : af.WF) {S : ASet} (h : Stable af S) : Admissible af S := by
  refine ⟨h.1, ?_⟩
  intro a ha b hb
  have hbn : b < af.n := (hwf _ hb).1
  cases hSb : S b
  · exact h.2 b hbn hSb
  · exact absurd ⟨b, hb, hSb⟩ (h.1.2 a ha)

theorem stable_preferred {af : AF} (hwf : af.WF) {S : ASet} (h : Stable af S) : Preferred af S := by
  refine ⟨stable_admissible hwf h, ?_⟩
  intro T hT hST x hx
  cases hSx : S x
  · exfalso
    have hxn : x < af.n := hT.1.1 x hx
    obtain ⟨b, hb, hSb⟩ := h.2 x hxn hSx
    exact hT.1.2 x hx ⟨b, hb, hST b hSb⟩
  · rfl

theorem stable_complete {af : AF} (hwf : af.WF) {S : ASet} (h : Stable af S) : Complete af S :=
  preferred_complete (stable_preferred hwf h)

theorem stable_full_range {af : AF} {S : ASet} (h : Stable af S) (a : Nat) (ha : a < af.n) : InRange af S a := by
  cases hSa : S a
  · right; exact h.2 a ha hSa
  · left; exact hSa

theorem inRange_lt' {af : AF} (hwf : af.WF) {S : ASet} (hS : Sub af S) {a : Nat} (h : InRange af S a) : a < af.n :=
  h.elim (hS a) fun ⟨_, hb, _⟩ => (hwf _ hb).2

theorem stable_semistable {af : AF} (hwf : af.WF) {S : ASet} (h : Stable af S) : SemiStable af S :=
  ⟨stable_complete hwf h, fun _ hT _ a ha => stable_full_range h a (inRange_lt' hwf (co_sub hT) ha)⟩

theorem stable_stage {af : AF} (hwf : af.WF) {S : ASet} (h : Stable af S) : Stage af S :=
  ⟨h.1, fun _ hT _ a ha => stable_full_range h a (inRange_lt' hwf (cf_sub hT) ha)⟩

theorem stable_of_full_range {af : AF} {S : ASet} (hcf : ConflictFree af S)
    (hr : ∀ a, a < af.n → InRange af S a) : Stable af S := by
  refine ⟨hcf, ?_⟩
  intro a ha hSa
  rcases hr a ha with h | h
  · rw [hSa] at h; cases h
  · exact h

/-- the range of a stable `E` is everything, so a range not strictly below it is everything too -/
theorem stable_of_range_max {af : AF} (hwf : af.WF) {E S : ASet} (hE : Stable af E) (hcf : ConflictFree af S)
    (hmax : RangeSub af S E → RangeSub af E S) : Stable af S :=
  stable_of_full_range hcf fun a ha =>
    hmax (fun x hx => stable_full_range hE x (inRange_lt' hwf (cf_sub hcf) hx)) a (stable_full_range hE a ha)

theorem st_sst_stg_coincide {af : AF} (hwf : af.WF) {E : ASet} (hE : Stable af E) (S : ASet) :
    (SemiStable af S ↔ Stable af S) ∧ (Stage af S ↔ Stable af S) :=
  ⟨⟨fun hS => stable_of_range_max hwf hE hS.1.1.1 (hS.2 E (stable_complete hwf hE)), stable_semistable hwf⟩,
    ⟨fun hS => stable_of_range_max hwf hE hS.1 (hS.2 E hE.1), stable_stage hwf⟩⟩

theorem ideal_sub_preferred {af : AF} {I P : ASet} (hI : Ideal af I) (hP : Preferred af P) : SubsetS I P :=
  hI.1.2 P hP

theorem inAllPref_lt {af : AF} {a : Nat} (h : ∀ P, Preferred af P → P a = true) : a < af.n := by
  obtain ⟨P, hP⟩ := exists_preferred af
  exact hP.1.1.1 a (h P hP)

theorem maxIdealCand_complete {af : AF} {M : ASet} (hM : IdealCand af M)
    (hmax : ∀ T, IdealCand af T → SubsetS M T → SubsetS T M) : Complete af M := by
  refine ⟨hM.1, ?_⟩
  intro a ha hd
  have hadm := adm_add_defended hM.1 ha hd
  have hc : IdealCand af (addArg M a) := by
    refine ⟨hadm, ?_⟩
    intro P hP x hx
    have hx' : M x = true ∨ x = a := by simpa [addArg] using hx
    rcases hx' with h | rfl
    · exact hM.2 P hP x h
    · exact (preferred_complete hP).2 x ha (defended_mono (hM.2 P hP) hd)
  exact hmax _ hc (subset_addArg M a) a (by simp [addArg])

theorem ideal_complete {af : AF} {S : ASet} (h : Ideal af S) : Complete af S :=
  maxIdealCand_complete h.1 h.2

theorem ideal_of_max_complete {af : AF} {S : ASet} (hS : Complete af S)
    (hin : ∀ P, Preferred af P → SubsetS S P)
    (hmax : ∀ T, Complete af T → (∀ P, Preferred af P → SubsetS T P) → SubsetS S T → SubsetS T S) :
    Ideal af S := by
  refine ⟨⟨hS.1, hin⟩, ?_⟩
  intro T hT hST
  obtain ⟨M, hM, hTM, hmaxM⟩ := exists_subMax (IdealCand af) (fun S h => h.1.1.1) T hT
  have hMS := hmax M (maxIdealCand_complete hM hmaxM) hM.2 (fun a ha => hTM a (hST a ha))
  intro a ha
  exact hMS a (hTM a ha)

theorem ideal_of_grounded_inter {af : AF} {G : ASet} (hG : Complete af G)
    (hleast : ∀ T, Complete af T → SubsetS G T)
    (hI : ∀ a, (∀ P, Preferred af P → P a = true) → G a = true) : Ideal af G := by
  refine ⟨⟨hG.1, fun P hP => hleast P (preferred_complete hP)⟩, ?_⟩
  intro T hT _ a ha
  exact hI a (fun P hP => hT.2 P hP a ha)

theorem ideal_of_unique_preferred {af : AF} {P : ASet} (hP : Preferred af P)
    (huniq : ∀ Q, Preferred af Q → ∀ a, Q a = P a) : Ideal af P := by
  refine ⟨⟨hP.1, ?_⟩, ?_⟩
  · intro Q hQ a ha; rw [huniq Q hQ a]; exact ha
  · intro T hT _; exact hT.2 P hP

end Crusta
