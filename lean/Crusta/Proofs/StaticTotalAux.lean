import Crusta.Proofs.CompAlg
import Crusta.Proofs.SolveCO
import Crusta.Proofs.Deciders

/-!
# When the static solvers can reach a crash node

The crash nodes of the plumbing are excluded (`mergedOf_some`: the merged component of live
arguments exists and holds them); the fuel: `fuelFor`, the crash condition `FuelShort` of the
entry points, and the inequalities that reduce the crash conditions of the searches on one
component (`Solve*.lean`) to it.
-/

namespace Crusta
open Prog (mkSolver doReserve addClause addClauses getNVars doSolve)

/-! ## `NC`: a syntactic no-crash predicate with its rules

The entry points are proved generic in the crash condition and do not use it. -/

def NC {α : Type} : Prog α → Prop
  | .pure _ => True
  | .crash _ => False
  | .newSolver k => ∀ i, NC (k i)
  | .reserve _ _ k => NC k
  | .clause _ _ k => NC k
  | .nVars _ k => ∀ n, NC (k n)
  | .solve _ _ k => ∀ r, NC (k r)

theorem NC.wp {α : Type} {p : Prog α} : NC p → ∀ (w : World) (Q : α → World → Prop),
    (∀ a w', Q a w') → wp False p w Q := by
  induction p with
  | pure a0 => intro _ w Q hq; exact hq _ _
  | crash m => intro h; exact h.elim
  | newSolver k ih => intro h w Q hq; exact ih _ (h _) _ Q hq
  | reserve s n k ih => intro h w Q hq; exact ih h _ Q hq
  | clause s c k ih => intro h w Q hq; exact ih h _ Q hq
  | nVars s k ih => intro h w Q hq; exact ih _ (h _) _ Q hq
  | solve s as k ih => intro h w Q hq; exact ⟨fun m _ => ih _ (h _) _ Q hq, fun _ => ih _ (h _) _ Q hq⟩

theorem NC.bind {α β : Type} {p : Prog α} {f : α → Prog β} (hp : NC p) (hf : ∀ a, NC (f a)) : NC (p.bind f) := by
  induction p with
  | pure a0 => exact hf a0
  | crash m => exact hp.elim
  | newSolver k ih => intro i; exact ih i (hp i)
  | reserve s n k ih => exact ih hp
  | clause s c k ih => exact ih hp
  | nVars s k ih => intro n; exact ih n (hp n)
  | solve s as k ih => intro r; exact ih r (hp r)

theorem NC_pure {α : Type} (a : α) : NC (pure a : Prog α) := trivial
theorem NC_mkSolver : NC mkSolver := fun _ => trivial
theorem NC_getNVars (s : Nat) : NC (getNVars s) := fun _ => trivial
theorem NC_addClause (s : Nat) (c : Clause) : NC (addClause s c) := trivial
theorem NC_doSolve (s : Nat) (a : List Lit) : NC (doSolve s a) := fun _ => trivial
theorem NC_doReserve (s n : Nat) : NC (doReserve s n) := trivial

theorem NC_addClauses (s : Nat) : ∀ cs : Cnf, NC (addClauses s cs)
  | [] => trivial
  | _ :: cs => NC_addClauses s cs

theorem NC_encodeInto (k : EncKind) (af : AF) (s : Nat) (wr : Bool) : NC (encodeInto k af s wr) := by
  unfold encodeInto
  cases hr : k.reserve af.n wr with
  | none => exact NC_addClauses _ _
  | some r => exact NC.bind (NC_doReserve _ r) (fun _ => NC_addClauses _ _)

theorem ccArgs_eq (c : Comp) : ∀ (args pos : List Nat), posAll c args = some pos → ccArgs c args = pure pos
  | [], pos, h => by
    simp only [posAll, Option.some.injEq] at h; subst h; rfl
  | a :: t, pos, h => by
    simp only [posAll] at h
    cases hp : c.pos a with
    | none => rw [hp] at h; simp at h
    | some i =>
      cases hr : posAll c t with
      | none => rw [hp, hr] at h; simp at h
      | some r =>
        rw [hp, hr] at h
        injection h with h; subst h
        have ih := ccArgs_eq c t r hr
        unfold ccArgs at ih ⊢
        simp only [List.foldr_cons, Prog.bind_eq] at ih ⊢
        rw [ih, hp]
        rfl

/-- the merged component of live arguments, computed from the fresh state: neither the "already
computed" panic nor the extraction panic -/
theorem mergedOf_some (v : FwView) (g : G) (hv : v.Ok g) (args : List Nat) (hargs : ∀ a ∈ args, g.live a = true) :
    ∃ c cc, CC.mergedOf v (CC.new v) args = some (some c, cc) ∧ GoodComp g c ∧ (∀ a ∈ args, a ∈ c.ids) ∧
      CCInv v g cc (fun a => a ∈ c.ids) := by
  have hI := CC.new_inv v g hv
  have hany : ¬ args.any (fun a => (CC.new v).inCC.getD a false) = true := by
    intro h
    obtain ⟨a, _, ha⟩ := List.any_eq_true.1 h
    exact (hI.mark a).2 ha
  cases hm : CC.mergedOf v (CC.new v) args with
  | none =>
    rw [mergedOf_eq, if_neg hany] at hm
    cases hm
  | some p =>
    obtain ⟨oc, cc⟩ := p
    obtain ⟨c, rfl, hgood, hin, hI'⟩ := CC.mergedOf_spec v g hv args hargs oc cc hm
    exact ⟨c, cc, rfl, hgood, hin, hI'⟩

theorem GoodComp.n_le {v : FwView} {g : G} (hv : v.Ok g) {c : Comp} (hc : GoodComp g c) :
    c.af.n ≤ 1 + v.maxId.getD 0 := by
  rw [hc.n_eq]
  have hsub : c.ids ⊆ List.range (1 + v.maxId.getD 0) := by
    intro a ha
    obtain ⟨m, hm, hle⟩ := hv.maxId_ge a (hc.live a ha)
    rw [hm]
    simp only [Option.getD_some, List.mem_range]
    omega
  have := hc.nodup.length_le_of_subset hsub
  simpa using this

theorem length_extsCO_le (af : AF) : (extsCO af).length ≤ 2 ^ af.n := by
  rw [← length_subsets]; exact List.length_filter_le _ _

theorem length_extsCF_le (af : AF) : (extsCF af).length ≤ 2 ^ af.n := by
  rw [← length_subsets]; exact List.length_filter_le _ _

theorem length_extsPR_le (af : AF) : (extsPR af).length ≤ 2 ^ af.n := by
  rw [← length_subsets]
  exact Nat.le_trans (List.length_filter_le _ _) (List.length_filter_le _ _)

/-- enough for every loop on a component with `n ≤ N` arguments: `n + 3` iterations of `compute_maximal`
(`fuel_lin`), `|CO| + |PR| + 2 ≤ 2·2ⁿ + 2` for the skeptical and ideal enumerations (`fuel_co`, `fuel_copr`),
`(n + 2)·|family| + 2 ≤ (n + 2)·2ⁿ + 2` for the range loops (`fuel_mul`), one iteration per id slot for
`otherCompsWith` (`otherComps_fuel`) -/
def fuelFor (N : Nat) : Nat := (N + 3) * 2 ^ N + N + 3

theorem fuelFor_ge_lin {n N : Nat} (h : n ≤ N) : n + 3 ≤ fuelFor N := by
  unfold fuelFor; omega

theorem fuelFor_ge_mul {n N : Nat} (h : n ≤ N) : (n + 2) * 2 ^ n + 2 ≤ fuelFor N := by
  unfold fuelFor
  have h1 : 2 ^ n ≤ 2 ^ N := Nat.pow_le_pow_right (by decide) h
  have h2 : (n + 2) * 2 ^ n ≤ (N + 3) * 2 ^ N := Nat.mul_le_mul (by omega) h1
  omega

theorem fuelFor_ge_two_pow {n N : Nat} (h : n ≤ N) : 2 ^ n + 2 ^ n + 2 ≤ fuelFor N := by
  have h1 := fuelFor_ge_mul h
  have h2 : (n + 2) * 2 ^ n = n * 2 ^ n + 2 * 2 ^ n := Nat.add_mul _ _ _
  omega

/-- the fuel of the model's loops is short: the one reason for which an entry point may reach a
crash node -/
abbrev FuelShort (cfg : Cfg) (v : FwView) : Prop := cfg.fuel < fuelFor (1 + v.maxId.getD 0)

/-- the crash condition `cfg.fuel < n` of a search is `FuelShort` once `fuelFor … ≥ n` (`fuel_lin` … `fuel_mul`) -/
theorem FuelShort.of_ge {cfg : Cfg} {v : FwView} {n : Nat}
    (h : cfg.fuel ≥ fuelFor (1 + v.maxId.getD 0) → cfg.fuel ≥ n) : cfg.fuel < n → FuelShort cfg v :=
  fun hlt => Nat.lt_of_not_le fun hf => Nat.not_le_of_lt hlt (h hf)

section fuel
variable {v : FwView} {g : G} {c : Comp} {cfg : Cfg}

theorem fuel_lin (hv : v.Ok g) (hc : GoodComp g c) (hfuel : cfg.fuel ≥ fuelFor (1 + v.maxId.getD 0)) :
    cfg.fuel ≥ c.af.n + 3 :=
  Nat.le_trans (fuelFor_ge_lin (hc.n_le hv)) hfuel

theorem fuel_co (hv : v.Ok g) (hc : GoodComp g c) (hfuel : cfg.fuel ≥ fuelFor (1 + v.maxId.getD 0)) :
    cfg.fuel ≥ (extsCO c.af).length + 1 := by
  have h1 := fuelFor_ge_two_pow (hc.n_le hv)
  have h2 := length_extsCO_le c.af
  omega

theorem fuel_copr (hv : v.Ok g) (hc : GoodComp g c) (hfuel : cfg.fuel ≥ fuelFor (1 + v.maxId.getD 0)) :
    cfg.fuel ≥ (extsCO c.af).length + (extsPR c.af).length + 2 := by
  have h1 := fuelFor_ge_two_pow (hc.n_le hv)
  have h2 := length_extsCO_le c.af
  have h3 := length_extsPR_le c.af
  omega

theorem fuel_mul (hv : v.Ok g) (hc : GoodComp g c) (hfuel : cfg.fuel ≥ fuelFor (1 + v.maxId.getD 0))
    {fam : List (List Nat)} (hlen : fam.length ≤ 2 ^ c.af.n) :
    cfg.fuel ≥ (c.af.n + 2) * fam.length + 2 := by
  have h1 := fuelFor_ge_mul (hc.n_le hv)
  have h2 : (c.af.n + 2) * fam.length ≤ (c.af.n + 2) * 2 ^ c.af.n := Nat.mul_le_mul_left _ hlen
  omega

theorem otherComps_fuel {v : FwView} {g : G} {cc : CC} {marked : Nat → Prop} (hI : CCInv v g cc marked)
    {fuel : Nat} (hfuel : fuel ≥ fuelFor (1 + v.maxId.getD 0)) : cc.inCC.count false < fuel := by
  have h1 := @List.count_le_length _ _ false cc.inCC
  rw [hI.len] at h1
  unfold fuelFor at hfuel
  omega

theorem otherComps_fuel' {cc : CC} {marked : Nat → Prop} (hI : CCInv v g cc marked) :
    FuelShort cfg v ∨ cc.inCC.count false < cfg.fuel :=
  (Nat.lt_or_ge _ _).imp_right (otherComps_fuel hI)

end fuel

end Crusta
