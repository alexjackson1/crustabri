import Crusta.Proofs.DynHistory

/-!
# The dynamic solvers never panic on a supported query about an existing argument

The query theorems of `DynQuery.lean` / `DynPR.lean` are generic in what a `crash` node of the model
counts as (`wp C`).  Instantiated with `C = False` they say that, on replies a correct SAT solver may
give, a query about an argument of the current framework reaches no crash node:

* `needArg` / `DState.argLit`: the label is live and every live argument has a variable (`EncInv.av_live`);
* the replay of the buffer (`wp_updateEncoding`): the buffered events are effective (`EffRun`);
* `needLabels`: ids decoded from a model are ids of the framework (`Decode.live`);
* `fromCache`: a cached extension is read only when no update follows it in the buffer, and then the solver's
  framework is still the pending one (`DInv.tail_sync`), so its ids are live (`BufInv.wp_cachedLabels`);
* `DMEC.block`: every live argument has a variable (`splitSparse_eq`); `computeNext` in state `none`:
  excluded by the states in which the loop starts an iteration (`Search.Sys.Head`);
* the fuel of the model's loop of the preferred solver (the Rust loop has none): the loop makes at most
  `2 ^ n + 1` iterations, `n` the number of argument ids of the framework (`wp_prLoop`), and the statements
  about the preferred solver carry the hypothesis `prFuel d.pending ≤ fuel`.

The only remaining crash nodes are the two `unimplemented!()` entry points (`query` on `.CO, .skep`
and on `.PR, .cred`), which are excluded by hypothesis.
-/

namespace Crusta.Dyn
open Crusta.Store

theorem supported_query_total {sem : DSem} {fuel : Nat} {d : DState} {w : World} (h : QInv sem d w)
    (q : DQuery) (hq : Supported sem q) (hfuel : FuelOK sem d.pending fuel)
    {l id : Nat} (hl : d.pending.Live id l) :
    wp False (query fuel d q l) w (fun r w' => QInv sem r.1 w' ∧ r.1.pending = d.pending ∧
      AnswerOK sem d.pending q l r.2) := query_spec h q (Or.inr ⟨hq, hfuel⟩) hl

theorem Supported.of_ne_pr {sem : DSem} (hsem : sem ≠ .PR) {q : DQuery} (hq : sem = .CO → q = .cred) {st : Store}
    {fuel : Nat} : Supported sem q ∧ FuelOK sem st fuel := by
  refine ⟨?_, fun hp => absurd hp hsem⟩
  cases sem with
  | PR => exact absurd rfl hsem
  | CO => rw [hq rfl]; trivial
  | ST => cases q <;> trivial

/-- with `C` read as "the model's loop ran out of fuel", nothing need be assumed about the fuel: the fuel node
is the only crash node the preferred solver could reach -/
theorem prSkepQuery_no_other_crash {C : Prop} {fuel : Nat} {d : DState} {w : World} (h : QInv .PR d w) {l id : Nat}
    (hl : d.pending.Live id l) (hfuel : C ∨ prFuel d.pending ≤ fuel) :
    wp C (prSkepQuery fuel d l) w (fun r w' => QInv .PR r.1 w' ∧ r.1.pending = d.pending ∧
      SkepOK .PR d.pending l r.2) :=
  wp_mono _ _ _ _ (fun _ _ hh => hh.1) (wp_prSkepQuery_calls fuel _ h hl (length_le_subsets d.pending)
    (hfuel.imp (fun hc => hc) (Nat.le_trans (subsets_succ_le_prFuel _))))

/-- **a supported query is answered**: on sound replies the run of the model ends with an answer — the
right one, in a state that satisfies the solver invariant again — unless the SAT solver gave up
(`unknown`: the query is aborted) or the reply list is too short; it never panics -/
theorem supported_query_outcome {sem : DSem} {fuel : Nat} {d : DState} {w : World} (h : QInv sem d w)
    (q : DQuery) (hq : Supported sem q) (hfuel : FuelOK sem d.pending fuel)
    {l id : Nat} (hl : d.pending.Live id l) {rs : List Reply} (hs : RunSound (query fuel d q l) rs w) :
    (∃ d' a w', interp (query fuel d q l) rs w = (.done (d', a), w') ∧ QInv sem d' w' ∧
        d'.pending = d.pending ∧ AnswerOK sem d.pending q l a) ∨
    (∃ w', interp (query fuel d q l) rs w = (.abort, w')) ∨
    (∃ w', interp (query fuel d q l) rs w = (.starved, w')) := by
  rcases wp_run_total _ rs w _ (supported_query_total h q hq hfuel hl) hs with ⟨⟨d', a⟩, w', hrun, hpost⟩ | hr
  · exact Or.inl ⟨d', a, w', hrun, hpost⟩
  · exact Or.inr hr

end Crusta.Dyn
