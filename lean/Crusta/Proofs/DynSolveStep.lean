import Crusta.Proofs.DynInv

/-!
# The SAT call of a credulous / skeptical query, for any encoder

`QueryEnc` is what a query uses of an up-to-date encoder; the encoders of `Dyn` and of `DynAtt` both meet
it once `update_encoding` has run.  `credSolveK` / `skepSolveK` are the SAT call of `credSolve` /
`stSkepSolve` with the state update left as a continuation; `wp_credSolveK` / `wp_skepSolveK`: the answer
is correct (`CredOK`, `SkepOK`) and the computation recorded in the buffer is sound (`CompSound`).
-/

namespace Crusta.Dyn
open Crusta Crusta.Store

/-- the extensions the clauses describe: the complete ones for the preferred solver -/
def EncExt (sem : DSem) (g : G) (S : ASet) : Prop :=
  match sem with
  | .ST => g.Stable S
  | _ => g.Complete S

/-- the extensions of the semantics the solver answers for -/
def IsExt (sem : DSem) (g : G) (S : ASet) : Prop :=
  match sem with
  | .ST => g.Stable S
  | .CO => g.Complete S
  | .PR => g.Preferred S

theorem isExt_iff_encExt {sem : DSem} (h : sem ≠ .PR) (g : G) (S : ASet) : IsExt sem g S ↔ EncExt sem g S := by
  cases sem <;> simp_all [IsExt, EncExt]

theorem isExt_live {sem : DSem} {g : G} {S : ASet} (h : IsExt sem g S) : SubsetS S g.live := by
  cases sem with
  | ST => exact h.1.1
  | CO => exact h.1.1.1
  | PR => exact h.1.1.1

def CredOK (sem : DSem) (st : Store) (l : Nat) (a : AccAns) : Prop :=
  ∀ id, st.Live id l →
    (a.status = true → ∃ e, a.cert = some e ∧ IsExt sem st.g (ofList e) ∧ id ∈ e) ∧
    (a.status = false → a.cert = none ∧ ∀ S, IsExt sem st.g S → S id = false)

def SkepOK (sem : DSem) (st : Store) (l : Nat) (a : AccAns) : Prop :=
  ∀ id, st.Live id l →
    (a.status = true → a.cert = none ∧ ∀ S, IsExt sem st.g S → S id = true) ∧
    (a.status = false → ∃ e, a.cert = some e ∧ IsExt sem st.g (ofList e) ∧ id ∉ e)

def AnswerOK (sem : DSem) (st : Store) : DQuery → Nat → AccAns → Prop
  | .cred => CredOK sem st
  | .skep => SkepOK sem st

/-- a cached computation is a true statement about the framework -/
def CompSound (sem : DSem) (st : Store) : Event → Prop
  | .cred acc ref ext => ∀ e, ext = some e → IsExt sem st.g (ofList e) ∧
      (∀ l ∈ acc, ∃ id, st.Live id l ∧ id ∈ e) ∧ (∀ l ∈ ref, ∀ id, st.Live id l → id ∉ e)
  | .skep acc ref ext => ∀ e, ext = some e → IsExt sem st.g (ofList e) ∧
      (∀ l ∈ acc, ∃ id, st.Live id l ∧ id ∈ e) ∧ (∀ l ∈ ref, ∀ id, st.Live id l → id ∉ e)
  | _ => True

theorem labelsOf_some {st : Store} {ids : List Nat} (h : ∀ i ∈ ids, st.hasId i = true) :
    ∃ ls, labelsOf st ids = some ls :=
  ⟨_, optAll_map_of_forall st.labelOf (fun i => (st.labelOf i).getD 0) ids fun i hi => by
    obtain ⟨l, hl⟩ := hasId_iff.1 (h i hi)
    have hl : st.labelOf i = some l := hl
    rw [hl]; rfl⟩

/-- `get_argument_by_id` on each of `ids` does not panic when the ids are ids of the framework -/
theorem wp_needLabels {C : Prop} (st : Store) (ids : List Nat) (w : World) (Q : List Nat → World → Prop)
    (hlive : ∀ i ∈ ids, st.hasId i = true) (h : ∀ ls, labelsOf st ids = some ls → Q ls w) :
    wp C (needLabels st ids) w Q := by
  unfold needLabels
  obtain ⟨ls, hl⟩ := labelsOf_some hlive
  rw [hl]
  exact h ls hl

theorem labelsOf_spec {st : Store} {ids ls : List Nat} (h : labelsOf st ids = some ls) :
    ∀ l ∈ ls, ∃ id ∈ ids, st.Live id l := by
  unfold labelsOf at h
  have h1 := optAll_eq_some _ _ h
  intro l hl
  have : some l ∈ ids.map st.labelOf := by rw [h1]; exact List.mem_map_of_mem hl
  obtain ⟨id, hid, hlab⟩ := List.mem_map.1 this
  exact ⟨id, hid, hlab⟩

/-- `argsWhere` of both encoders, over the decoding function -/
def argsWhereG (dec : Nat → Option Nat) (m : Model) (p : Option Bool → Bool) : List Nat :=
  (m.zipIdx).filterMap (fun q => if p q.1 then dec (q.2 + 1) else none)

theorem mem_argsWhereG (dec : Nat → Option Nat) (m : Model) (p : Option Bool → Bool) (a : Nat) :
    a ∈ argsWhereG dec m p ↔ ∃ i b, m[i]? = some b ∧ p b = true ∧ dec (i + 1) = some a := by
  simp only [argsWhereG, List.mem_filterMap, Prod.exists, List.mem_zipIdx_iff_getElem?,
    Option.ite_none_right_eq_some]
  exact exists_comm

/-- `xv` (id to variable) and `dec` (variable to id, `solver_var_to_arg`) are inverse to each other on the
arguments of `st`.  Their variables are positive (`i + 1`), and a model lists the values of the variables
`1, 2, …` from index 0: the value of `xv a` is `m[xv a - 1]?` -/
structure Decode (st : Store) (xv : Nat → Nat) (dec : Nat → Option Nat) : Prop where
  dec_xv : ∀ v a, dec v = some a → st.hasId a = true ∧ xv a = v
  xv_dec : ∀ a, st.hasId a = true → ∃ i, xv a = i + 1 ∧ dec (i + 1) = some a

/-- what a query uses of an up-to-date encoder: decoding, every argument variable occurs in the database (so a
total model decides it), and the database under the assumptions is sound and complete for the `sem`-extensions -/
structure QueryEnc (sem : DSem) (st : Store) (Γ : Cnf) (as : List Lit) (xv : Nat → Nat)
    (dec : Nat → Option Nat) : Prop where
  dc : Decode st xv dec
  occurs : ∀ a, st.hasId a = true → Occurs Γ (xv a)
  sound : ∀ ν : Asg, cnfTrue ν Γ = true → assumpsTrue ν as = true →
    IsExt sem st.g (fun i => st.hasId i && ν (xv i))
  complete : ∀ S : ASet, IsExt sem st.g S →
    ∃ ν : Asg, cnfTrue ν Γ = true ∧ assumpsTrue ν as = true ∧ ∀ i, st.hasId i = true → ν (xv i) = S i

section
variable {sem : DSem} {st : Store} {Γ : Cnf} {as : List Lit} {xv : Nat → Nat} {dec : Nat → Option Nat}

theorem Decode.mem_argsWhere (h : Decode st xv dec) (m : Model) (p : Option Bool → Bool) (a : Nat) :
    a ∈ argsWhereG dec m p ↔ st.hasId a = true ∧ ∃ b, m[xv a - 1]? = some b ∧ p b = true := by
  rw [mem_argsWhereG]
  constructor
  · rintro ⟨i, b, hm, hp, hd⟩
    obtain ⟨hl, hx⟩ := h.dec_xv _ _ hd
    exact ⟨hl, b, by rw [hx]; exact hm, hp⟩
  · rintro ⟨hl, b, hm, hp⟩
    obtain ⟨i, hx, hd⟩ := h.xv_dec a hl
    rw [hx] at hm
    exact ⟨i, b, hm, hp, hd⟩

theorem Decode.live (h : Decode st xv dec) (m : Model) (p : Option Bool → Bool) :
    ∀ a ∈ argsWhereG dec m p, st.hasId a = true := fun a ha => ((h.mem_argsWhere m p a).1 ha).1

theorem Decode.mem_ext (h : Decode st xv dec) (m : Model) (a : Nat) :
    a ∈ argsWhereG dec m (fun b => b == some true) ↔ st.hasId a = true ∧ asgOfModel m (xv a) = true := by
  rw [h.mem_argsWhere, asgOfModel_iff]
  refine and_congr_right fun hl => ?_
  obtain ⟨i, hx, _⟩ := h.xv_dec a hl
  simp [hx]

theorem Decode.ext_eq (h : Decode st xv dec) (m : Model) :
    ofList (argsWhereG dec m (fun b => b == some true)) = fun i => st.hasId i && asgOfModel m (xv i) := by
  funext a
  rw [Bool.eq_iff_iff, ofList, List.contains_iff_mem, h.mem_ext, Bool.and_eq_true]

theorem Decode.nontrue (h : Decode st xv dec) {m : Model} {a : Nat}
    (ha : a ∈ argsWhereG dec m (fun b => b != some true)) :
    a ∉ argsWhereG dec m (fun b => b == some true) := by
  obtain ⟨_, b, hm, hp⟩ := (h.mem_argsWhere m _ a).1 ha
  intro hin
  obtain ⟨_, b', hm', hp'⟩ := (h.mem_argsWhere m _ a).1 hin
  rw [hm] at hm'
  obtain rfl := Option.some.inj hm'
  simp only [bne, hp', Bool.not_true] at hp
  cases hp

/-- on the live arguments the model is total, so "not false" is "true" -/
theorem QueryEnc.sat (h : QueryEnc sem st Γ as xv dec) {lit : Lit} {m : Model}
    (hr : ReplySound Γ (as ++ [lit]) (.sat m)) :
    IsExt sem st.g (ofList (argsWhereG dec m (fun b => b == some true))) ∧
      litTrue (asgOfModel m) lit = true ∧
      ∀ a ∈ argsWhereG dec m (fun b => b != some false), a ∈ argsWhereG dec m (fun b => b == some true) := by
  obtain ⟨htot, hΓ, hA⟩ := hr
  rw [assumpsTrue_append_iff, assumpsTrue_singleton] at hA
  refine ⟨h.dc.ext_eq m ▸ h.sound _ hΓ hA.1, hA.2, fun a ha => ?_⟩
  obtain ⟨hl, b, hm, hp⟩ := (h.dc.mem_argsWhere m _ a).1 ha
  refine (h.dc.mem_argsWhere m _ a).2 ⟨hl, b, hm, ?_⟩
  obtain ⟨c, hc, l, hlc, hvar⟩ := h.occurs a hl
  have hs := htot c hc l hlc
  rw [hvar, List.getD_eq_getElem?_getD, hm] at hs
  cases b with
  | none => cases hs
  | some x => cases x with
    | true => rfl
    | false => cases hp

theorem QueryEnc.unsat (h : QueryEnc sem st Γ as xv dec) {id : Nat} (hid : st.hasId id = true) (b : Bool)
    (hr : ReplySound Γ (as ++ [⟨xv id, b⟩]) .unsat) (S : ASet) (hS : IsExt sem st.g S) : S id = !b := by
  obtain ⟨ν, h1, h2, h3⟩ := h.complete S hS
  have hl : litTrue ν ⟨xv id, b⟩ = false := by
    cases hl : litTrue ν ⟨xv id, b⟩ with
    | false => rfl
    | true =>
      refine absurd ⟨h1, ?_⟩ (hr ν)
      rw [assumpsTrue_append, h2, assumpsTrue_singleton, hl, Bool.true_and]
  rw [← h3 id hid]
  cases b <;> simpa [litTrue] using hl

end

/-- the SAT call of `credSolve`: `ret` turns the computation to record and the answer into the result.  With
`aw := e.argsWhere` (which unfolds to `argsWhereG e.varToArg`; `e.extension m` is its `== some true` instance)
and `ret := fun ev a => ({ d with buffer := d.buffer ++ [ev] }, a)` this is, by unfolding, what follows
`argLit` in `credSolve d l` of either model -/
def credSolveK {β : Type} (af : Store) (k : Nat) (as : List Lit) (x l : Nat)
    (aw : Model → (Option Bool → Bool) → List Nat) (ret : Event → AccAns → β) : Prog β :=
  .solve k (as ++ [pl x]) fun r =>
    match r with
    | some m =>
      (needLabels af (aw m (fun b => b != some false))).bind fun acc =>
      (needLabels af (aw m (fun b => b == some true))).bind fun _ =>
      .pure (ret (.cred acc [] (some (aw m (fun b => b == some true))))
        ⟨true, some (aw m (fun b => b == some true))⟩)
    | none => .pure (ret (.cred [] [l] none) ⟨false, none⟩)

/-- the SAT call of `stSkepSolve`, with `aw` and `ret` as in `credSolveK` -/
def skepSolveK {β : Type} (af : Store) (k : Nat) (as : List Lit) (x l : Nat)
    (aw : Model → (Option Bool → Bool) → List Nat) (ret : Event → AccAns → β) : Prog β :=
  .solve k (as ++ [nl x]) fun r =>
    match r with
    | some m =>
      (needLabels af (aw m (fun b => b != some true))).bind fun ref =>
      (needLabels af (aw m (fun b => b == some true))).bind fun _ =>
      .pure (ret (.skep [] ref (some (aw m (fun b => b == some true))))
        ⟨false, some (aw m (fun b => b == some true))⟩)
    | none =>
      (needArg af l).bind fun id =>
      (needLabels af ((af.iterFrom id).map (·.2))).bind fun ref =>
      .pure (ret (.skep [l] ref none) ⟨true, none⟩)

-- from here on `wp` is not unfolded: with its recursive definition visible, every `exact` / `apply` against a
-- goal `wp C p w Q` makes Lean try to evaluate the program `p`
attribute [local irreducible] wp

section
variable {C : Prop} {β : Type} {sem : DSem} {st : Store} {as : List Lit} {xv : Nat → Nat}
  {dec : Nat → Option Nat} {k : Nat} {w : World}

theorem wp_credSolveK (hinv : st.Inv) (h : QueryEnc sem st (w.db k) as xv dec) {l id : Nat} (hl : st.Live id l)
    (ret : Event → AccAns → β) (Q : β → World → Prop)
    (hQ : ∀ r ev a, ev.isUpdate = false → CompSound sem st ev → CredOK sem st l a →
      Q (ret ev a) ((w.onSolve k (as ++ [pl (xv id)])).onReply k r)) :
    wp C (credSolveK st k as (xv id) l (argsWhereG dec) ret) w Q := by
  have hidl : st.hasId id = true := hasId_iff.2 ⟨l, hl⟩
  have huniq : ∀ id', st.Live id' l → id' = id := fun id' h' => hinv.label_inj id' id l h' hl
  unfold credSolveK
  rw [wp_solve]
  constructor
  · intro m hr
    obtain ⟨hext, hlit, hnf⟩ := h.sat hr
    simp only
    rw [wp_bind]
    apply wp_needLabels _ _ _ _ (h.dc.live m _)
    intro acc hacc
    rw [wp_bind]
    apply wp_needLabels _ _ _ _ (h.dc.live m _)
    intro _ _
    refine (wp_pure _ _ _).2 (hQ _ _ _ rfl ?_ ?_)
    · intro e he
      obtain rfl := Option.some.inj he
      refine ⟨hext, fun l' hl' => ?_, nofun⟩
      obtain ⟨id', hid', hlive'⟩ := labelsOf_spec hacc l' hl'
      exact ⟨id', hlive', hnf id' hid'⟩
    · intro id' hl'
      rw [huniq id' hl']
      exact ⟨fun _ => ⟨_, rfl, hext, (h.dc.mem_ext m id).2 ⟨hidl, hlit⟩⟩, nofun⟩
  · intro hunsat
    refine (wp_pure _ _ _).2 (hQ _ _ _ rfl (by intro e he; cases he) ?_)
    intro id' hl'
    rw [huniq id' hl']
    exact ⟨nofun, fun _ => ⟨rfl, h.unsat hidl true hunsat⟩⟩

theorem wp_skepSolveK (hinv : st.Inv) (h : QueryEnc sem st (w.db k) as xv dec) {l id : Nat} (hl : st.Live id l)
    (ret : Event → AccAns → β) (Q : β → World → Prop)
    (hQ : ∀ r ev a, ev.isUpdate = false → CompSound sem st ev → SkepOK sem st l a →
      Q (ret ev a) ((w.onSolve k (as ++ [nl (xv id)])).onReply k r)) :
    wp C (skepSolveK st k as (xv id) l (argsWhereG dec) ret) w Q := by
  have hidl : st.hasId id = true := hasId_iff.2 ⟨l, hl⟩
  have huniq : ∀ id', st.Live id' l → id' = id := fun id' h' => hinv.label_inj id' id l h' hl
  unfold skepSolveK
  rw [wp_solve]
  constructor
  · intro m hr
    obtain ⟨hext, hlit, _⟩ := h.sat hr
    rw [litTrue_nl, Bool.not_eq_true'] at hlit
    simp only
    rw [wp_bind]
    apply wp_needLabels _ _ _ _ (h.dc.live m _)
    intro ref href
    rw [wp_bind]
    apply wp_needLabels _ _ _ _ (h.dc.live m _)
    intro _ _
    refine (wp_pure _ _ _).2 (hQ _ _ _ rfl ?_ ?_)
    · intro e he
      obtain rfl := Option.some.inj he
      refine ⟨hext, nofun, fun l' hl' id' hlive' => ?_⟩
      obtain ⟨id'', hid'', hlive''⟩ := labelsOf_spec href l' hl'
      rw [← hinv.label_inj id'' id' l' hlive'' hlive']
      exact h.dc.nontrue hid''
    · intro id' hl'
      rw [huniq id' hl']
      refine ⟨nofun, fun _ => ⟨_, rfl, hext, fun hin => ?_⟩⟩
      rw [((h.dc.mem_ext m id).1 hin).2] at hlit
      cases hlit
  · intro hunsat
    simp only
    -- the refused labels recorded are those of the arguments `id` attacks; with no extension recorded
    -- `CompSound` asks nothing of them
    rw [wp_bind, wp_needArg hinv hl, wp_bind]
    apply wp_needLabels
    · intro j hj
      exact (Store.g_wf hinv _ _ ((hinv.core.mem_attFrom id j).1 hj)).2
    intro ref _
    refine (wp_pure _ _ _).2 (hQ _ _ _ rfl (by intro e he; cases he) ?_)
    intro id' hl'
    rw [huniq id' hl']
    exact ⟨fun _ => ⟨rfl, h.unsat hidl false hunsat⟩, nofun⟩

end

end Crusta.Dyn
