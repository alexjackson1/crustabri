import Crusta.Proofs.StaticAll

/-!
# Locality: an unrelated component that has an extension changes no status of the original framework

`DisjUnion g h g'`: the finite graph `g'` is the disjoint union of the well-formed graphs `g` and `h`.
`[g.live, h.live]` is then a partition of `g'` into attack-closed parts whose sub-graphs are `g` and `h`
themselves, so by `ext_parts` the extensions of `g'` are the unions of an extension of `g` and an extension
of `h`, for all seven semantics.  If `h` has an extension, a query about arguments of `g` has the same
credulous and the same skeptical status in `g'` and in `g`; if it has none, `g'` has none: credulous "no",
skeptical "yes".  That case arises for the stable semantics only (`G.exists_ext`), for instance with a fresh
self-attacking argument (`G.addSelfLoop_disjUnion`).  `Props/C11` states the same on the solver programs.
-/

namespace Crusta

structure DisjUnion (g h g' : G) : Prop where
  live : ∀ a, g'.live a = (g.live a || h.live a)
  disj : ∀ a, ¬ (g.live a = true ∧ h.live a = true)
  att : ∀ a b, g'.att a b ↔ g.att a b ∨ h.att a b
  wfg : g.WF
  wfh : h.WF
  fin : ∃ n, ∀ a, g'.live a = true → a < n

namespace DisjUnion

variable {g h g' : G}

theorem symm (d : DisjUnion g h g') : DisjUnion h g g' where
  live a := by rw [d.live a, Bool.or_comm]
  disj a hh := d.disj a ⟨hh.2, hh.1⟩
  att a b := (d.att a b).trans Or.comm
  wfg := d.wfh
  wfh := d.wfg
  fin := d.fin

theorem live_left (d : DisjUnion g h g') {a : Nat} (ha : g.live a = true) : g'.live a = true := by
  rw [d.live a, ha]; rfl

theorem live_right (d : DisjUnion g h g') {a : Nat} (ha : h.live a = true) : g'.live a = true :=
  d.symm.live_left ha

theorem not_right_of_left (d : DisjUnion g h g') {a : Nat} (ha : g.live a = true) : h.live a = false := by
  cases hh : h.live a with
  | false => rfl
  | true => exact absurd ⟨ha, hh⟩ (d.disj a)

theorem wf (d : DisjUnion g h g') : g'.WF := by
  intro a b hab
  rcases (d.att a b).1 hab with h1 | h1
  · exact ⟨d.live_left (d.wfg a b h1).1, d.live_left (d.wfg a b h1).2⟩
  · exact ⟨d.live_right (d.wfh a b h1).1, d.live_right (d.wfh a b h1).2⟩

theorem fin_left (d : DisjUnion g h g') : g.Fin := by
  obtain ⟨n, hn⟩ := d.fin
  exact ⟨n, fun a ha => hn a (d.live_left ha)⟩

theorem fin_right (d : DisjUnion g h g') : h.Fin := d.symm.fin_left

theorem closed_left (d : DisjUnion g h g') : g'.ClosedB g.live := by
  intro a b hab
  rcases (d.att a b).1 hab with h1 | h1
  · rw [(d.wfg a b h1).1, (d.wfg a b h1).2]
  · rw [d.symm.not_right_of_left (d.wfh a b h1).1, d.symm.not_right_of_left (d.wfh a b h1).2]

theorem parts (d : DisjUnion g h g') : Parts g' [g.live, h.live] where
  closed := List.forall_mem_cons.2 ⟨d.closed_left, List.forall_mem_singleton.2 d.symm.closed_left⟩
  disjoint := List.pairwise_pair.2 d.disj
  cover a ha := by
    rw [d.live a, Bool.or_eq_true] at ha
    rcases ha with ha | ha
    · exact ⟨_, List.mem_cons_self, ha⟩
    · exact ⟨_, List.mem_cons_of_mem _ List.mem_cons_self, ha⟩

theorem restrict_left (d : DisjUnion g h g') : g'.restrict g.live = g := by
  apply G.ext_of_eq
  · intro a
    show (g'.live a && g.live a) = g.live a
    rw [d.live a]
    cases g.live a <;> simp
  · intro a b
    show (g'.att a b ∧ g.live a = true ∧ g.live b = true) ↔ g.att a b
    constructor
    · rintro ⟨hab, ha, _⟩
      rcases (d.att a b).1 hab with h1 | h1
      · exact h1
      · exact absurd ⟨ha, (d.wfh a b h1).1⟩ (d.disj a)
    · intro hab
      exact ⟨(d.att a b).2 (Or.inl hab), d.wfg a b hab⟩

theorem restrict_right (d : DisjUnion g h g') : g'.restrict h.live = h := d.symm.restrict_left

theorem ext_iff (d : DisjUnion g h g') (σ : Sem) (S : ASet) (hS : SubsetS S g'.live) :
    g'.Ext σ S ↔ (g.Ext σ (inter S g.live) ∧ h.Ext σ (inter S h.live)) := by
  rw [ext_parts d.parts d.fin σ S hS, List.forall_mem_cons, List.forall_mem_singleton, d.restrict_left,
    d.restrict_right]

theorem inter_union_left (d : DisjUnion g h g') {S T : ASet} (hS : SubsetS S g.live)
    (hT : SubsetS T h.live) : inter (unionS S T) g.live = S := by
  funext a
  show ((S a || T a) && g.live a) = S a
  cases hSa : S a with
  | true => rw [hS a hSa]; rfl
  | false =>
    cases hTa : T a with
    | false => rfl
    | true => rw [d.symm.not_right_of_left (hT a hTa)]; rfl

theorem inter_union_right (d : DisjUnion g h g') {S T : ASet} (hS : SubsetS S g.live)
    (hT : SubsetS T h.live) : inter (unionS S T) h.live = T := by
  rw [show unionS S T = unionS T S from funext fun a => Bool.or_comm _ _]
  exact d.symm.inter_union_left hT hS

theorem ext_union (d : DisjUnion g h g') (σ : Sem) {S T : ASet} (hS : g.Ext σ S) (hT : h.Ext σ T) :
    g'.Ext σ (unionS S T) := by
  have hSl := G.ext_sub_live hS
  have hTl := G.ext_sub_live hT
  refine (d.ext_iff σ _ ?_).2 ?_
  · intro a ha
    rcases unionS_true.1 ha with h1 | h1
    · exact d.live_left (hSl a h1)
    · exact d.live_right (hTl a h1)
  · rw [d.inter_union_left hSl hTl, d.inter_union_right hSl hTl]
    exact ⟨hS, hT⟩

theorem ext_left (d : DisjUnion g h g') (σ : Sem) {S : ASet} (hS : g'.Ext σ S) : g.Ext σ (inter S g.live) :=
  ((d.ext_iff σ S (G.ext_sub_live hS)).1 hS).1

theorem ext_right (d : DisjUnion g h g') (σ : Sem) {S : ASet} (hS : g'.Ext σ S) : h.Ext σ (inter S h.live) :=
  ((d.ext_iff σ S (G.ext_sub_live hS)).1 hS).2

theorem hitsL_union_left (d : DisjUnion g h g') {args : List Nat} (hargs : ∀ a ∈ args, g.live a = true)
    {S T : ASet} (hT : SubsetS T h.live) : HitsL args (unionS S T) ↔ HitsL args S :=
  HitsL.congr_on fun a ha => by
    have hTa : T a = false := Bool.eq_false_iff.2 fun h1 => d.disj a ⟨hargs a ha, hT a h1⟩
    rw [unionS, hTa, Bool.or_false]

theorem status_local (d : DisjUnion g h g') (σ : Sem) (hex : ∃ T, h.Ext σ T) (args : List Nat)
    (hargs : ∀ a ∈ args, g.live a = true) :
    ((∃ S, g'.Ext σ S ∧ HitsL args S) ↔ (∃ S, g.Ext σ S ∧ HitsL args S)) ∧
    ((∀ S, g'.Ext σ S → HitsL args S) ↔ (∀ S, g.Ext σ S → HitsL args S)) := by
  obtain ⟨T, hT⟩ := hex
  have hTl := G.ext_sub_live hT
  constructor
  · constructor
    · rintro ⟨S, hS, hh⟩
      exact ⟨_, d.ext_left σ hS, (HitsL.inter hargs S).2 hh⟩
    · rintro ⟨S, hS, hh⟩
      exact ⟨_, d.ext_union σ hS hT, (d.hitsL_union_left hargs hTl).2 hh⟩
  · constructor
    · intro hall S hS
      exact (d.hitsL_union_left hargs hTl).1 (hall _ (d.ext_union σ hS hT))
    · intro hall S hS
      exact (HitsL.inter hargs S).1 (hall _ (d.ext_left σ hS))

theorem no_ext (d : DisjUnion g h g') (σ : Sem) (hno : ¬ ∃ T, h.Ext σ T) : ¬ ∃ S, g'.Ext σ S := by
  rintro ⟨S, hS⟩
  exact hno ⟨_, d.ext_right σ hS⟩

theorem exists_ext_iff (d : DisjUnion g h g') (σ : Sem) :
    (∃ S, g'.Ext σ S) ↔ ((∃ S, g.Ext σ S) ∧ ∃ T, h.Ext σ T) := by
  constructor
  · rintro ⟨S, hS⟩
    exact ⟨⟨_, d.ext_left σ hS⟩, ⟨_, d.ext_right σ hS⟩⟩
  · rintro ⟨⟨S, hS⟩, ⟨T, hT⟩⟩
    exact ⟨_, d.ext_union σ hS hT⟩

theorem status_degenerate (d : DisjUnion g h g') (σ : Sem) (hno : ¬ ∃ T, h.Ext σ T) (args : List Nat) :
    (¬ ∃ S, g'.Ext σ S ∧ HitsL args S) ∧ (∀ S, g'.Ext σ S → HitsL args S) :=
  ⟨fun ⟨S, hS, _⟩ => d.no_ext σ hno ⟨S, hS⟩, fun S hS => absurd ⟨S, hS⟩ (d.no_ext σ hno)⟩

end DisjUnion

theorem G.exists_ext (g : G) (hwf : g.WF) (hfin : g.Fin) (σ : Sem) (hσ : σ ≠ .ST) :
    ∃ S, g.Ext σ S := by
  cases σ with
  | GR => exact g.exists_grounded hfin
  | CO =>
    obtain ⟨S, hS, _⟩ := g.exists_grounded hfin
    exact ⟨S, hS⟩
  | PR => exact g.exists_preferred hfin
  | ST => exact absurd rfl hσ
  | SST => exact g.exists_semistable hwf hfin
  | STG => exact g.exists_stage hwf hfin
  | ID => exact g.exists_ideal hfin

theorem DisjUnion.status_local_nonstable {g h g' : G} (d : DisjUnion g h g') (σ : Sem) (hσ : σ ≠ .ST)
    (args : List Nat) (hargs : ∀ a ∈ args, g.live a = true) :
    ((∃ S, g'.Ext σ S ∧ HitsL args S) ↔ (∃ S, g.Ext σ S ∧ HitsL args S)) ∧
    ((∀ S, g'.Ext σ S → HitsL args S) ↔ (∀ S, g.Ext σ S → HitsL args S)) :=
  d.status_local σ (h.exists_ext d.wfh d.fin_right σ hσ) args hargs

/-- **locality on the solver programs**: a view presenting `g` and a view presenting the disjoint
union `g'` of `g` and an unrelated component `h` that has an extension, both queried on the same
arguments of `g`, give the same credulous and the same skeptical status — for every solver type,
admissible encoders, sound reply lists, with or without certificate, whatever the histories of the
two views -/
theorem solver_status_local (sk : SolverKind) (v1 v2 : FwView) (g h g' : G)
    (hv1 : v1.Ok g) (hv2 : v2.Ok g') (d : DisjUnion g h g') (hex : ∃ T, h.Ext sk.sem T)
    (args : List Nat) (hargs : ∀ a ∈ args, g.live a = true)
    (cfg1 cfg2 : Cfg) (h1 : CfgOK sk cfg1) (h2 : CfgOK sk cfg2) (c1 c2 : Bool)
    (w1 w2 : World) (hb1 : w1.Bounded) (hb2 : w2.Bounded) (rs1 rs2 : List Reply)
    (a1 a2 : AccAns) (cv1 cv2 : Bool) (w1' w2' : World) :
    (∀ p1 p2, entryProg sk cfg1 v1 (.dc c1 args) = some p1 → entryProg sk cfg2 v2 (.dc c2 args) = some p2 →
      RunSound p1 rs1 w1 → RunSound p2 rs2 w2 →
      interp p1 rs1 w1 = (.done (.acc a1 cv1), w1') → interp p2 rs2 w2 = (.done (.acc a2 cv2), w2') →
      a1.status = a2.status) ∧
    (∀ p1 p2, entryProg sk cfg1 v1 (.ds c1 args) = some p1 → entryProg sk cfg2 v2 (.ds c2 args) = some p2 →
      RunSound p1 rs1 w1 → RunSound p2 rs2 w2 →
      interp p1 rs1 w1 = (.done (.acc a1 cv1), w1') → interp p2 rs2 w2 = (.done (.acc a2 cv2), w2') →
      a1.status = a2.status) := by
  have hargs2 : ∀ x ∈ args, g'.live x = true := fun x hx => d.live_left (hargs x hx)
  have hst := d.status_local sk.sem hex args hargs
  simp only [← gext_iff] at hst
  have hdet := status_determined_of_iff sk.sem hst.1.symm hst.2.symm c1 c2 a1 a2
  constructor
  · intro p1 p2 hp1 hp2 hs1 hs2 hr1 hr2
    obtain ⟨_, hd1, _⟩ := static_answers_conform sk cfg1 h1 v1 g hv1 (.dc c1 args)
      hargs p1 hp1 w1 hb1 rs1 hs1 _ w1' hr1
    obtain ⟨_, hd2, _⟩ := static_answers_conform sk cfg2 h2 v2 g' hv2 (.dc c2 args)
      hargs2 p2 hp2 w2 hb2 rs2 hs2 _ w2' hr2
    exact hdet.1 hd1 hd2
  · intro p1 p2 hp1 hp2 hs1 hs2 hr1 hr2
    obtain ⟨_, hd1, _⟩ := static_answers_conform sk cfg1 h1 v1 g hv1 (.ds c1 args)
      hargs p1 hp1 w1 hb1 rs1 hs1 _ w1' hr1
    obtain ⟨_, hd2, _⟩ := static_answers_conform sk cfg2 h2 v2 g' hv2 (.ds c2 args)
      hargs2 p2 hp2 w2 hb2 rs2 hs2 _ w2' hr2
    exact hdet.2 hd1 hd2

theorem SolverKind.sem_ne_st {sk : SolverKind} (h : sk ≠ .ST) : sk.sem ≠ .ST := by
  cases sk <;> first | exact absurd rfl h | (intro hh; cases hh)

/-- **the degenerate case on the solver programs**: if the added component has no extension, the
solver on the union answers "no" to every credulous query and "yes" to every skeptical query about
arguments of `g` (whatever the answers on `g` alone) -/
theorem solver_status_degenerate (sk : SolverKind) (v2 : FwView) (g h g' : G)
    (hv2 : v2.Ok g') (d : DisjUnion g h g') (hno : ¬ ∃ T, h.Ext sk.sem T)
    (args : List Nat) (hargs : ∀ a ∈ args, g.live a = true)
    (cfg2 : Cfg) (h2 : CfgOK sk cfg2) (c2 : Bool)
    (w2 : World) (hb2 : w2.Bounded) (rs2 : List Reply) (a2 : AccAns) (cv2 : Bool) (w2' : World) :
    (∀ p2, entryProg sk cfg2 v2 (.dc c2 args) = some p2 → RunSound p2 rs2 w2 →
      interp p2 rs2 w2 = (.done (.acc a2 cv2), w2') → a2.status = false) ∧
    (∀ p2, entryProg sk cfg2 v2 (.ds c2 args) = some p2 → RunSound p2 rs2 w2 →
      interp p2 rs2 w2 = (.done (.acc a2 cv2), w2') → a2.status = true) := by
  have hargs2 : ∀ x ∈ args, g'.live x = true := fun x hx => d.live_left (hargs x hx)
  have hnone : ¬ ∃ S, sk.sem.GExt g' S := by
    simp only [gext_iff]
    exact d.no_ext sk.sem hno
  constructor
  · intro p2 hp2 hs2 hr2
    obtain ⟨_, hd2, _⟩ := static_answers_conform sk cfg2 h2 v2 g' hv2 (.dc c2 args)
      hargs2 p2 hp2 w2 hb2 rs2 hs2 _ w2' hr2
    exact Bool.eq_false_iff.2 fun hs => hnone (let ⟨S, hS, _⟩ := hd2.status_iff.1 hs; ⟨S, hS⟩)
  · intro p2 hp2 hs2 hr2
    obtain ⟨_, hd2, _⟩ := static_answers_conform sk cfg2 h2 v2 g' hv2 (.ds c2 args)
      hargs2 p2 hp2 w2 hb2 rs2 hs2 _ w2' hr2
    exact hd2.status_iff.2 fun S hS => absurd ⟨S, hS⟩ hnone

def G.selfLoop (k : Nat) : G := ⟨fun a => decide (a = k), fun a b => a = k ∧ b = k⟩

theorem G.selfLoop_no_stable (k : Nat) : ¬ ∃ T, (G.selfLoop k).Ext .ST T := by
  rintro ⟨T, hcf, hst⟩
  cases hT : T k with
  | true => exact hcf.2 k hT ⟨k, ⟨rfl, rfl⟩, hT⟩
  | false =>
    obtain ⟨b, ⟨hb, _⟩, hTb⟩ := hst k (by simp [G.selfLoop]) hT
    rw [hb, hT] at hTb
    cases hTb

def G.addSelfLoop (g : G) (k : Nat) : G :=
  ⟨fun a => g.live a || decide (a = k), fun a b => g.att a b ∨ (a = k ∧ b = k)⟩

theorem G.addSelfLoop_disjUnion (g : G) (hwf : g.WF) (hfin : ∃ n, ∀ a, g.live a = true → a < n) (k : Nat)
    (hk : g.live k = false) : DisjUnion g (G.selfLoop k) (g.addSelfLoop k) where
  live _ := rfl
  disj a := by
    rintro ⟨h1, h2⟩
    have : a = k := by simpa [G.selfLoop] using h2
    rw [this, hk] at h1
    cases h1
  att _ _ := Iff.rfl
  wfg := hwf
  wfh := by
    rintro a b ⟨rfl, rfl⟩
    simp [G.selfLoop]
  fin := by
    obtain ⟨n, hn⟩ := hfin
    refine ⟨max n (k + 1), fun a ha => ?_⟩
    rcases Bool.or_eq_true_iff.1 ha with h1 | h1
    · exact Nat.lt_of_lt_of_le (hn a h1) (Nat.le_max_left _ _)
    · exact of_decide_eq_true h1 ▸ Nat.le_max_right n (k + 1)

end Crusta
