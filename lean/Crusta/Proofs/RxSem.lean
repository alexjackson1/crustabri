import Crusta.Model.Rx
import Crusta.Model.Readers

/-!
# Denotational semantics of the regular expressions of `Crusta.Rx`

`Matches r s`: the *whole* string `s` (a list of code points) is in the language of `r`.  The
translator strips the anchors `^ … $` of the source patterns and insists on their presence, so this
is `Regex::is_match` on them.

`MatchesG r s gs`: moreover `gs` lists the substrings matched by the capturing groups of `r`, in the
order of their opening parentheses.  A group under `*` / `+` would report its last iteration, which
is not modelled (`star` / `plus` contribute no capture): the relation is the intended one only for
`GroupsFlat` patterns, which the four patterns are (`RxApx`).  Nor does it say *which* of several
possible captures the regex crate reports (leftmost-first): for the patterns of the reader the
capture is unique (`RxApx`), so the question does not arise.

Character classes: `\s` = `IO.isWs` (Unicode White_Space table regenerated from regex-syntax),
`\d` = `IO.isDigitU` (Decimal_Number table), `[:alpha:]` = `IO.isAlphaA` (ASCII letters),
`.` = any code point but `\n` (10).
-/

namespace Crusta.Rx
open Crusta.IO

def Atom.holds : Atom → Nat → Bool
  | .ws, c => isWs c
  | .digit, c => isDigitU c
  | .alpha, c => isAlphaA c
  | .ch d, c => c == d

/-- `[items]` (`neg = false`) or `[^items]` (`neg = true`) -/
def clsHolds (neg : Bool) (items : List Atom) (c : Nat) : Bool :=
  (items.any (fun a => a.holds c)) != neg

inductive Matches : Rx → Str → Prop
  | eps : Matches .eps []
  | chr (c : Nat) : Matches (.chr c) [c]
  | any {c : Nat} : c ≠ 10 → Matches .anyNoNl [c]
  | cls {neg : Bool} {items : List Atom} {c : Nat} :
      clsHolds neg items c = true → Matches (.cls neg items) [c]
  | cat {a b : Rx} {s t : Str} : Matches a s → Matches b t → Matches (.cat a b) (s ++ t)
  | starNil {r : Rx} : Matches (.star r) []
  | starCons {r : Rx} {s t : Str} : Matches r s → Matches (.star r) t → Matches (.star r) (s ++ t)
  | plus {r : Rx} {s t : Str} : Matches r s → Matches (.star r) t → Matches (.plus r) (s ++ t)
  | grp {r : Rx} {s : Str} : Matches r s → Matches (.grp r) s

def hasGroup : Rx → Bool
  | .cat a b => hasGroup a || hasGroup b
  | .star r => hasGroup r
  | .plus r => hasGroup r
  | .grp _ => true
  | _ => false

def numGroups : Rx → Nat
  | .cat a b => numGroups a + numGroups b
  | .star r => numGroups r
  | .plus r => numGroups r
  | .grp r => 1 + numGroups r
  | _ => 0

/-- no capturing group under a repetition -/
def GroupsFlat : Rx → Bool
  | .cat a b => GroupsFlat a && GroupsFlat b
  | .star r => !hasGroup r
  | .plus r => !hasGroup r
  | .grp r => GroupsFlat r
  | _ => true

/-- meaningful for `GroupsFlat` patterns only: `star` / `plus` contribute no capture -/
inductive MatchesG : Rx → Str → List Str → Prop
  | eps : MatchesG .eps [] []
  | chr (c : Nat) : MatchesG (.chr c) [c] []
  | any {c : Nat} : c ≠ 10 → MatchesG .anyNoNl [c] []
  | cls {neg : Bool} {items : List Atom} {c : Nat} :
      clsHolds neg items c = true → MatchesG (.cls neg items) [c] []
  | cat {a b : Rx} {s t : Str} {g g' : List Str} :
      MatchesG a s g → MatchesG b t g' → MatchesG (.cat a b) (s ++ t) (g ++ g')
  | star {r : Rx} {s : Str} : Matches (.star r) s → MatchesG (.star r) s []
  | plus {r : Rx} {s : Str} : Matches (.plus r) s → MatchesG (.plus r) s []
  | grp {r : Rx} {s : Str} {g : List Str} : MatchesG r s g → MatchesG (.grp r) s (s :: g)

theorem matches_eps {s : Str} : Matches .eps s ↔ s = [] := by
  constructor
  · intro h; cases h; rfl
  · rintro rfl; exact .eps

theorem matches_chr {c : Nat} {s : Str} : Matches (.chr c) s ↔ s = [c] := by
  constructor
  · intro h; cases h; rfl
  · rintro rfl; exact .chr c

theorem matches_any {s : Str} : Matches .anyNoNl s ↔ ∃ c, s = [c] ∧ c ≠ 10 := by
  constructor
  · intro h; cases h with | any hc => exact ⟨_, rfl, hc⟩
  · rintro ⟨c, rfl, hc⟩; exact .any hc

theorem matches_cls {neg : Bool} {items : List Atom} {s : Str} :
    Matches (.cls neg items) s ↔ ∃ c, s = [c] ∧ clsHolds neg items c = true := by
  constructor
  · intro h; cases h with | cls hc => exact ⟨_, rfl, hc⟩
  · rintro ⟨c, rfl, hc⟩; exact .cls hc

theorem matches_cat {a b : Rx} {s : Str} :
    Matches (.cat a b) s ↔ ∃ s1 s2, s = s1 ++ s2 ∧ Matches a s1 ∧ Matches b s2 := by
  constructor
  · intro h; cases h with | cat ha hb => exact ⟨_, _, rfl, ha, hb⟩
  · rintro ⟨s1, s2, rfl, ha, hb⟩; exact .cat ha hb

theorem matches_grp {r : Rx} {s : Str} : Matches (.grp r) s ↔ Matches r s := by
  constructor
  · intro h; cases h with | grp h => exact h
  · exact .grp

theorem matches_star {r : Rx} {s : Str} :
    Matches (.star r) s ↔ s = [] ∨ ∃ s1 s2, s = s1 ++ s2 ∧ Matches r s1 ∧ Matches (.star r) s2 := by
  constructor
  · intro h
    cases h with
    | starNil => exact .inl rfl
    | starCons h1 h2 => exact .inr ⟨_, _, rfl, h1, h2⟩
  · rintro (rfl | ⟨s1, s2, rfl, h1, h2⟩)
    · exact .starNil
    · exact .starCons h1 h2

theorem matches_plus {r : Rx} {s : Str} :
    Matches (.plus r) s ↔ ∃ s1 s2, s = s1 ++ s2 ∧ Matches r s1 ∧ Matches (.star r) s2 := by
  constructor
  · intro h; cases h with | plus h1 h2 => exact ⟨_, _, rfl, h1, h2⟩
  · rintro ⟨s1, s2, rfl, h1, h2⟩; exact .plus h1 h2

theorem matches_plus_cat_star {r : Rx} {s : Str} :
    Matches (.plus r) s ↔ Matches (.cat r (.star r)) s := by
  rw [matches_plus, matches_cat]

theorem star_induction {r : Rx} {Q : Str → Prop} (h0 : Q [])
    (h1 : ∀ s t, Matches r s → Matches (.star r) t → Q t → Q (s ++ t)) :
    ∀ {s}, Matches (.star r) s → Q s := by
  intro s h
  generalize hr : Rx.star r = r' at h
  induction h with
  | starNil => exact h0
  | starCons hs ht _ ih2 => cases hr; exact h1 _ _ hs ht (ih2 rfl)
  | _ => cases hr

theorem matches_star_flatten {r : Rx} {s : Str} :
    Matches (.star r) s ↔ ∃ ss : List Str, s = ss.flatten ∧ ∀ x ∈ ss, Matches r x := by
  constructor
  · intro h
    refine star_induction (Q := fun s => ∃ ss : List Str, s = ss.flatten ∧ ∀ x ∈ ss, Matches r x)
      ⟨[], rfl, by simp⟩ ?_ h
    rintro s t hs _ ⟨ss, rfl, hss⟩
    refine ⟨s :: ss, by simp, ?_⟩
    intro x hx
    rcases List.mem_cons.1 hx with rfl | hx
    · exact hs
    · exact hss x hx
  · rintro ⟨ss, rfl, hss⟩
    induction ss with
    | nil => exact .starNil
    | cons x xs ih =>
      rw [List.flatten_cons]
      exact .starCons (hss x (List.mem_cons_self ..)) (ih (fun y hy => hss y (List.mem_cons_of_mem _ hy)))

theorem matches_star_cls {neg : Bool} {items : List Atom} {s : Str} :
    Matches (.star (.cls neg items)) s ↔ s.all (clsHolds neg items) = true := by
  constructor
  · intro h
    refine star_induction (Q := fun s => s.all (clsHolds neg items) = true) rfl ?_ h
    intro s t hs _ ht
    obtain ⟨c, rfl, hc⟩ := matches_cls.1 hs
    simp [hc, ht]
  · intro h
    induction s with
    | nil => exact .starNil
    | cons c cs ih =>
      simp only [List.all_cons, Bool.and_eq_true] at h
      exact .starCons (s := [c]) (matches_cls.2 ⟨c, rfl, h.1⟩) (ih h.2)

theorem matches_plus_cls {neg : Bool} {items : List Atom} {s : Str} :
    Matches (.plus (.cls neg items)) s ↔ s ≠ [] ∧ s.all (clsHolds neg items) = true := by
  rw [matches_plus]
  constructor
  · rintro ⟨s1, s2, rfl, h1, h2⟩
    obtain ⟨c, rfl, hc⟩ := matches_cls.1 h1
    refine ⟨by simp, ?_⟩
    simp [hc, matches_star_cls.1 h2]
  · rintro ⟨hne, h⟩
    cases s with
    | nil => exact absurd rfl hne
    | cons c cs =>
      simp only [List.all_cons, Bool.and_eq_true] at h
      exact ⟨[c], cs, rfl, matches_cls.2 ⟨c, rfl, h.1⟩, matches_star_cls.2 h.2⟩

theorem matches_chr_cat {c : Nat} {b : Rx} {s : Str} :
    Matches (.cat (.chr c) b) s ↔ ∃ t, s = c :: t ∧ Matches b t := by
  rw [matches_cat]
  constructor
  · rintro ⟨s1, s2, rfl, h1, h2⟩; rw [matches_chr.1 h1]; exact ⟨s2, rfl, h2⟩
  · rintro ⟨t, rfl, h⟩; exact ⟨[c], t, rfl, .chr c, h⟩

theorem matches_starcls_cat {neg : Bool} {items : List Atom} {b : Rx} {s : Str} :
    Matches (.cat (.star (.cls neg items)) b) s ↔
      ∃ u t, s = u ++ t ∧ u.all (clsHolds neg items) = true ∧ Matches b t := by
  simp only [matches_cat, matches_star_cls]

theorem matches_pluscls_cat {neg : Bool} {items : List Atom} {b : Rx} {s : Str} :
    Matches (.cat (.plus (.cls neg items)) b) s ↔
      ∃ u t, s = u ++ t ∧ (u ≠ [] ∧ u.all (clsHolds neg items) = true) ∧ Matches b t := by
  simp only [matches_cat, matches_plus_cls]

theorem matches_cls_cat {neg : Bool} {items : List Atom} {b : Rx} {s : Str} :
    Matches (.cat (.cls neg items) b) s ↔
      ∃ c t, s = c :: t ∧ clsHolds neg items c = true ∧ Matches b t := by
  rw [matches_cat]
  constructor
  · rintro ⟨s1, s2, rfl, h1, h2⟩
    obtain ⟨c, rfl, hc⟩ := matches_cls.1 h1
    exact ⟨c, s2, rfl, hc, h2⟩
  · rintro ⟨c, t, rfl, hc, h⟩; exact ⟨[c], t, rfl, matches_cls.2 ⟨c, rfl, hc⟩, h⟩

theorem matches_any_cat {b : Rx} {s : Str} :
    Matches (.cat .anyNoNl b) s ↔ ∃ c t, s = c :: t ∧ c ≠ 10 ∧ Matches b t := by
  rw [matches_cat]
  constructor
  · rintro ⟨s1, s2, rfl, h1, h2⟩
    obtain ⟨c, rfl, hc⟩ := matches_any.1 h1
    exact ⟨c, s2, rfl, hc, h2⟩
  · rintro ⟨c, t, rfl, hc, h⟩; exact ⟨[c], t, rfl, matches_any.2 ⟨c, rfl, hc⟩, h⟩

theorem MatchesG.matches {r : Rx} {s : Str} {gs : List Str} (h : MatchesG r s gs) : Matches r s := by
  induction h with
  | eps => exact .eps
  | chr c => exact .chr c
  | any hc => exact .any hc
  | cls hc => exact .cls hc
  | cat _ _ iha ihb => exact .cat iha ihb
  | star h => exact h
  | plus h => exact h
  | grp _ ih => exact .grp ih

theorem Matches.exists_groups {r : Rx} {s : Str} (h : Matches r s) : ∃ gs, MatchesG r s gs := by
  induction h with
  | eps => exact ⟨_, .eps⟩
  | chr c => exact ⟨_, .chr c⟩
  | any hc => exact ⟨_, .any hc⟩
  | cls hc => exact ⟨_, .cls hc⟩
  | cat _ _ iha ihb =>
    obtain ⟨g, hg⟩ := iha; obtain ⟨g', hg'⟩ := ihb; exact ⟨_, .cat hg hg'⟩
  | starNil => exact ⟨_, .star .starNil⟩
  | starCons h1 h2 _ _ => exact ⟨_, .star (.starCons h1 h2)⟩
  | plus h1 h2 _ _ => exact ⟨_, .plus (.plus h1 h2)⟩
  | grp _ ih => obtain ⟨g, hg⟩ := ih; exact ⟨_, .grp hg⟩

theorem matches_iff_exists_groups {r : Rx} {s : Str} : Matches r s ↔ ∃ gs, MatchesG r s gs :=
  ⟨Matches.exists_groups, fun ⟨_, h⟩ => h.matches⟩

theorem matchesG_of_noGroup {r : Rx} (hr : hasGroup r = false) {s : Str} {gs : List Str} :
    MatchesG r s gs ↔ Matches r s ∧ gs = [] := by
  constructor
  · intro h
    refine ⟨h.matches, ?_⟩
    induction h with
    | @cat a b _ _ _ _ _ _ iha ihb =>
      have h : (hasGroup a || hasGroup b) = false := hr
      rw [iha (Bool.or_eq_false_iff.1 h).1, ihb (Bool.or_eq_false_iff.1 h).2]; rfl
    | grp _ _ => cases hr
    | _ => rfl
  · rintro ⟨h, rfl⟩
    induction h with
    | eps => exact .eps
    | chr c => exact .chr c
    | any hc => exact .any hc
    | cls hc => exact .cls hc
    | @cat a b _ _ _ _ iha ihb =>
      have h : (hasGroup a || hasGroup b) = false := hr
      exact .cat (g := []) (g' := []) (iha (Bool.or_eq_false_iff.1 h).1) (ihb (Bool.or_eq_false_iff.1 h).2)
    | starNil => exact .star .starNil
    | starCons h1 h2 _ _ => exact .star (.starCons h1 h2)
    | plus h1 h2 _ _ => exact .plus (.plus h1 h2)
    | grp _ _ => cases hr

theorem numGroups_of_noGroup {r : Rx} (hr : hasGroup r = false) : numGroups r = 0 := by
  induction r with
  | cat a b iha ihb =>
    have h : (hasGroup a || hasGroup b) = false := hr
    show numGroups a + numGroups b = 0
    rw [iha (Bool.or_eq_false_iff.1 h).1, ihb (Bool.or_eq_false_iff.1 h).2]
  | star r ih => exact ih hr
  | plus r ih => exact ih hr
  | grp r _ => cases hr
  | _ => rfl

theorem MatchesG.length_groups {r : Rx} {s : Str} {gs : List Str} (h : MatchesG r s gs)
    (hf : GroupsFlat r = true) : gs.length = numGroups r := by
  induction h with
  | @cat a b _ _ _ _ _ _ iha ihb =>
    have h : (GroupsFlat a && GroupsFlat b) = true := hf
    show _ = numGroups a + numGroups b
    rw [List.length_append, iha (Bool.and_eq_true_iff.1 h).1, ihb (Bool.and_eq_true_iff.1 h).2]
  | @grp r _ _ _ ih =>
    show _ = 1 + numGroups r
    rw [List.length_cons, ih hf, Nat.add_comm]
  | star _ => exact (numGroups_of_noGroup ((Bool.not_eq_true' _).mp hf)).symm
  | plus _ => exact (numGroups_of_noGroup ((Bool.not_eq_true' _).mp hf)).symm
  | _ => rfl

theorem matchesG_cat {a b : Rx} {s : Str} {gs : List Str} :
    MatchesG (.cat a b) s gs ↔
      ∃ s1 s2 g1 g2, s = s1 ++ s2 ∧ gs = g1 ++ g2 ∧ MatchesG a s1 g1 ∧ MatchesG b s2 g2 := by
  constructor
  · intro h; cases h with | cat ha hb => exact ⟨_, _, _, _, rfl, rfl, ha, hb⟩
  · rintro ⟨s1, s2, g1, g2, rfl, rfl, ha, hb⟩; exact .cat ha hb

theorem matchesG_grp {r : Rx} {s : Str} {gs : List Str} :
    MatchesG (.grp r) s gs ↔ ∃ g, gs = s :: g ∧ MatchesG r s g := by
  constructor
  · intro h; cases h with | grp h => exact ⟨_, rfl, h⟩
  · rintro ⟨g, rfl, h⟩; exact .grp h

theorem matchesG_cat_noGroup_left {a b : Rx} (ha : hasGroup a = false) {s : Str} {gs : List Str} :
    MatchesG (.cat a b) s gs ↔ ∃ s1 s2, s = s1 ++ s2 ∧ Matches a s1 ∧ MatchesG b s2 gs := by
  rw [matchesG_cat]
  constructor
  · rintro ⟨s1, s2, g1, g2, rfl, rfl, h1, h2⟩
    obtain ⟨h1', rfl⟩ := (matchesG_of_noGroup ha).1 h1
    exact ⟨s1, s2, rfl, h1', h2⟩
  · rintro ⟨s1, s2, rfl, h1, h2⟩
    exact ⟨s1, s2, [], gs, rfl, rfl, (matchesG_of_noGroup ha).2 ⟨h1, rfl⟩, h2⟩

theorem matchesG_grp_cat {a b : Rx} (ha : hasGroup a = false) {s : Str} {gs : List Str} :
    MatchesG (.cat (.grp a) b) s gs ↔
      ∃ g t gs', s = g ++ t ∧ gs = g :: gs' ∧ Matches a g ∧ MatchesG b t gs' := by
  rw [matchesG_cat]
  constructor
  · rintro ⟨s1, s2, g1, g2, rfl, rfl, h1, h2⟩
    obtain ⟨g, rfl, h1'⟩ := matchesG_grp.1 h1
    obtain ⟨h1'', rfl⟩ := (matchesG_of_noGroup ha).1 h1'
    exact ⟨s1, s2, g2, rfl, rfl, h1'', h2⟩
  · rintro ⟨g, t, gs', rfl, rfl, h1, h2⟩
    exact ⟨g, t, [g], gs', rfl, rfl, matchesG_grp.2 ⟨[], rfl, (matchesG_of_noGroup ha).2 ⟨h1, rfl⟩⟩, h2⟩

theorem matchesG_chr_cat {c : Nat} {b : Rx} {s : Str} {gs : List Str} :
    MatchesG (.cat (.chr c) b) s gs ↔ ∃ t, s = c :: t ∧ MatchesG b t gs := by
  rw [matchesG_cat_noGroup_left (by rfl)]
  constructor
  · rintro ⟨s1, s2, rfl, h1, h2⟩; rw [matches_chr.1 h1]; exact ⟨s2, rfl, h2⟩
  · rintro ⟨t, rfl, h⟩; exact ⟨[c], t, rfl, .chr c, h⟩

theorem matchesG_starcls_cat {neg : Bool} {items : List Atom} {b : Rx} {s : Str} {gs : List Str} :
    MatchesG (.cat (.star (.cls neg items)) b) s gs ↔
      ∃ u t, s = u ++ t ∧ u.all (clsHolds neg items) = true ∧ MatchesG b t gs := by
  rw [matchesG_cat_noGroup_left (by rfl)]
  simp only [matches_star_cls]

end Crusta.Rx
