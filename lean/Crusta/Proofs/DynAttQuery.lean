import Crusta.Proofs.DynAttReplay
import Crusta.Proofs.DynQuery

/-!
# The queries of the attack-assumption solvers answer for the pending framework

Same statements as for the buffered solvers (`DynQuery.lean`), with the same notions (`CredOK` / `SkepOK`,
`CompSound`).  An up-to-date encoding meets `QueryEnc` (`AInv.queryEnc`), so the SAT calls are those of
`DynSolveStep.lean`.  The theorems are generic in what a crash node counts as.  The SAT calls reach none on
an up-to-date encoding (`wp_credSolve`, `wp_stSkepSolve`); answering from the cache reaches none provided
nothing is waiting to be replayed (`TailSync`), which `AQInv` does not say: hence the hypothesis
`C ∨ TailSync d` of `credQuery_spec` / `stSkepQuery_spec`.  `wp_credQuery` / `wp_stSkepQuery` are their
`wp True` instances (partial correctness on sound replies: a run that returns an answer returns a correct
one and re-establishes the invariant).
-/

namespace Crusta.DynAtt
open Crusta Crusta.Dyn Crusta.Store

theorem varToArg_eq_some (e : AEnc) (v a : Nat) : e.varToArg v = some a ↔ e.ty v = .arg a := by
  unfold AEnc.varToArg AEnc.ty
  split
  · next id hid => rw [hid, Option.some.injEq, AVarType.arg.injEq]
  · next hne => exact ⟨nofun, fun h => absurd h (hne a)⟩

theorem mem_argsWhere (e : AEnc) (m : Model) (p : Option Bool → Bool) (a : Nat) :
    a ∈ e.argsWhere m p ↔ ∃ i b, m[i]? = some b ∧ p b = true ∧ e.ty (i + 1) = .arg a := by
  simp only [← varToArg_eq_some]
  exact mem_argsWhereG e.varToArg m p a

section
variable {st : Store} {e : AEnc} {Γ : Cnf}

theorem argvar_in_db (h : AInv st e Γ) {a : Nat} (ha : st.hasId a = true) :
    Occurs Γ (e.xv a) := by
  obtain ⟨i, hi, _, hxv, _⟩ := live_var h ha
  have hrow : ∃ N, EncSpec e.sem e.nArgVars (pl (i + 1) :: auxLits e.nArgVars (N + i * e.nArgVars)) := by
    cases e.sem with
    | ST => exact ⟨_, i, hi, Or.inr (Or.inr rfl)⟩
    | CO => exact ⟨_, Or.inl ⟨i, hi, Or.inr (Or.inr rfl)⟩⟩
    | PR => exact ⟨_, Or.inl ⟨i, hi, Or.inr (Or.inr rfl)⟩⟩
  obtain ⟨N, hrow⟩ := hrow
  exact ⟨_, h.enc_in _ hrow, pl (i + 1), List.mem_cons_self, hxv.symm⟩

theorem AInv.queryEnc {sem : DSem} (hinv : st.Inv) (h : AInv st e Γ) (hs : e.sem = sem) (hsem : sem ≠ .PR)
    {as : List Lit} (has : e.assumptionsOpt st = some as) : QueryEnc sem st Γ as e.xv e.varToArg := by
  subst hs
  refine ⟨⟨fun v a hd => ?_, fun a hl => ?_⟩, fun a => argvar_in_db h, fun ν hΓ hA => ?_, fun S hS => ?_⟩
  · obtain ⟨hl, hav⟩ := h.ty_arg v a ((varToArg_eq_some e v a).1 hd)
    exact ⟨hl, xv_of_av hav⟩
  · obtain ⟨i, _, _, hxv, hty⟩ := live_var h hl
    exact ⟨i, hxv, (varToArg_eq_some e _ a).2 hty⟩
  · rw [isExt_iff_encExt hsem]
    cases hse : e.sem with
    | ST => exact models_stable hinv h hse has hΓ hA
    | CO => exact models_complete hinv h hse has hΓ hA
    | PR => exact absurd hse hsem
  · rw [isExt_iff_encExt hsem] at hS
    have key : ∃ ν : Asg, cnfTrue ν Γ = true ∧ assumpsTrue ν as = true ∧ ∀ i, setOf st e ν i = S i := by
      cases hse : e.sem with
      | ST => rw [hse] at hS; exact stable_model hinv h hse has hS
      | CO => rw [hse] at hS; exact complete_model hinv h hse has hS
      | PR => exact absurd hse hsem
    obtain ⟨ν, h1, h2, h3⟩ := key
    refine ⟨ν, h1, h2, fun i hi => ?_⟩
    have := h3 i
    rwa [setOf, hi, Bool.true_and] at this

end

/-- the computations a query may still read (those after the last update) are true of the pending
framework -/
def ACacheSound (sem : DSem) (d : ADState) : Prop :=
  ∀ c ∈ d.buffer.reverse.takeWhile (fun ev => !ev.isUpdate), CompSound sem d.pending c

structure AQInv (sem : DSem) (d : ADState) (w : World) : Prop where
  dinv : ADInv sem d w
  pend_inv : d.pending.Inv
  cache : ACacheSound sem d

theorem AQInv.buf {sem : DSem} {d : ADState} {w : World} (h : AQInv sem d w) : BufInv sem d.buf :=
  ⟨h.pend_inv, h.dinv.sync, h.dinv.next_le, h.cache⟩

/-- as long as no update follows the last computation of the buffer (so that a query may answer from
the cache), no update is waiting to be replayed.  Kept apart from `AQInv`: the statements about answers
(`query_ok`, `update_preserves`, `reach_inv`) hold without it, only the absence of panics needs it — `AQInv`
alone does not keep `fromCache` from panicking: the state with
`buffer = [newArg 1, cred [1] [] (some [0])]`, `next = 0`, `af` empty and `pending` the framework with the one
argument `1` satisfies `AQInv` and panics in `fromCache` on the credulous query about `1`. -/
def TailSync (d : ADState) : Prop :=
  d.buffer.reverse.takeWhile (fun ev => !ev.isUpdate) ≠ [] → ∀ ev ∈ d.buffer.drop d.next, ev.isUpdate = false

theorem EffRun_no_update (evs : List Event) (st st' : Store) (hall : ∀ ev ∈ evs, ev.isUpdate = false)
    (h : EffRun st evs st') : st' = st := by
  induction evs with
  | nil => exact h
  | cons ev rest ih =>
    rw [EffRun, op_none_of_not_update (hall ev List.mem_cons_self)] at h
    exact ih (fun e he => hall e (List.mem_cons_of_mem _ he)) h

theorem EState_congr {sem : DSem} {st : Store} {e : AEnc} {w w' : World}
    (hdb : w'.db e.solver = w.db e.solver) (h : EState sem st e w) : EState sem st e w' :=
  ⟨h.1, fun hne => by rw [hdb]; exact h.2 hne⟩

/-- `BufInv.push` for `AQInv`; nothing is left to replay but the computation itself -/
theorem AQInv_push {sem : DSem} {d : ADState} {w w' : World} (h : AQInv sem d w)
    (hdb : w'.db d.enc.solver = w.db d.enc.solver)
    (hy : d.buf.Synced) {c : Event} (hc : c.isUpdate = false)
    (hsound : CompSound sem d.pending c) :
    AQInv sem { d with buffer := d.buffer ++ [c] } w' ∧ TailSync { d with buffer := d.buffer ++ [c] } := by
  have hb := h.buf.push hy hc hsound
  refine ⟨⟨⟨h.dinv.af_inv, EState_congr hdb h.dinv.est, hb.sync, hb.next_le⟩, h.pend_inv, hb.cache⟩, ?_⟩
  intro _ ev hev
  have hdrop : (d.buffer ++ [c]).drop d.next = [c] := by
    rw [show d.next = d.buffer.length from hy.next_eq, List.drop_append_of_le_length (Nat.le_refl _), List.drop_length,
      List.nil_append]
  rw [show ({ d with buffer := d.buffer ++ [c] } : ADState).buffer.drop d.next = [c] from hdrop] at hev
  rw [List.mem_singleton.1 hev]
  exact hc

theorem wp_argLit {C : Prop} {sem : DSem} {d : ADState} {w : World} (h : AQInv sem d w)
    (hneed : d.enc.needToEncode = false) (hsync : d.af = d.pending)
    {l id : Nat} (hl : d.pending.Live id l) (Q : Nat → World → Prop) :
    wp C (d.argLit l) w Q ↔ Q (d.enc.xv id) w := by
  unfold ADState.argLit
  rw [hsync, (getArg_eq_some h.pend_inv).2 hl]
  simp only
  have hI := h.dinv.est.2 hneed
  obtain ⟨v, hv, _⟩ := hI.av_live id (by rw [hsync]; exact hasId_iff.2 ⟨l, hl⟩)
  have hv' : d.enc.argVar.getD id none = some v := hv
  have hxv : d.enc.xv id = v := xv_of_av hv
  rw [hv', hxv]
  rfl

theorem wp_assumptions {C : Prop} {sem : DSem} {d : ADState} {w : World} (h : AQInv sem d w)
    (hneed : d.enc.needToEncode = false) (Q : List Lit → World → Prop) :
    wp C (d.enc.assumptions d.af) w Q ↔ ∃ as, d.enc.assumptionsOpt d.af = some as ∧ Q as w := by
  obtain ⟨as, has, _⟩ := assumptions_total h.dinv.af_inv (h.dinv.est.2 hneed)
  unfold AEnc.assumptions
  rw [has]
  exact ⟨fun hq => ⟨as, rfl, hq⟩, fun ⟨_, h1, hq⟩ => Option.some.inj h1 ▸ hq⟩

theorem wp_assumptions_of {C : Prop} {sem : DSem} {d : ADState} {w : World} (h : AQInv sem d w)
    (hneed : d.enc.needToEncode = false) (Q : List Lit → World → Prop)
    (hQ : ∀ as, d.enc.assumptionsOpt d.af = some as → Q as w) : wp C (d.enc.assumptions d.af) w Q :=
  have ⟨as, has, _⟩ := assumptions_total h.dinv.af_inv (h.dinv.est.2 hneed)
  (wp_assumptions h hneed Q).2 ⟨as, has, hQ as has⟩

attribute [local irreducible] wp -- see `DynSolveStep.lean`

theorem wp_credSolve {C : Prop} {sem : DSem} {d : ADState} {w : World} (h : AQInv sem d w)
    (hneed : d.enc.needToEncode = false)
    (hy : d.buf.Synced) {l id : Nat} (hl : d.pending.Live id l) :
    wp C (credSolve d l) w (fun r w' => (AQInv sem r.1 w' ∧ TailSync r.1) ∧ r.1.pending = d.pending ∧
      CredOK sem d.pending l r.2) := by
  have hsync : d.af = d.pending := hy.af_eq
  unfold credSolve
  rw [wp_bind]
  refine wp_assumptions_of h hneed _ fun as has => ?_
  rw [wp_bind, wp_argLit h hneed hsync hl]
  have hx := AInv.queryEnc h.dinv.af_inv (h.dinv.est.2 hneed) h.dinv.est.1.sem_eq h.dinv.est.1.sem_ok has
  -- what is left of `credSolve d l` unfolds to `credSolveK` with this `ret`
  refine wp_credSolveK h.dinv.af_inv hx (hsync ▸ hl) (fun ev a => ({ d with buffer := d.buffer ++ [ev] }, a)) _
    fun r ev a hev hcs hok => ?_
  rw [hsync] at hcs hok
  exact ⟨AQInv_push h (by simp) hy hev hcs, rfl, hok⟩

theorem wp_stSkepSolve {C : Prop} {d : ADState} {w : World} (h : AQInv .ST d w)
    (hneed : d.enc.needToEncode = false)
    (hy : d.buf.Synced) {l id : Nat} (hl : d.pending.Live id l) :
    wp C (stSkepSolve d l) w (fun r w' => (AQInv .ST r.1 w' ∧ TailSync r.1) ∧ r.1.pending = d.pending ∧
      SkepOK .ST d.pending l r.2) := by
  have hsync : d.af = d.pending := hy.af_eq
  unfold stSkepSolve
  rw [wp_bind]
  refine wp_assumptions_of h hneed _ fun as has => ?_
  rw [wp_bind, wp_argLit h hneed hsync hl]
  have hx := AInv.queryEnc h.dinv.af_inv (h.dinv.est.2 hneed) h.dinv.est.1.sem_eq h.dinv.est.1.sem_ok has
  refine wp_skepSolveK h.dinv.af_inv hx (hsync ▸ hl) (fun ev a => ({ d with buffer := d.buffer ++ [ev] }, a)) _
    fun r ev a hev hcs hok => ?_
  rw [hsync] at hcs hok
  exact ⟨AQInv_push h (by simp) hy hev hcs, rfl, hok⟩

theorem AQInv_of_update {sem : DSem} {d d' : ADState} {w w' : World} (h : AQInv sem d w)
    (hd : ADInv sem d' w') (hp : d'.pending = d.pending) (hb : d'.buffer = d.buffer) : AQInv sem d' w' := by
  refine ⟨hd, by rw [hp]; exact h.pend_inv, ?_⟩
  intro c hc
  rw [hp]
  rw [hb] at hc
  exact h.cache c hc

/-- The cached extension is read against the solver's own framework `af`, which may lag behind the pending
one; under `TailSync` `af` is the pending framework, of which the cached extension is an extension, so its
ids are live. -/
theorem wp_fromCache {C : Prop} {sem : DSem} {d : ADState} {w : World} (h : AQInv sem d w)
    (ht : C ∨ TailSync d) {b : Bool} {e : List Nat} (hit : d.buf.Cached e)
    (Q : ADState × AccAns → World → Prop) (hQ : Q (d, ⟨b, some e⟩) w) : wp C (fromCache d b e) w Q := by
  unfold fromCache
  rw [wp_bind]
  exact h.buf.wp_cachedLabels (ht.imp (fun hC => hC) fun ht hne => (EffRun_no_update _ _ _ (ht hne) h.dinv.sync).symm)
    hit w _ (fun _ => (wp_pure _ _ _).2 hQ)

theorem wp_recompute {C : Prop} {sem : DSem} {d : ADState} {w : World} (h : AQInv sem d w) {β : Type}
    (solve : ADState → Prog β) (Q : β → World → Prop)
    (hs : ∀ d' w', AQInv sem d' w' → d'.enc.needToEncode = false → d'.buf.Synced →
      d'.pending = d.pending → wp C (solve d') w' Q) :
    wp C (d.updateEncoding.bind solve) w Q := by
  rw [wp_bind]
  refine wp_mono _ _ _ _ ?_ (wp_updateEncoding h.dinv)
  rintro d' w' ⟨hd, hneed, haf, hp, hb, hn⟩
  exact hs d' w' (AQInv_of_update h hd hp hb) hneed (.of_updateEncoding haf hp hb hn) hp

/-- credulous acceptance (both solvers).  `ht`: either crashes are tolerated, or nothing is waiting to be
replayed when the cache is read. -/
theorem credQuery_spec {C : Prop} {sem : DSem} {d : ADState} {w : World} (h : AQInv sem d w)
    (ht : C ∨ TailSync d) {l id : Nat} (hl : d.pending.Live id l) :
    wp C (credQuery d l) w (fun r w' => (AQInv sem r.1 w' ∧ (TailSync d → TailSync r.1)) ∧
      r.1.pending = d.pending ∧ CredOK sem d.pending l r.2) := by
  unfold credQuery
  split
  · rename_i b e hc
    obtain ⟨rfl, hok, hit⟩ := h.buf.cred_hit hc
    exact wp_fromCache h ht hit _ ⟨⟨h, fun ht => ht⟩, rfl, hok⟩
  · refine wp_recompute h _ _ fun d' w' hq hneed hy hp => ?_
    have := wp_credSolve (C := C) hq hneed hy (l := l) (id := id) (by rw [hp]; exact hl)
    rw [hp] at this
    exact wp_mono _ _ _ _ (fun r w'' hr => ⟨⟨hr.1.1, fun _ => hr.1.2⟩, hr.2⟩) this

theorem stSkepQuery_spec {C : Prop} {d : ADState} {w : World} (h : AQInv .ST d w)
    (ht : C ∨ TailSync d) {l id : Nat} (hl : d.pending.Live id l) :
    wp C (stSkepQuery d l) w (fun r w' => (AQInv .ST r.1 w' ∧ (TailSync d → TailSync r.1)) ∧
      r.1.pending = d.pending ∧ SkepOK .ST d.pending l r.2) := by
  unfold stSkepQuery
  split
  · rename_i b e hc
    obtain ⟨rfl, hok, hit⟩ := h.buf.skep_hit hc
    exact wp_fromCache h ht hit _ ⟨⟨h, fun ht => ht⟩, rfl, hok⟩
  · refine wp_recompute h _ _ fun d' w' hq hneed hy hp => ?_
    have := wp_stSkepSolve (C := C) hq hneed hy (l := l) (id := id) (by rw [hp]; exact hl)
    rw [hp] at this
    exact wp_mono _ _ _ _ (fun r w'' hr => ⟨⟨hr.1.1, fun _ => hr.1.2⟩, hr.2⟩) this

theorem wp_credQuery {sem : DSem} (hsem : sem ≠ .PR) {d : ADState} {w : World} (h : AQInv sem d w)
    {l id : Nat} (hl : d.pending.Live id l) :
    wp True (credQuery d l) w (fun r w' => AQInv sem r.1 w' ∧ r.1.pending = d.pending ∧
      CredOK sem d.pending l r.2) :=
  wp_mono _ _ _ _ (fun _ _ hr => ⟨hr.1.1, hr.2⟩) (credQuery_spec h (Or.inl trivial) hl)

theorem wp_stSkepQuery {d : ADState} {w : World} (h : AQInv .ST d w) {l id : Nat} (hl : d.pending.Live id l) :
    wp True (stSkepQuery d l) w (fun r w' => AQInv .ST r.1 w' ∧ r.1.pending = d.pending ∧
      SkepOK .ST d.pending l r.2) :=
  wp_mono _ _ _ _ (fun _ _ hr => ⟨hr.1.1, hr.2⟩) (stSkepQuery_spec h (Or.inl trivial) hl)

end Crusta.DynAtt
