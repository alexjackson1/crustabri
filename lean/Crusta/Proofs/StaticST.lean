import Crusta.Proofs.SolveST
import Crusta.Proofs.StaticPR

/-!
# The stable solver: all entry points on the whole framework

On the components of a view (`Comps`): a stable extension of `g` cut down to a component is the
image of one of the component, and one per component, mapped back and concatenated, is one of `g`.
The loops `stSE.go` / `stAcc.go` over the components are proved with `SEOK` / `DCOK` / `DSOK` on `g`
as postcondition, for the rest of the list of components, from an invariant on the pieces `ps` found
for the components before it.
-/

namespace Crusta
open Prog (mkSolver doReserve addClause addClauses getNVars doSolve)
attribute [local irreducible] wp -- see `Assemble`

section
variable {g : G} {cs : List Comp}

theorem Comps.stable_down (H : Comps g (fun _ => False) cs) {S : ASet} (hS : g.Stable S) {c : Comp} (hc : c ∈ cs) :
    ∃ T, Stable c.af T ∧ c.up T = inter S c.memB := by
  have hgc := H.good c hc
  have h1 : (g.restrict c.memB).Stable (inter S c.memB) :=
    (stable_parts H.parts S hS.1.1).1 hS c.memB (List.mem_map_of_mem hc)
  obtain ⟨T, hT, hup⟩ := Comp.exists_down hgc (inter S c.memB) (fun a ha => by
    have := ((inter_true _ _ a).1 ha).2
    simpa [Comp.memB] using this)
  exact ⟨T, (Comp.ext_iff hgc .ST T hT).2 (by rw [hup]; exact h1), hup⟩

theorem Comps.no_stable (H : Comps g (fun _ => False) cs) {c : Comp} (hc : c ∈ cs) (hno : ∀ T, ¬ Stable c.af T) :
    ∀ S, ¬ g.Stable S := by
  intro S hS
  obtain ⟨T, hT, _⟩ := H.stable_down hS hc
  exact hno T hT

/-- the accumulator of `stSE.go` / `stAcc.go`, from the pieces found so far: components, each with the
list of positions decoded for it -/
def backAll (ps : List (Comp × List Nat)) : List Nat := (ps.map fun p => p.1.back p.2).flatten

theorem backAll_snoc (ps : List (Comp × List Nat)) (c : Comp) (e : List Nat) :
    backAll (ps ++ [(c, e)]) = backAll ps ++ c.back e := by
  simp [backAll]

theorem Comps.assemble (H : Comps g (fun _ => False) cs) (hfin : g.Fin) {ps : List (Comp × List Nat)}
    (hcs : ps.map Prod.fst = cs) (hps : ∀ p ∈ ps, ExtIn .ST p.1 p.2) :
    g.Stable (ofList (backAll ps)) := by
  subst hcs
  refine assemble_ext H.parts H.good hfin .ST (ps.map fun p => p.1.back p.2) (by simp) fun i c r hc hr => ?_
  simp only [List.getElem?_map, Option.map_eq_some_iff] at hc hr
  obtain ⟨p, hp, rfl⟩ := hc
  obtain ⟨p', hp', rfl⟩ := hr
  cases hp.symm.trans hp'
  have hm := List.mem_of_getElem? hp
  exact Comp.ext_back (H.good _ (List.mem_map_of_mem hm)) (hps p hm)

def MissAll (args : List Nat) (c : Comp) : Prop := ∀ T, Stable c.af T → ¬ HitsL args (c.up T)

theorem Comps.no_hit (H : Comps g (fun _ => False) cs) {args : List Nat}
    (hall : ∀ c ∈ cs, MissAll args c) :
    ¬ ∃ S, g.Stable S ∧ HitsL args S := by
  rintro ⟨S, hS, x, hx, hSx⟩
  obtain ⟨c, hc, hxc⟩ := (H.cover x (hS.1.1 x hSx)).resolve_left id
  obtain ⟨T, hT, hup⟩ := H.stable_down hS hc
  exact hall c hc T hT ⟨x, hx, by rw [hup]; exact (inter_true _ _ _).2 ⟨hSx, (c.memB_true x).2 hxc⟩⟩

theorem Comps.all_hit (H : Comps g (fun _ => False) cs) {args : List Nat} {c : Comp} (hc : c ∈ cs)
    (hall : ∀ T, Stable c.af T → HitsL args (c.up T)) :
    ∀ S, g.Stable S → HitsL args S := by
  intro S hS
  obtain ⟨T, hT, hup⟩ := H.stable_down hS hc
  exact hitsL_mono (fun a h => ((inter_true _ _ _).1 h).1) (hup ▸ hall T hT)

end

section
variable {C : Prop} {g : G} {cs : List Comp} (H : Comps g (fun _ => False) cs)
  (hfin : g.Fin)
include H hfin

theorem wp_stSE_go : ∀ (rest : List Comp) (ps : List (Comp × List Nat)) (w : World), w.Bounded → ps.map Prod.fst ++ rest = cs →
    (∀ p ∈ ps, ExtIn .ST p.1 p.2) → wp C (stSE.go (rest.map some) (backAll ps)) w (fun res _ => SEOK .ST g res) := by
  intro rest
  induction rest with
  | nil =>
    intro ps w _ hcs hps
    rw [List.map_nil]
    unfold stSE.go
    exact (wp_pure _ _ _).2 (SEOK.of_some (H.assemble hfin (by simpa using hcs) hps))
  | cons c rest ih =>
    intro ps w hb hcs hps
    have hc : c ∈ cs := hcs ▸ by simp
    rw [List.map_cons]
    unfold stSE.go
    apply wp_stInit c w hb (Comp.af_wf (H.good c hc))
    intro w1 hb1 B
    rw [wp_bind', wp_doSolve]
    refine ⟨fun m hm => ?_, fun hu => ?_⟩
    · show wp C (stSE.go _ (backAll ps ++ c.back _)) _ _
      rw [← backAll_snoc]
      exact ih _ _ (Bounded_solve hb1 _ _ _) (by simpa using hcs) (forall_mem_concat hps (B.plain_sat (fun _ h => h) hm))
    · exact (wp_pure _ _ _).2 ⟨nofun, fun _ ⟨S, hS⟩ => H.no_stable hc (B.plain_unsat hu) S hS⟩

/-- credulous: `found` says whether a piece contains a queried argument; as long as it does not, no
stable extension of a component met so far contains one -/
theorem wp_stAcc_cred (args : List Nat) : ∀ (rest : List Comp) (ps : List (Comp × List Nat)) (found : Bool) (w : World),
    w.Bounded → ps.map Prod.fst ++ rest = cs → (∀ p ∈ ps, ExtIn .ST p.1 p.2) →
    (found = true → HitsL args (ofList (backAll ps))) → (found = false → ∀ p ∈ ps, MissAll args p.1) →
    wp C (stAcc.go args true false (rest.map some) (backAll ps) found) w (fun a _ => DCOK .ST g args true a) := by
  intro rest
  induction rest with
  | nil =>
    intro ps found w _ hcs hps hyes hno
    have hcs' : ps.map Prod.fst = cs := by simpa using hcs
    rw [List.map_nil]
    unfold stAcc.go
    cases found
    · refine (wp_pure _ _ _).2 (AccOK.no (σ := .ST) (g := g) (args := args) (cred := true) fun hn => H.no_hit (fun c hc => ?_) hn).dc
      obtain ⟨p, hp, rfl⟩ := List.mem_map.1 (hcs' ▸ hc)
      exact hno rfl p hp
    · exact (wp_pure _ _ _).2 (AccOK.yes (σ := .ST) (cred := true) (H.assemble hfin hcs' hps) (hyes rfl)).dc
  | cons c rest ih =>
    intro ps found w hb hcs hps hyes hno
    have hc : c ∈ cs := hcs ▸ by simp
    rw [List.map_cons]
    unfold stAcc.go
    apply wp_stInit c w hb (Comp.af_wf (H.good c hc))
    intro w1 hb1 B
    have hL := inCc_lt (H.good c hc).n_eq args
    -- the ways a round ends: a piece is added (and `found` set, or a miss recorded), or the component has no stable extension
    have hgo : ∀ (e : List Nat) (fd : Bool) (w' : World), w'.Bounded → ExtIn .ST c e →
        (fd = true → HitsL args (ofList (backAll ps ++ c.back e))) →
        (fd = false → ∀ p ∈ ps ++ [(c, e)], MissAll args p.1) →
        wp C (stAcc.go args true false (rest.map some) (backAll ps ++ c.back e) fd) w' (fun a _ => DCOK .ST g args true a) := by
      intro e fd w' hb' hst h1 h2
      rw [← backAll_snoc] at h1 ⊢
      exact ih _ fd w' hb' (by simpa using hcs) (forall_mem_concat hps hst) h1 h2
    have hmiss : MissAll args c → ∀ (e : List Nat) (w' : World), w'.Bounded → ExtIn .ST c e →
        wp C (stAcc.go args true false (rest.map some) (backAll ps ++ c.back e) found) w' (fun a _ => DCOK .ST g args true a) :=
      fun hm e w' hb' hst => hgo e found w' hb' hst
        (fun hf => (hitsL_append _ _ _).2 (Or.inl (hyes hf)))
        (fun hf => forall_mem_concat (P := fun p : Comp × List Nat => MissAll args p.1) (hno hf) hm)
    have hfail : (∀ T, ¬ Stable c.af T) → ∀ w' : World, wp C (pure ⟨false, none⟩) w' (fun a _ => DCOK .ST g args true a) :=
      fun h w' => (wp_pure _ _ _).2 (AccOK.no (σ := .ST) (g := g) (args := args) (cred := true) fun ⟨S, hS, _⟩ => H.no_stable hc h S hS).dc
    by_cases hemp : (!(args.filterMap c.pos).isEmpty) = true
    · rw [if_pos hemp, if_pos rfl, wp_bind', wp_getNVars, wp_bind', wp_addClause1, wp_bind', wp_doSolve]
      have hb2 : ((w1.onNVars w.solvers.length).onClause w.solvers.length
          (hitClause .stb (args.filterMap c.pos) (w1.nVarsOf w.solvers.length + 1))).Bounded :=
        Bounded_onClause (Bounded_onNVars hb1 _) _ _
      refine ⟨fun m hm => ?_, fun hu => ?_⟩
      · rw [wp_bind', wp_addClause1]
        simp only [db_onClause_same, db_onNVars] at hm
        obtain ⟨hst, hhit⟩ := B.hit_sat hL hm
        exact hgo _ true _ (Bounded_onClause (Bounded_solve hb2 _ _ _) _ _) hst
          (fun _ => (hitsL_append _ _ _).2 (Or.inr ((hitsL_back (H.good c hc) _ _).2 ((hitsL_ofList _ _).2 hhit)))) nofun
      · rw [wp_bind', wp_addClause1]
        simp only [db_onClause_same, db_onNVars] at hu
        have hm : MissAll args c := fun T hT hh => by
          obtain ⟨p, hp, hTp⟩ := (hitsL_up_iff c args T).1 hh
          rw [B.hit_unsat hL hu T hT p hp] at hTp
          cases hTp
        show wp C ((doSolve _ _).bind _) _ _
        rw [wp_bind, wp_doSolve]
        have hb3 := Bounded_onClause (Bounded_solve hb2 w.solvers.length [pl (w1.nVarsOf w.solvers.length + 1)] .unsat)
          w.solvers.length [nl (w1.nVarsOf w.solvers.length + 1)]
        refine ⟨fun m hm' => ?_, fun hu2 => ?_⟩
        · simp only [db_onClause_same, db_onNVars, db_onSolve, db_onReply] at hm'
          exact hmiss hm _ _ (Bounded_solve hb3 _ _ _) (B.plain_sat (db := _)
            (fun ν h => ((cnfTrue_cons_iff _ _ _).1 ((cnfTrue_cons_iff _ _ _).1 h).2).2) hm')
        · simp only [db_onClause_same, db_onNVars, db_onSolve, db_onReply] at hu2
          exact hfail (B.retired_unsat hu2) _
    · rw [if_neg hemp, wp_bind', wp_doSolve]
      have hm : MissAll args c := fun T _ hh =>
        hitsL_nil T (inCc_empty hemp ▸ (hitsL_up_iff c args T).1 hh)
      exact ⟨fun m hm' => hmiss hm _ _ (Bounded_solve hb1 _ _ _) (B.plain_sat (fun _ h => h) hm'),
        fun hu => hfail (B.plain_unsat hu) _⟩

/-- skeptical: no piece so far contains a queried argument (one invariant where the credulous loop has
two: a miss is the witness here; `found` is never read on this branch of `stAcc.go`, so nothing is
asked of it) -/
theorem wp_stAcc_skep (args : List Nat) : ∀ (rest : List Comp) (ps : List (Comp × List Nat)) (found : Bool) (w : World),
    w.Bounded → ps.map Prod.fst ++ rest = cs → (∀ p ∈ ps, ExtIn .ST p.1 p.2) → ¬ HitsL args (ofList (backAll ps)) →
    wp C (stAcc.go args false true (rest.map some) (backAll ps) found) w (fun a _ => DSOK .ST g args true a) := by
  intro rest
  induction rest with
  | nil =>
    intro ps found w _ hcs hps hav
    have hcs' : ps.map Prod.fst = cs := by simpa using hcs
    rw [List.map_nil]
    unfold stAcc.go
    exact (wp_pure _ _ _).2 (AccOK.yes (σ := .ST) (cred := false) (H.assemble hfin hcs' hps) hav).ds
  | cons c rest ih =>
    intro ps found w hb hcs hps hav
    have hc : c ∈ cs := hcs ▸ by simp
    rw [List.map_cons]
    unfold stAcc.go
    apply wp_stInit c w hb (Comp.af_wf (H.good c hc))
    intro w1 hb1 B
    have hL := inCc_lt (H.good c hc).n_eq args
    have hgo : ∀ (e : List Nat) (w' : World), w'.Bounded → ExtIn .ST c e → ¬ HitsL (args.filterMap c.pos) (ofList e) →
        wp C (stAcc.go args false true (rest.map some) (backAll ps ++ c.back e) found) w' (fun a _ => DSOK .ST g args true a) := by
      intro e w' hb' hst hn
      rw [← backAll_snoc]
      refine ih _ found w' hb' (by simpa using hcs) (forall_mem_concat hps hst) fun hh => ?_
      rw [backAll_snoc, hitsL_append, hitsL_back (H.good c hc)] at hh
      exact hh.elim hav hn
    have hyes : (∀ S, g.Stable S → HitsL args S) → ∀ w' : World,
        wp C (pure ⟨true, none⟩) w' (fun a _ => DSOK .ST g args true a) :=
      fun h w' => (wp_pure _ _ _).2 (AccOK.no (σ := .ST) (g := g) (args := args) (cred := false) fun ⟨S, hS, hn⟩ => hn (h S hS)).ds
    by_cases hemp : (!(args.filterMap c.pos).isEmpty) = true
    · rw [if_pos hemp, if_neg (by simp), wp_bind', wp_doSolve]
      refine ⟨fun m hm => ?_, fun hu => hyes (H.all_hit hc fun T hT => ?_) _⟩
      · obtain ⟨hst, hav'⟩ := B.avoid_sat hL hm
        exact hgo _ _ (Bounded_solve hb1 _ _ _) hst fun hh =>
          have ⟨p, hp, hpe⟩ := (hitsL_ofList _ _).1 hh
          hav' p hp hpe
      · exact (hitsL_up_iff c args T).2 (B.avoid_unsat hL hu T hT)
    · rw [if_neg hemp, wp_bind', wp_doSolve]
      exact ⟨fun m hm => hgo _ _ (Bounded_solve hb1 _ _ _) (B.plain_sat (fun _ h => h) hm)
          (inCc_empty hemp ▸ hitsL_nil _),
        fun hu => hyes (fun S hS => (H.no_stable hc (B.plain_unsat hu) S hS).elim) _⟩

end

section
variable {C : Prop} (v : FwView) (g : G) (hv : v.Ok g)
include hv

theorem st_se_ok (w : World) (hb : w.Bounded) : wp C (stSE v) w (fun res _ => SEOK .ST g res) := by
  obtain ⟨cs, hcs, H⟩ := Comps.of_view hv
  unfold stSE
  rw [hcs]
  exact wp_stSE_go H hv.fin cs [] w hb rfl nofun

theorem st_dc_ok (args : List Nat) (w : World) (hb : w.Bounded) :
    wp C (stDC v args) w (fun a _ => DCOK .ST g args true a) := by
  obtain ⟨cs, hcs, H⟩ := Comps.of_view hv
  unfold stDC stAcc
  rw [hcs]
  exact wp_stAcc_cred H hv.fin args cs [] false w hb rfl nofun nofun nofun

theorem st_ds_ok (args : List Nat) (w : World) (hb : w.Bounded) :
    wp C (stDS v args) w (fun a _ => DSOK .ST g args true a) := by
  obtain ⟨cs, hcs, H⟩ := Comps.of_view hv
  unfold stDS stAcc
  rw [hcs]
  exact wp_stAcc_skep H hv.fin args cs [] false w hb rfl nofun nofun

end

/-- under any crash condition: the programs of the stable solver have no loop with fuel, and
`allComps` has no `none` entry -/
theorem st_entry_spec {C : Prop} (cfg : Cfg) (v : FwView) (g : G) (hv : v.Ok g) (e : Entry) (p : Prog Ans)
    (hp : entryProg .ST cfg v e = some p) (w : World) (hb : w.Bounded) :
    wp C p w (fun ans _ => EntryOK .ST g e ans) := by
  cases e <;> obtain rfl := Option.some.inj hp
  · exact wp_entry_se (st_se_ok v g hv w hb)
  · exact wp_entry_dc (wp_mono _ _ _ _ (fun _ _ h => h.of_cert) (st_dc_ok v g hv _ w hb))
  · exact wp_entry_ds (wp_mono _ _ _ _ (fun _ _ h => h.of_cert) (st_ds_ok v g hv _ w hb))

/-- its reading with crash condition `True` (`hargs` is not needed; nothing uses this one) -/
theorem st_entry_ok (cfg : Cfg) (v : FwView) (g : G) (hv : v.Ok g) (e : Entry)
    (hargs : ∀ a, a ∈ e.argsList → g.live a = true) (p : Prog Ans)
    (hp : entryProg .ST cfg v e = some p) (w : World) (hb : w.Bounded) :
    wp True p w (fun ans _ => EntryOK .ST g e ans) :=
  st_entry_spec cfg v g hv e p hp w hb

end Crusta
