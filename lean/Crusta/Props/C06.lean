import Crusta.Proofs.Oracle
import Crusta.Props.C11

/-!
# C06 — answers do not depend on encoding, backend, certificate flag or query order
-/

namespace Crusta.C06
open Crusta

/-- two answers to the same question that both pass the judge have the same status — whatever
encoder, backend, certificate flag or earlier queries produced them (the reference status depends
on the framework and the question only) -/
theorem status_config_invariant (af : AF) (hwf : af.WF) (σ : Sem) (t : Task) (as : List Nat)
    (cert1 cert2 : Bool) (st1 st2 : Bool) (c1 c2 : Option (Option (List Nat)))
    (h1 : checkAnswer af ⟨σ, t, cert1, as⟩ (.acc st1 c1) = .ok ())
    (h2 : checkAnswer af ⟨σ, t, cert2, as⟩ (.acc st2 c2) = .ok ()) : st1 = st2 := by
  rw [checkAnswer_iff af hwf] at h1 h2
  exact h1.status_unique h2

/-- `entryProg` has no argument for earlier queries: in the model nothing is carried from one query
to the next (a modelling decision; in the source the hybrid encoder's two cells are re-initialised by
`Hyb.init` at every `encode_*`).  The equation below records only that: it holds of any term by `rfl` -/
theorem query_history_invariant (sk : SolverKind) (cfg : Cfg) (v : FwView) (e : Entry)
    (earlier : List Entry) :
    entryProg sk cfg v e = (fun _ : List Entry => entryProg sk cfg v e) earlier := rfl

/-- the outcome of a program depends on the replies only: two backends returning the same
replies lead to the same answer, and the answer does not depend on the solver-object numbering
or the calls made before (world) -/
theorem outcome_world_invariant {α : Type} (p : Prog α) : ∀ (rs : List Reply) (w1 w2 : World)
    (_h : w1.solvers = w2.solvers),
    (match (interp p rs w1).1, (interp p rs w2).1 with
     | .done a, .done b => a = b
     | .abort, .abort => True
     | .crashed _, .crashed _ => True
     | .starved, .starved => True
     | _, _ => False) := by
  -- with the solver lists identified, every step computes the next solver list from the same data
  induction p with
  | pure a => intro rs w1 w2 _; rfl
  | crash m => intro rs w1 w2 _; trivial
  | newSolver k ih => intro rs ⟨s, _, _⟩ ⟨_, _, _⟩ h; obtain rfl : s = _ := h; exact ih _ rs _ _ rfl
  | reserve s n k ih => intro rs ⟨s, _, _⟩ ⟨_, _, _⟩ h; obtain rfl : s = _ := h; exact ih rs _ _ rfl
  | clause s c k ih => intro rs ⟨s, _, _⟩ ⟨_, _, _⟩ h; obtain rfl : s = _ := h; exact ih rs _ _ rfl
  | nVars s k ih => intro rs ⟨s, _, _⟩ ⟨_, _, _⟩ h; obtain rfl : s = _ := h; exact ih _ rs _ _ rfl
  | solve s a k ih =>
    intro rs ⟨s, _, _⟩ ⟨_, _, _⟩ h
    obtain rfl : s = _ := h
    cases rs with
    | nil => trivial
    | cons r rs' =>
      cases r with
      | unknown => trivial
      | unsat => exact ih none rs' _ _ rfl
      | sat m => exact ih (some m) rs' _ _ rfl


/-- **C06 on the solver programs**: the status is a function of the semantics, the graph and the
query only.  Two runs of the same query — with different encoders (any of those the solver type is
meant for), different SAT solvers (any sound reply lists), with or without certificate, from
different worlds (i.e. after different histories of earlier queries on the solver object) — return
the same status. -/
theorem status_independent_of_configuration (sk : SolverKind) (v : FwView) (g : G) (hv : v.Ok g)
    (args : List Nat) (hargs : ∀ a ∈ args, g.live a = true)
    (cfg1 cfg2 : Cfg) (h1 : CfgOK sk cfg1) (h2 : CfgOK sk cfg2) (c1 c2 : Bool)
    (w1 w2 : World) (hb1 : w1.Bounded) (hb2 : w2.Bounded) (rs1 rs2 : List Reply)
    (a1 a2 : AccAns) (cv1 cv2 : Bool) (w1' w2' : World) :
    (∀ p1 p2, entryProg sk cfg1 v (.dc c1 args) = some p1 → entryProg sk cfg2 v (.dc c2 args) = some p2 →
      RunSound p1 rs1 w1 → RunSound p2 rs2 w2 →
      interp p1 rs1 w1 = (.done (.acc a1 cv1), w1') → interp p2 rs2 w2 = (.done (.acc a2 cv2), w2') →
      a1.status = a2.status) ∧
    (∀ p1 p2, entryProg sk cfg1 v (.ds c1 args) = some p1 → entryProg sk cfg2 v (.ds c2 args) = some p2 →
      RunSound p1 rs1 w1 → RunSound p2 rs2 w2 →
      interp p1 rs1 w1 = (.done (.acc a1 cv1), w1') → interp p2 rs2 w2 = (.done (.acc a2 cv2), w2') →
      a1.status = a2.status) :=
  C11.solver_status_presentation_invariant sk v v g g hv hv (fun _ => rfl) (fun _ _ => Iff.rfl) args hargs
    cfg1 cfg2 h1 h2 c1 c2 w1 w2 hb1 hb2 rs1 rs2 a1 a2 cv1 cv2 w1' w2'

end Crusta.C06
