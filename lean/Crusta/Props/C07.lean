import Crusta.Proofs.Oracle
import Crusta.Proofs.StaticAll

/-! # C07 — multi-argument queries are disjunctions (property theorems) -/

namespace Crusta.C07
open Crusta

/-- the reference status of a list query is the disjunction over its members (credulous) -/
theorem cred_is_disjunction (σ : Sem) (af : AF) (hwf : af.WF) (as : List Nat) :
    σ.credB af as = true ↔ ∃ a ∈ as, σ.credB af [a] = true := by
  simp only [credB_iff σ af hwf, List.mem_singleton, exists_eq_left]
  exact ⟨fun ⟨S, hS, a, ha, h⟩ => ⟨a, ha, S, hS, h⟩, fun ⟨a, ha, S, hS, h⟩ => ⟨S, hS, a, ha, h⟩⟩

/-- skeptical list queries: every extension contains at least one member (this is *not* the
disjunction of the single-argument skeptical statuses, which is why it needs its own check) -/
theorem skep_list_spec (σ : Sem) (af : AF) (hwf : af.WF) (as : List Nat) :
    σ.skepB af as = true ↔ ∀ S, σ.Ext af S → ∃ a ∈ as, S a = true := skepB_iff σ af hwf as

/-- repetitions and order in the list are irrelevant -/
theorem cred_perm_invariant (σ : Sem) (af : AF) (hwf : af.WF) (as bs : List Nat)
    (h : ∀ a, a ∈ as ↔ a ∈ bs) : σ.credB af as = σ.credB af bs := by
  apply Bool.eq_iff_iff.2
  simp only [credB_iff σ af hwf, h]

theorem skep_perm_invariant (σ : Sem) (af : AF) (hwf : af.WF) (as bs : List Nat)
    (h : ∀ a, a ∈ as ↔ a ∈ bs) : σ.skepB af as = σ.skepB af bs := by
  apply Bool.eq_iff_iff.2
  simp only [skepB_iff σ af hwf, h]

/-- the judge forces the variants with and without certificate to the same status -/
theorem variants_agree (af : AF) (hwf : af.WF) (σ : Sem) (t : Task) (as : List Nat)
    (st1 st2 : Bool) (c : Option (List Nat))
    (h1 : checkAnswer af ⟨σ, t, false, as⟩ (.acc st1 none) = .ok ())
    (h2 : checkAnswer af ⟨σ, t, true, as⟩ (.acc st2 (some c)) = .ok ()) : st1 = st2 := by
  rw [checkAnswer_iff af hwf] at h1 h2
  exact h1.status_unique h2


/-- **C07 on the solver programs**: a query over a list of arguments is answered as the
disjunction of its members (`HitsL args S` = some member of the list is in `S`), for the variants
with and without certificate alike (C02 / C03 theorems, restated for lists) -/
theorem list_queries_are_disjunctions (σ : Sem) (g : G) (args : List Nat) (c1 c2 : Bool) (a1 a2 : AccAns) :
    (DCOK σ g args c1 a1 → (a1.status = true ↔ ∃ S, σ.GExt g S ∧ ∃ x ∈ args, S x = true)) ∧
    (DSOK σ g args c1 a1 → (a1.status = true ↔ ∀ S, σ.GExt g S → ∃ x ∈ args, S x = true)) ∧
    (DCOK σ g args c1 a1 → DCOK σ g args c2 a2 → a1.status = a2.status) ∧
    (DSOK σ g args c1 a1 → DSOK σ g args c2 a2 → a1.status = a2.status) :=
  ⟨DCOK.status_iff, DSOK.status_iff, (status_determined σ g args c1 c2 a1 a2).1, (status_determined σ g args c1 c2 a1 a2).2⟩

/-- every static solver's acceptance answers satisfy `DCOK` / `DSOK` (hence the above) -/
theorem solver_answers_satisfy_spec (sk : SolverKind) (cfg : Cfg) (hcfg : CfgOK sk cfg) (v : FwView) (g : G) (hv : v.Ok g)
    (e : Entry) (hargs : ∀ a, a ∈ e.argsList → g.live a = true) (p : Prog Ans)
    (hp : entryProg sk cfg v e = some p) (w : World) (hb : w.Bounded) (rs : List Reply)
    (hs : RunSound p rs w) (ans : Ans) (w' : World) (hrun : interp p rs w = (.done ans, w')) :
    EntryOK sk.sem g e ans := static_answers_conform sk cfg hcfg v g hv e hargs p hp w hb rs hs ans w' hrun

end Crusta.C07
