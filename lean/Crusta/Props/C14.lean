import Crusta.Proofs.Writers
import Crusta.Proofs.RoundTrip
import Crusta.Proofs.StoreRoundTrip
import Crusta.Gen.WriterFormats

/-! # C14 — written frameworks and answers read back (property theorems)

Instances of `IO.parseExt*_write`, `IO.apx_write_read`, `IO.decode_encode` and, for frameworks
reached by an update history, `store_write_read_*`; `writers_are_the_source_formats` ties the format
strings of the writers to those extracted from the source (`fmtSubst` fills their `{}` holes). -/

namespace Crusta.C14
open Crusta Crusta.IO

/-- by definition of the writer model: acceptance statuses and "no extension" are the lines YES / NO -/
theorem status_lines :
    writeStatus true = strOf "YES\n" ∧ writeStatus false = strOf "NO\n" ∧ writeNoExt = strOf "NO\n" :=
  ⟨rfl, rfl, rfl⟩

/-- ICCMA'23 witness line: `w` followed by space-separated labels, one line; reads back to exactly
the labels it contained, for every list (the empty one included) of blank-free non-empty labels -/
theorem iccma_extension_roundtrip (ext : List Str) (h : ∀ l ∈ ext, l ≠ [] ∧ ∀ c ∈ l, isWs c = false) :
    parseExtIccma (writeExtIccma ext) = some ext := parseExtIccma_write ext h

/-- Aspartix witness line: one bracketed comma-separated list; reads back to exactly its labels -/
theorem apx_extension_roundtrip (ext : List Str) (h : ∀ l ∈ ext, ∀ c ∈ l, c ≠ 44) (hne : ∀ l ∈ ext, l ≠ []) :
    parseExtApx (writeExtApx ext) = some ext := parseExtApx_write ext h hne

/-- the ICCMA'23 extension writer produces exactly one line (for labels without line feed) -/
theorem extension_is_one_line (ext : List Str) (h : ∀ l ∈ ext, ∀ c ∈ l, c ≠ 10) :
    (∀ c ∈ (writeExtIccma ext).dropLast, c ≠ 10) ∧ (writeExtIccma ext).getLast? = some 10 := by
  rw [writeExtIccma_eq, List.dropLast_concat, List.getLast?_concat]
  exact ⟨extIccma_body_no_lf ext h, rfl⟩

example : parseExtIccma (writeExtIccma [strOf "1", strOf "12"]) = some [strOf "1", strOf "12"] := by decide +kernel

/-- **a framework written in Aspartix format reads back as the same framework**: same labels in the
same order, same attacks (model of `AspartixWriter` = `writeApx` on the live labels in id order and
the live attacks; labels valid identifiers, as the reader requires) -/
theorem framework_roundtrip (labels : List Str) (atts : List (Nat × Nat))
    (hv : ∀ l ∈ labels, ValidId l) (hnd : labels.Nodup)
    (ha : ∀ p ∈ atts, p.1 < labels.length ∧ p.2 < labels.length) (hand : atts.Nodup) :
    readApx (encodeUtf8 (writeApx labels (atts.map (fun p => (labels.getD p.1 [], labels.getD p.2 [])))))
      = .ok ⟨labels, atts⟩ := apx_write_read labels atts hv hnd ha hand

/-- the identifiers the writer may be given are exactly those the reader can return -/
theorem reader_labels_are_valid (l lab : Str) (h : matchArg l = some lab) : ValidId lab := matchArg_validId l lab h

/-- UTF-8 encoding and decoding are inverse on scalar values (labels may contain non-ASCII digits) -/
theorem utf8_roundtrip (s : Str) (h : ∀ c ∈ s, Scalar c) : decodeUtf8 (encodeUtf8 s) = some s := decode_encode s h

/-- **whatever update history produced it**: for every list of update operations (accepted,
rejected, redundant; arguments and attacks removed and re-added), writing the framework the store
holds in Aspartix format — live arguments in id order, live attacks in iteration order, labels named
by any injective naming into valid identifiers — and reading the text back gives the same labels
in the same order and the same attacks in the same order (as positions in the label list) -/
theorem store_framework_roundtrip (ops : List StoreOp)
    (nameOf : Nat → Str) (hinj : ∀ a b, nameOf a = nameOf b → a = b) (hval : ∀ l, ValidId (nameOf l)) :
    let s := ops.foldl (fun s o => match s.step o with | .ok s' => s' | .err s' => s' | .panic => s) Store.empty
    let labels := s.liveArgs.map (fun p => nameOf p.2)
    let lab := fun i => nameOf ((s.labelOf i).getD 0)
    let atts := s.iterAttacks.map (fun p => (lab p.1, lab p.2))
    ∃ attIdx : List (Nat × Nat),
      readApx (encodeUtf8 (writeApx labels atts)) = .ok ⟨labels, attIdx⟩ ∧
      attIdx.length = s.iterAttacks.length ∧
      (∀ k (hk : k < attIdx.length),
         ∃ a b, s.iterAttacks[k]? = some (a, b) ∧
           (s.liveArgs.map (·.1))[(attIdx[k]).1]? = some a ∧ (s.liveArgs.map (·.1))[(attIdx[k]).2]? = some b) :=
  store_write_read_fold ops nameOf hinj hval

/-- instance used by the correspondence runs: labels `a<n>`; the read-back attacks are the written
ones located in the label list (`9999` is the driver's value for a label not found, never taken) -/
theorem store_framework_roundtrip_default (ops : List StoreOp) :
    let nameOf := fun l : Nat => strOf "a" ++ natToStr l
    let s := ops.foldl (fun s o => match s.step o with | .ok s' => s' | .err s' => s' | .panic => s) Store.empty
    let labels := s.liveArgs.map (fun p => nameOf p.2)
    let lab := fun i => nameOf ((s.labelOf i).getD 0)
    let atts := s.iterAttacks.map (fun p => (lab p.1, lab p.2))
    readApx (encodeUtf8 (writeApx labels atts)) =
      .ok ⟨labels, atts.map (fun p => ((idxOf labels p.1).getD 9999, (idxOf labels p.2).getD 9999))⟩ :=
  store_write_read_driver ops (fun l => strOf "a" ++ natToStr l) (prefixed_inj _) (validId_prefixed _ validId_a)

/-- the restriction to valid identifiers in the property is needed: with `nameOf := natToStr` (what
`AspartixWriter` prints for an `AAFramework<usize>`, e.g. one built by the ICCMA reader) the text written
for any store with at least one live argument is rejected by the Aspartix reader: its first line is
`arg(<numeral>).`, and a numeral is not an identifier.  (No invariant is needed.) -/
theorem numeral_labels_do_not_read_back (s : Store) (hne : s.liveArgs ≠ []) :
    let labels := s.liveArgs.map (fun p => natToStr p.2)
    let lab := fun i => natToStr ((s.labelOf i).getD 0)
    let atts := s.iterAttacks.map (fun p => (lab p.1, lab p.2))
    readApx (encodeUtf8 (writeApx labels atts)) = .error "syntax error" := by
  cases hl : s.liveArgs with
  | nil => exact absurd hl hne
  | cons x xs => exact apx_numerals_rejected x xs (·.2) s.iterAttacks _ _

/-- `format!`-style substitution: every `{}` of the format takes the next argument; a `{}` with no
argument left is dropped (`format!` would not compile; the generated formats never get there) -/
def fmtSubst : List Nat → List Str → Str
  | [], _ => []
  | [c], _ => [c]
  | a :: b :: rest, as =>
    if a = 123 ∧ b = 125 then
      match as with
      | x :: xs => x ++ fmtSubst rest xs
      | [] => fmtSubst rest []
    else a :: fmtSubst (b :: rest) as

theorem strOf_yes : strOf "YES\n" = [89, 69, 83, 10] := by decide +kernel
theorem strOf_no : strOf "NO\n" = [78, 79, 10] := by decide +kernel

/-- **the writers' formats are those of the source**: the format strings of every `write!` /
`writeln!` call of `Iccma23Writer::write_single_extension`, `AspartixWriter::write_single_extension`,
`AspartixWriter::write_framework`, `write_no_extension` and `write_acceptance_status` are regenerated
from the source on every run (in source order; the generator insists on their number); the Lean
writer model produces exactly the text obtained by substituting the labels into these formats -/
theorem writers_are_the_source_formats :
    (∀ ext : List Str, ∃ f0 f1 f2, Gen.iccmaExtFormats = [f0, f1, f2] ∧
      writeExtIccma ext = fmtSubst f0 [] ++ ext.flatMap (fun l => fmtSubst f1 [l]) ++ fmtSubst f2 []) ∧
    (∀ ext : List Str, ∃ f0 f1 f2 f3, Gen.apxExtFormats = [f0, f1, f2, f3] ∧
      writeExtApx ext = fmtSubst f0 [] ++
        (match ext with | [] => [] | a :: t => fmtSubst f1 [a] ++ t.flatMap (fun l => fmtSubst f2 [l])) ++ fmtSubst f3 []) ∧
    (∀ (labels : List Str) (atts : List (Str × Str)), ∃ g0 g1, Gen.apxFrameworkFormats = [g0, g1] ∧
      writeApx labels atts = labels.flatMap (fun l => fmtSubst g0 [l]) ++ atts.flatMap (fun p => fmtSubst g1 [p.1, p.2])) ∧
    (∃ n0, Gen.noExtensionFormats = [n0] ∧ writeNoExt = fmtSubst n0 []) ∧
    (∀ b : Bool, ∃ s0, Gen.statusFormats = [s0] ∧ writeStatus b = fmtSubst s0 [if b then Gen.statusYes else Gen.statusNo]) := by
  refine ⟨fun ext => ⟨_, _, _, rfl, ?_⟩, fun ext => ⟨_, _, _, _, rfl, ?_⟩, fun labels atts => ⟨_, _, rfl, ?_⟩, ⟨_, rfl, ?_⟩, fun b => ⟨_, rfl, ?_⟩⟩
  · simp [writeExtIccma, fmtSubst]
  · unfold writeExtApx
    cases ext with
    | nil => rfl
    | cons a t =>
      rw [intercalate_cons]
      simp only [fmtSubst, and_self, if_true, List.append_nil]
      rfl
  · unfold writeApx
    -- up to associativity of `++` both sides compute to the same text
    simp only [strOf_arg, strOf_att, strOf_close_nl, List.append_assoc, List.cons_append, List.nil_append]
    rfl
  · exact strOf_no
  · cases b
    · exact strOf_no
    · exact strOf_yes

end Crusta.C14
