import Crusta.Proofs.Oracle
import Crusta.Proofs.StaticAll
import Crusta.Proofs.StoreIccma
import Crusta.Proofs.StaticNodup

/-!
# C01 — single-extension answers are genuine extensions (property theorems)

Besides the judge and the theorem on the solver programs: the reference decider and enumeration are
exact, the grounded and component algorithms every SE answer rests on are exact, the three ways a
framework reaches a solver present its graph, and returned lists are duplicate-free.
-/

namespace Crusta.C01
open Crusta

/-- The judge applied to every single-extension answer of the real solvers accepts exactly:
a duplicate-free list that is an extension under the textbook definition, or "no extension"
when the framework has none. For all frameworks and all seven semantics. -/
theorem se_judge_exact (af : AF) (hwf : af.WF) (σ : Sem) (cert : Bool) (args : List Nat)
    (e : Option (List Nat)) :
    checkAnswer af ⟨σ, .SE, cert, args⟩ (.se e) = .ok () ↔
      match e with
      | some l => l.Nodup ∧ σ.Ext af (ofList l)
      | none => ¬ ∃ S, σ.Ext af S := by
  rw [checkAnswer_iff af hwf]
  cases e <;> exact and_iff_right rfl

theorem decider_exact (σ : Sem) (af : AF) (hwf : af.WF) (l : List Nat) :
    σ.extB af l = true ↔ σ.Ext af (ofList l) := extB_iff σ af hwf l

/-- the reference enumeration contains every extension (so "NO" is justified only when empty) -/
theorem enumeration_complete (σ : Sem) (af : AF) (hwf : af.WF) (S : ASet) (hS : σ.Ext af S) :
    ∃ l ∈ σ.exts af, ofList l = S := by
  obtain ⟨l, hl, rfl⟩ := exists_list_of_sub af S (ext_sub σ hS)
  exact ⟨l, (mem_exts_iff σ af hwf l).2 ⟨hl, hS⟩, rfl⟩


/-- **C01 on the solver programs** (model `Crusta.entryProg`, tied to the implementation by the
call-by-call trace correspondence of the `solve` family): for each of the seven solver types, every
view presenting a graph `g` (compact or with removed arguments), every encoder the solver type is
meant for (`CfgOK`), every world and every run on replies a correct SAT solver may give: a returned
extension is an extension of `g` under the solver's semantics, and "no extension" is returned only
if there is none. -/
theorem se_answers_are_extensions (sk : SolverKind) (cfg : Cfg) (hcfg : CfgOK sk cfg) (v : FwView) (g : G) (hv : v.Ok g)
    (p : Prog Ans) (hp : entryProg sk cfg v .se = some p) (w : World) (hb : w.Bounded) (rs : List Reply)
    (hs : RunSound p rs w) (res : Option (List Nat)) (w' : World) (hrun : interp p rs w = (.done (.ext res), w')) :
    (∀ e, res = some e → sk.sem.GExt g (ofList e)) ∧ (res = none → ¬ ∃ S, sk.sem.GExt g S) :=
  static_answers_conform sk cfg hcfg v g hv .se (fun _ h => nomatch h) p hp w hb rs hs _ w' hrun

/-- on compact frameworks these are the textbook semantics of the spec layer -/
theorem semantics_compact (σ : Sem) (af : AF) (S : ASet) : σ.GExt af.g S ↔ σ.Ext af S := gext_compact σ af S

/-- the grounded extension algorithm and the connected-components algorithm underlying all SE
answers are exact (for every view presenting a graph) -/
theorem graph_algorithms_exact (v : FwView) (g : G) (h : v.Ok g) :
    g.Grounded (ofList (groundedV v)) ∧
    (∀ oc ∈ allComps v, ∃ c, oc = some c ∧ GoodComp g c ∧ c.ids ≠ []) ∧
    (∀ a, g.live a = true → ∃ c, some c ∈ allComps v ∧ a ∈ c.ids) := by
  obtain ⟨cs, hcs, H, hne⟩ := allComps_spec v g h
  refine ⟨(groundedV_spec v g h).1, fun oc ho => ?_, fun a ha => ?_⟩
  · obtain ⟨c, hc, rfl⟩ := List.mem_map.1 (hcs ▸ ho)
    exact ⟨c, rfl, H.good c hc, hne c hc⟩
  · obtain ⟨c, hc, hac⟩ := (H.cover a ha).resolve_left id
    exact ⟨c, hcs ▸ List.mem_map_of_mem hc, hac⟩

/-- the three ways a framework reaches a solver all present a graph (hypothesis `v.Ok g` of the
theorems above): a compact well-formed framework; a store reached by any update history; the store
built by the ICCMA'23 reader, repeated attack lines included — and then the graph is the declared one -/
theorem views_present_their_graph :
    (∀ (af : AF), af.WF → af.view.Ok af.g) ∧
    (∀ ops : List StoreOp, ∃ s, Store.runOps Store.empty ops = some s ∧ s.view.Ok s.g) ∧
    (∀ (n : Nat) (atts : List (Nat × Nat)), (∀ p ∈ atts, p.1 < n ∧ p.2 < n) →
      (Store.ofIccma n atts).view.Ok (Store.ofIccma n atts).g ∧
      (∀ a, (Store.ofIccma n atts).hasId a = true ↔ a < n) ∧
      (∀ a b, (Store.ofIccma n atts).HasAtt a b ↔ (a, b) ∈ atts)) := by
  refine ⟨AF.view_ok, fun ops => ?_, fun n atts h => ⟨Store.ofIccma_view_ok n atts h, Store.ofIccma_g n atts h⟩⟩
  obtain ⟨s, hs, hinv, hrows⟩ := Store.rows_reachable ops
  exact ⟨s, hs, Store.view_ok s hinv hrows⟩

/-- every list a static solver returns — extension or certificate — is duplicate-free (this does
not even depend on the SAT solver's replies) -/
theorem returned_lists_are_duplicate_free (sk : SolverKind) (cfg : Cfg) (v : FwView) (g : G) (hv : v.Ok g)
    (e : Entry) (hargs : ∀ a, a ∈ e.argsList → g.live a = true) (p : Prog Ans)
    (hp : entryProg sk cfg v e = some p) (w : World) (rs : List Reply) (ans : Ans) (w' : World)
    (hs : RunSound p rs w) (hrun : interp p rs w = (.done ans, w')) : AnsNodup ans :=
  static_answers_nodup_run sk cfg v g hv e hargs p hp w rs hs ans w' hrun

/-- **theorem and judge agree**: on a compact well-formed framework every answer the solver
programs can return on sound replies is accepted by the run-time judge `checkAnswer` -/
theorem answers_accepted_by_judge (sk : SolverKind) (cfg : Cfg) (hcfg : CfgOK sk cfg) (af : AF) (hwf : af.WF)
    (e : Entry) (hargs : ∀ a, a ∈ e.argsList → af.g.live a = true) (p : Prog Ans)
    (hp : entryProg sk cfg af.view e = some p) (w : World) (hb : w.Bounded) (rs : List Reply)
    (hs : RunSound p rs w) (ans : Ans) (w' : World) (hrun : interp p rs w = (.done ans, w')) :
    checkAnswer af (queryOf sk e) (answerOf ans) = .ok () :=
  static_answers_accepted_by_judge sk cfg hcfg af hwf e hargs p hp w hb rs hs ans w' hrun

end Crusta.C01
