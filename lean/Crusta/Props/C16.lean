import Crusta.Proofs.SatMalformed
import Crusta.Gen.SatTokens
import Crusta.Proofs.SatRoundTrip

/-!
# C16 — the exchange with an external SAT solver is well-formed and cannot hang (property theorems)

The DIMACS text (`SatRoundTrip` part A), the reply parser on well-formed, truncated and malformed
replies (`SatRoundTrip` B, C; `SatMalformed`), the pipe model (`Sat.Pipe`), and the tie of
the keywords to the tokens of the source.
-/

namespace Crusta.C16
open Crusta Crusta.Sat

/-- every instance handed to the external solver, after any history of clause additions,
reservations and earlier calls, announces a variable count that covers every variable of every
clause and of every assumption of the call -/
theorem dimacs_wellformed (ops : List BOp) (as : List Lit) :
    let b := (ops.foldl Buffered.apply {}).withAssumptions as
    (∀ c ∈ b.clauses, ∀ l ∈ c, l.var ≤ b.nVars) ∧ (∀ a ∈ as, a.var ≤ b.nVars) :=
  Sat.dimacs_wellformed ops as

/-- a model / "unsatisfiable" is reported only when the reply carries the corresponding status
line; a reply without output is undecided -/
theorem reply_faithful (nv : Nat) (out : List UInt8) :
    (∀ m, parseReply nv out = .sat m → some (IO.strOf "s SATISFIABLE") ∈ IO.lines out) ∧
    (parseReply nv out = .unsat → some (IO.strOf "s UNSATISFIABLE") ∈ IO.lines out) ∧
    parseReply nv [] = .unknown :=
  ⟨(Sat.reply_faithful nv out).1, (Sat.reply_faithful nv out).2, rfl⟩

/-- a reported model has exactly one entry per declared variable -/
theorem model_covers_declared (nv : Nat) (out : List UInt8) (m : List (Option Bool))
    (h : parseReply nv out = .sat m) : m.length = nv := model_length nv out m h

/-- whatever the volume of the solver's output and whatever the pipe capacity, the policy "read the
output to the end, then wait for the process" returns; the policy "wait, then read" never returns
once the output exceeds the pipe capacity -/
theorem pipe_no_deadlock :
    (∀ cap out, 0 < cap → Pipe.run .drainThenWait cap (out + 3) (Pipe.start out) = .returned) ∧
    (∀ cap out, cap < out → ∀ fuel, Pipe.run .waitThenDrain cap fuel (Pipe.start out) ≠ .returned) :=
  ⟨fun cap out h => Pipe.drain_then_wait_returns cap h out, Pipe.wait_then_drain_deadlocks⟩

/-- **the DIMACS text denotes exactly the instance, and its header is exact.**  After any history
of clause additions, reservations and earlier calls (literals have a variable ≥ 1: Rust's
`Literal(NonZeroIsize)`), a reference DIMACS reader (`readDimacs`: header `p cnf V C`, one clause per
non-empty line, terminated by the only `0`) reads the text handed to the external program back as
exactly the clauses added so far followed by one unit clause per assumption; the number of clause
lines of the text **equals** the announced count, and every variable is between 1 and the
announced variable count. -/
theorem dimacs_text_exact (ops : List BOp) (as : List Lit)
    (hops : ∀ op ∈ ops, op.Proper) (has : ∀ a ∈ as, 1 ≤ a.var) :
    let b := ops.foldl Buffered.apply {}
    ∃ nv nc cls, readDimacs (b.dimacs as) = some (nv, nc, cls) ∧
      cls = b.clauses ++ as.map (fun a => [a]) ∧
      clauseLineCount (b.dimacs as) = nc ∧ cls.length = nc ∧
      ∀ c ∈ cls, ∀ l ∈ c, 1 ≤ l.var ∧ l.var ≤ nv :=
  Sat.dimacs_header_exact ops as hops has

/-- the hypothesis on literals is needed and is what the type guarantees: variable 0 would be
rendered as the clause terminator (the clause `[x0, x1]` is written `0 1 0`, which no DIMACS reader can
take for a two-literal clause; the reference reader rejects it) -/
theorem dimacs_variable_zero_breaks :
    readDimacs (Buffered.dimacs (({} : Buffered).addClause [pl 0, pl 1]) []) = none := by
  decide +kernel

/-- **the printed model is reported as such**: a reply consisting of `s SATISFIABLE` and the
literals of a model `m` over the declared variables, split over `v` lines in any way (bare `v`
lines included), the last one closed by ` 0`, with comment lines (`c`, `c text`, empty; any valid
text without line break) anywhere — before the status line, between value lines, after the end —
is reported as exactly `m`; fewer literals than declared variables leave the rest undefined;
`s UNSATISFIABLE` among comment lines is reported as unsatisfiable.  (`isize` parsing of the
literals bounds the number of variables by `isize::MAX`: `reply_variable_bound_needed`.) -/
theorem wellformed_reply_reported (m : List Bool) (r : Nat) (lay : Layout) (hlay : lay.Ok)
    (hm : m.length + r ≤ 9223372036854775807) (nv : Nat) (pre post : List IO.Str)
    (hpre : ∀ l ∈ pre, Noise l) (hpost : ∀ l ∈ post, Noise l) :
    parseReply (m.length + r) (renderModel m lay) = .sat (m.map some ++ List.replicate r none) ∧
    parseReply nv (renderUnsat pre post) = .unsat :=
  ⟨Sat.parseReply_renderModel_pad m r lay hlay hm, Sat.parseReply_renderUnsat nv pre post hpre hpost⟩

theorem reply_variable_bound_needed (a : List Bool) (ha : a.length = 9223372036854775807) :
    parseReply (a ++ [true]).length (renderModel (a ++ [true]) ⟨[], [], [], []⟩) = .abort "not a literal" :=
  Sat.parseReply_renderModel_big a ha

/-- **a truncated reply is never a result**: every byte prefix of a well-formed satisfiable reply
that ends before the terminating `0` token — between lines, inside a line, inside a token, inside a
multi-byte character of a comment — is reported as undecided or aborts, whatever the number of
declared variables -/
theorem truncated_reply_is_no_result (nv : Nat) (m : List Bool) (lay : Layout) (hlay : lay.Ok)
    (out : List UInt8) (h : out <+: renderHead m lay) :
    (parseReply nv out = .unknown ∨ ∃ e, parseReply nv out = .abort e) ∧
    renderModel m lay = renderHead m lay ++ IO.encodeUtf8 (48 :: 10 :: lay.post.flatMap (fun l => l ++ [10])) :=
  ⟨Sat.truncated_reply_not_result nv m lay hlay out h, Sat.renderModel_eq_head m lay⟩

/-- non-vacuity: a layout with a comment before the status line, one value line with one literal,
a comment, and the closing value line -/
example : (⟨[[99]], [([], 1)], [[99, 32, 120]], []⟩ : Layout).Ok := by
  have ok1 : IO.LineOk [99] := by unfold IO.LineOk IO.Scalar; decide
  have ok2 : IO.LineOk [99, 32, 120] := by unfold IO.LineOk IO.Scalar; decide
  refine ⟨fun l hl => ?_, fun ch hch l hl => ?_, fun l hl => ?_, nofun⟩
  · cases List.mem_singleton.1 hl
    exact ⟨ok1, .inr (.inl rfl)⟩
  · cases List.mem_singleton.1 hch
    cases hl
  · cases List.mem_singleton.1 hl
    exact ⟨ok2, .inr (.inr ⟨[120], rfl⟩)⟩

/-- **a malformed reply is never a result, wherever the malformed part is.**  (1) If any line of
the output is one the parser rejects (`BadLine`: invalid UTF-8; neither a status line, a `v ` line,
a comment, a bare `v` nor empty; a `v ` line with a token that is not an integer or a literal
beyond the declared variables — `rejected_lines` below gives these sufficient conditions), the call aborts.
(2) Two status lines, in any order, anything in between, abort.  (3) In particular anything bad
*after* `s UNSATISFIABLE` or after `s SATISFIABLE` prevents the result from being reported — a
parser may not stop reading at the status line. -/
theorem malformed_reply_aborts (nv : Nat) (out : List UInt8) :
    ((∃ l ∈ IO.lines out, BadLine nv l) → ∃ e, parseReply nv out = .abort e) ∧
    (∀ (a b c : List (Option IO.Str)) (s1 s2 : Option IO.Str), StatusLine s1 → StatusLine s2 →
      IO.lines out = a ++ s1 :: (b ++ s2 :: c) → ∃ e, parseReply nv out = .abort e) ∧
    (∀ (a b : List (Option IO.Str)), IO.lines out = a ++ some sUnsat :: b →
      (∃ l ∈ b, BadLine nv l ∨ StatusLine l) → parseReply nv out ≠ .unsat) ∧
    (∀ (a b : List (Option IO.Str)), IO.lines out = a ++ some sSat :: b →
      (∃ l ∈ b, BadLine nv l ∨ StatusLine l) → ∀ m, parseReply nv out ≠ .sat m) :=
  ⟨Sat.bad_line_aborts nv out,
   fun a b c s1 s2 h1 h2 hl => Sat.two_status_lines_abort nv out a b c s1 s2 h1 h2 hl,
   fun a b hl hb => (Sat.unsat_then_anything_bad nv out a b hl hb).2,
   fun a b hl hb => (Sat.sat_then_anything_bad nv out a b hl hb).2⟩

/-- sufficient conditions for `BadLine`: invalid UTF-8; a line that is none of the accepted kinds;
a `v ` line with a bad token -/
theorem rejected_lines (nv : Nat) :
    BadLine nv none ∧
    (∀ l : IO.Str, l ≠ IO.strOf "s SATISFIABLE" → l ≠ IO.strOf "s UNSATISFIABLE" →
      (IO.strOf "v ").isPrefixOf l = false → (IO.strOf "c ").isPrefixOf l = false →
      l ≠ IO.strOf "c" → l ≠ IO.strOf "v" → l ≠ [] → BadLine nv (some l)) ∧
    (∀ l : IO.Str, (IO.strOf "v ").isPrefixOf l = true →
      (∃ w ∈ (splitAsciiWs l).drop 1, BadTok nv w) → BadLine nv (some l)) :=
  ⟨Sat.badLine_none nv, fun l h1 h2 h3 h4 h5 h6 h7 => Sat.badLine_unexpected' nv l h1 h2 h3 h4 h5 h6 h7,
   fun l hp h => Sat.badLine_vline' nv l hp h⟩

/-- **the tokens of the exchange are those of the source**: the status lines, the value-line
prefix, the comment prefix, the two bare lines that are skipped and the DIMACS header prefix are
regenerated from `src/sat/buffered_sat_solver.rs` on every run (the generator also insists on the
shape of the if-chain: status tests first, `split_ascii_whitespace().skip(1)`, `parse::<isize>`);
the string literals of the Lean reply parser and DIMACS renderer are exactly these -/
theorem exchange_tokens_are_the_source :
    Gen.statusLines = [IO.strOf "s SATISFIABLE", IO.strOf "s UNSATISFIABLE"] ∧
    Gen.valuePrefix = IO.strOf "v " ∧ Gen.commentPrefix = IO.strOf "c " ∧
    Gen.bareLines = [IO.strOf "c", IO.strOf "v"] ∧ Gen.dimacsHeaderPrefix = IO.strOf "p cnf " := by
  rw [Sat.strOf_sSat, Sat.strOf_sUnsat, Sat.strOf_v_sp, Sat.strOf_c_sp, Sat.strOf_c, Sat.strOf_v, Sat.strOf_p_cnf]
  exact ⟨rfl, rfl, rfl, rfl, rfl⟩

end Crusta.C16
