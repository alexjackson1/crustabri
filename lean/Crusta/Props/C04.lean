import Crusta.Proofs.Oracle
import Crusta.Proofs.StaticAll

/-! # C04 — certificates (property theorems) -/

namespace Crusta.C04
open Crusta

/-- credulous, certificate requested: the judge accepts exactly (YES + a duplicate-free extension
containing a queried argument) or (NO + no certificate), and only with the right status -/
theorem dc_cert_judge_exact (af : AF) (hwf : af.WF) (σ : Sem) (as : List Nat) (st : Bool)
    (c : Option (List Nat)) :
    checkAnswer af ⟨σ, .DC, true, as⟩ (.acc st (some c)) = .ok () ↔
      (st = true ↔ ∃ S, σ.Ext af S ∧ ∃ a ∈ as, S a = true) ∧
      match c with
      | none => st = false
      | some e => st = true ∧ e.Nodup ∧ σ.Ext af (ofList e) ∧ ∃ a ∈ as, a ∈ e := by
  rw [checkAnswer_iff af hwf]
  cases c <;> exact and_congr_right' (and_iff_right rfl)

/-- skeptical, certificate requested: (NO + an extension omitting every queried argument) or
(YES + no certificate) -/
theorem ds_cert_judge_exact (af : AF) (hwf : af.WF) (σ : Sem) (as : List Nat) (st : Bool)
    (c : Option (List Nat)) :
    checkAnswer af ⟨σ, .DS, true, as⟩ (.acc st (some c)) = .ok () ↔
      (st = true ↔ ∀ S, σ.Ext af S → ∃ a ∈ as, S a = true) ∧
      match c with
      | none => st = true
      | some e => st = false ∧ e.Nodup ∧ σ.Ext af (ofList e) ∧ ¬ ∃ a ∈ as, a ∈ e := by
  rw [checkAnswer_iff af hwf]
  cases c <;> simp only [Conforms, CertConforms, Bool.not_eq_eq_eq_not, Bool.not_true, Bool.not_false, true_and]

/-- the certificate-less entry points must not produce a certificate slot -/
theorem no_cert_slot (af : AF) (q : Query) (st : Bool) (c : Option (List Nat))
    (hq : q.cert = false) (ht : q.task ≠ .SE) :
    checkAnswer af q (.acc st (some c)) ≠ .ok () := by
  obtain ⟨σ, task, cert, args⟩ := q
  cases hq
  -- whatever the status test says, a certificate slot without the flag is an error
  have err : ∀ (b : Bool) (s1 s2 : String),
      (if b = true then Except.error s1 else Except.error s2 : Except String Unit) ≠ .ok () :=
    fun b _ _ => by cases b <;> nofun
  cases task
  · exact absurd rfl ht
  · exact err _ _ _
  · exact err _ _ _


/-- **C04 on the solver programs**: the certificates of the `_with_certificate` entry points —
credulous YES comes with an extension containing a queried argument, skeptical NO with an extension
containing none; credulous NO and skeptical YES come with no certificate; the certificate-less
entry points return none -/
theorem certificates_witness (sk : SolverKind) (cfg : Cfg) (hcfg : CfgOK sk cfg) (v : FwView) (g : G) (hv : v.Ok g)
    (cert : Bool) (args : List Nat) (hargs : ∀ a ∈ args, g.live a = true) (w : World) (hb : w.Bounded)
    (rs : List Reply) (a : AccAns) (cv : Bool) (w' : World) :
    (∀ p, entryProg sk cfg v (.dc cert args) = some p → RunSound p rs w → interp p rs w = (.done (.acc a cv), w') →
      (cert = false → a.cert = none) ∧
      (cert = true → (a.status = true → ∃ e, a.cert = some e ∧ sk.sem.GExt g (ofList e) ∧ HitsL args (ofList e)) ∧
                     (a.status = false → a.cert = none))) ∧
    (∀ p, entryProg sk cfg v (.ds cert args) = some p → RunSound p rs w → interp p rs w = (.done (.acc a cv), w') →
      (cert = false → a.cert = none) ∧
      (cert = true → (a.status = false → ∃ e, a.cert = some e ∧ sk.sem.GExt g (ofList e) ∧ ¬ HitsL args (ofList e)) ∧
                     (a.status = true → a.cert = none))) := by
  constructor
  · intro p hp hs hrun
    obtain ⟨_, hdc, hnc⟩ := static_answers_conform sk cfg hcfg v g hv (.dc cert args) hargs p hp w hb rs hs _ w' hrun
    exact ⟨hnc, fun hc => ⟨fun hst => (hdc.1 hst).2 hc, fun hst => (hdc.2 hst).2 hc⟩⟩
  · intro p hp hs hrun
    obtain ⟨_, hds, hnc⟩ := static_answers_conform sk cfg hcfg v g hv (.ds cert args) hargs p hp w hb rs hs _ w' hrun
    exact ⟨hnc, fun hc => ⟨fun hst => (hds.2 hst).2 hc, fun hst => (hds.1 hst).2 hc⟩⟩

end Crusta.C04
