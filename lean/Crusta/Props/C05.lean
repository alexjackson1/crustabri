import Crusta.Model.Cli
import Crusta.Gen.Problem
import Crusta.Gen.Dispatch
import Crusta.Gen.Wrapper
import Crusta.Proofs.CliCompose
import Crusta.Proofs.CliFile
import Crusta.Proofs.CliApx
import Crusta.Proofs.CliOut

/-!
# C05 — the command-line tools print exactly the right answer, or none (property theorems)

In this order: the grammar of problem strings (lemmas on `lower`, `splitHyphen`, `semOf`,
`Cli.queryOf`, serving `read_lower`, `problem_parse_iff`, `grammar_is_the_source`); the composition
theorems of `CliCompose` / `CliFile` / `CliApx` restated as properties; the three ties to the source
(`grammar_is_the_source`, `dispatch_is_the_source` with the interpreter `lookupEnc` of the generated
table, `wrapper_is_the_source`); what is printed on stdout (`CliOut`).
-/

namespace Crusta.C05
open Crusta Crusta.Cli

theorem problems_21 : problemStrings.length = 21 ∧ problemsLower.length = 21 := by decide +kernel

theorem lowerChar_idem (c : Nat) : lowerChar (lowerChar c) = lowerChar c := by
  by_cases h : 65 ≤ c ∧ c ≤ 90
  · rw [lowerChar, lowerChar, if_pos h, if_neg (by omega)]
  · rw [lowerChar, lowerChar, if_neg h, if_neg h]

theorem lower_idem (s : Str) : lower (lower s) = lower s := by
  simp only [lower, List.map_map, Function.comp_def, lowerChar_idem]

theorem lowerChar_hyphen (c : Nat) : lowerChar c = 45 ↔ c = 45 := by
  by_cases h : 65 ≤ c ∧ c ≤ 90
  · rw [lowerChar, if_pos h]; omega
  · rw [lowerChar, if_neg h]

theorem splitHyphen_lower (s : Str) :
    splitHyphen (lower s) = (splitHyphen s).map (fun p => (lower p.1, lower p.2)) := by
  induction s with
  | nil => rfl
  | cons c cs ih =>
    simp only [lower, List.map_cons, splitHyphen, lowerChar_hyphen]
    split
    · rfl
    · rw [← lower, ih, Option.map_map, Option.map_map]; rfl

theorem queryOf_lower (s : Str) : Cli.queryOf (lower s) = Cli.queryOf s := by
  unfold Cli.queryOf; rw [lower_idem]

theorem semOf_lower (s : Str) : semOf (lower s) = semOf s := by
  unfold semOf; rw [lower_idem]

theorem splitHyphen_join (q sem : Str) (hq : ∀ c ∈ q, c ≠ 45) :
    splitHyphen (q ++ [45] ++ sem) = some (q, sem) := by
  induction q with
  | nil => rfl
  | cons c cs ih =>
    have hc : c ≠ 45 := hq c List.mem_cons_self
    simp only [List.cons_append, splitHyphen, if_neg hc, ih fun d hd => hq d (List.mem_cons_of_mem _ hd)]
    rfl

theorem splitHyphen_eq {s q sem : Str} (h : splitHyphen s = some (q, sem)) : s = q ++ 45 :: sem := by
  induction s generalizing q with
  | nil => cases h
  | cons c cs ih =>
    unfold splitHyphen at h
    by_cases hc : c = 45
    · rw [if_pos hc] at h
      cases h; rw [hc]; rfl
    · rw [if_neg hc] at h
      obtain ⟨⟨q', s'⟩, hp, he⟩ := Option.map_eq_some_iff.1 h
      cases he
      rw [ih hp]; rfl

theorem find_cons_decide {α} {p : α → Prop} [DecidablePred p] (a : α) (as : List α) :
    (a :: as).find? (fun x => decide (p x)) = if p a then some a else as.find? (fun x => decide (p x)) := by
  by_cases h : p a
  · rw [if_pos h, List.find?_cons_of_pos (by simpa using h)]
  · rw [if_neg h, List.find?_cons_of_neg (by simpa using h)]

/-- `Semantics::try_from` tries the arms in declaration order -/
theorem semOf_eq_find (s : Str) : semOf s = allSems.find? (fun σ => lower s = semLower σ) := by
  simp only [allSems, find_cons_decide, List.find?_nil]
  rfl

theorem queryOf_eq_find (s : Str) : Cli.queryOf s = allTasks.find? (fun t => lower s = taskLower t) := by
  simp only [allTasks, find_cons_decide, List.find?_nil]
  rfl

theorem mem_allSems (σ : Sem) : σ ∈ allSems := by cases σ <;> decide
theorem mem_allTasks (t : Task) : t ∈ allTasks := by cases t <;> decide

theorem semOf_eq_some {s : Str} {σ : Sem} : semOf s = some σ ↔ lower s = semLower σ := by
  rw [semOf_eq_find]
  refine ⟨fun h => by simpa using List.find?_some h, fun h => ?_⟩
  rw [h]
  cases σ <;> rfl

theorem queryOf_eq_some {s : Str} {t : Task} : Cli.queryOf s = some t ↔ lower s = taskLower t := by
  rw [queryOf_eq_find]
  refine ⟨fun h => by simpa using List.find?_some h, fun h => ?_⟩
  rw [h]
  cases t <;> rfl

theorem taskLower_no_hyphen (t : Task) : ∀ c ∈ taskLower t, c ≠ 45 := by cases t <;> decide

theorem readProblem_eq_some {s : Str} {t : Task} {σ : Sem} :
    readProblem s = some (t, σ) ↔ lower s = taskLower t ++ [45] ++ semLower σ := by
  unfold readProblem
  constructor
  · intro h
    split at h
    · cases h
    · rename_i q sem hs
      split at h
      · rename_i t' σ' hq hm
        cases h
        rw [splitHyphen_eq hs, ← queryOf_eq_some.1 hq, ← semOf_eq_some.1 hm]
        simp only [lower, List.map_append, List.map_cons, List.append_assoc, List.cons_append, List.nil_append]
        rfl
      · cases h
  · intro h
    have hs := splitHyphen_lower s
    rw [h, splitHyphen_join _ _ (taskLower_no_hyphen t)] at hs
    obtain ⟨⟨q, sem⟩, hp, he⟩ := Option.map_eq_some_iff.1 hs.symm
    obtain ⟨hq, hm⟩ := Prod.mk.inj he
    simp only [hp, queryOf_eq_some.2 hq, semOf_eq_some.2 hm]

/-- **case-insensitive**: a problem string and its ASCII-lowercase form are parsed identically -/
theorem read_lower (s : Str) : readProblem (lower s) = readProblem s :=
  Option.ext fun (t, σ) => by rw [readProblem_eq_some, readProblem_eq_some, lower_idem]

/-- **the problems accepted are exactly the 21 listed ones, case-insensitively**: a string is
accepted iff its ASCII-lowercase form is one of the 21 `query-semantics` strings -/
theorem problem_parse_iff (s : Str) : (readProblem s).isSome = true ↔ lower s ∈ problemsLower := by
  simp only [Option.isSome_iff_exists, Prod.exists, readProblem_eq_some, problemsLower, List.mem_flatMap, List.mem_map]
  exact ⟨fun ⟨t, σ, h⟩ => ⟨σ, mem_allSems σ, t, mem_allTasks t, h.symm⟩, fun ⟨σ, _, t, _, h⟩ => ⟨t, σ, h.symm⟩⟩

/-- every listed problem is routed to a solver that implements the requested query (the `match` is
`entryOf t cert args` written out) -/
theorem dispatch_total (t : Task) (σ : Sem) (cfg : Cfg) (v : FwView) (cert : Bool) (args : List Nat) :
    (entryProg (dispatchSolver t σ) cfg v
      (match t with | .SE => .se | .DC => .dc cert args | .DS => .ds cert args)).isSome = true := by
  have h := cli_dispatch_total t σ cfg v cert args
  rw [entryOf_eq] at h
  exact Option.isSome_iff_exists.2 h

/-- the witnesses the CLI may print for a problem are extensions under the queried semantics,
complete extensions for DC-PR (a sufficient witness: every complete extension is in a preferred one) -/
theorem witness_semantics (t : Task) (σ : Sem) :
    witnessSem t σ = σ ∨ (t = .DC ∧ σ = .PR ∧ witnessSem t σ = .CO) := by
  unfold witnessSem
  split
  · exact .inr ⟨rfl, rfl, rfl⟩
  · exact .inl rfl

/-- the ICCMA'23 wrapper turns every solve invocation into `solve <args> --logging-level off
--with-certificate --reader iccma23`, and the two special invocations into `authors` / `problems` -/
theorem wrapper_translate (args : List String) :
    (args = [] → wrapperArgs args = ["authors", "--logging-level", "off"]) ∧
    (args = ["--problems"] → wrapperArgs args = ["problems", "--logging-level", "off"]) ∧
    (args ≠ [] → args ≠ ["--problems"] →
      wrapperArgs args = ["solve"] ++ args ++ ["--logging-level", "off", "--with-certificate", "--reader", "iccma23"]) := by
  unfold wrapperArgs
  refine ⟨fun h => ?_, fun h => ?_, fun h1 h2 => ?_⟩
  · rw [h]; rfl
  · rw [h, if_pos (beq_self_eq_true _)]; rfl
  · rw [if_neg (mt List.isEmpty_iff.1 h1), if_neg (mt eq_of_beq h2)]

/-- **the composition theorem** (`Cli.cli_answer_valid_read`).  For every string the problem parser accepts
(any letter case) with the problem `t-σ` it denotes, every value of `--encoding` (`enc`; the branch
taken for the literal string `SE-PR` is computed from the string as the code does), every view
presenting a graph `g` (so: every readable instance file, by C13/C01 `views_present_their_graph`),
certificate flag and queried argument of `g`: the solver program the command line dispatches to
exists, reaches no crash node on sound SAT replies (with the fuel the model gives its loops at least
`fuelFor`), and returns what the *problem* asks for (`ProblemOK`): an extension under `σ` or "none"
only if there is none; the credulous / skeptical status under `σ`, with a witness under
`witnessSem t σ` (a complete extension for DC-PR, which extends to a preferred one:
`dc_pr_witness_extends`).  This covers the places where the dispatched solver is not the one of
the problem's semantics: SE-CO / DS-CO through the grounded solver, DC-PR through the complete
solver, SE-PR through the preferred solver over the *admissibility* encoder. -/
theorem cli_answer_valid (s : Str) (t : Task) (σ : Sem) (hread : readProblem s = some (t, σ))
    (enc : Option String) (cfg : Cfg)
    (henc : ∀ k, dispatchEncoder σ enc (decide (s = s_SEPR)) = some k → cfg.enc = k)
    (v : FwView) (g : G) (hv : v.Ok g) (cert : Bool) (args : List Nat)
    (hargs : ∀ a, a ∈ (entryOf t cert args).argsList → g.live a = true)
    (w : World) (hb : w.Bounded) (hfuel : cfg.fuel ≥ fuelFor (1 + v.maxId.getD 0)) :
    ∃ p, entryProg (dispatchSolver t σ) cfg v (entryOf t cert args) = some p ∧
      wp False p w (fun ans _ => ProblemOK t σ g (entryOf t cert args) ans) :=
  cli_answer_valid_read s t σ hread enc cfg henc v g hv cert args hargs w hb hfuel

/-- the same on interpreter runs: every run on sound replies returns an answer the problem asks for,
or aborts on an `unknown` reply (no answer is printed: C17), or the reply list was too short; it
never panics -/
theorem cli_runs (s : Str) (t : Task) (σ : Sem) (hread : readProblem s = some (t, σ))
    (enc : Option String) (cfg : Cfg)
    (henc : ∀ k, dispatchEncoder σ enc (decide (s = s_SEPR)) = some k → cfg.enc = k)
    (v : FwView) (g : G) (hv : v.Ok g) (cert : Bool) (args : List Nat)
    (hargs : ∀ a, a ∈ (entryOf t cert args).argsList → g.live a = true)
    (p : Prog Ans) (hp : entryProg (dispatchSolver t σ) cfg v (entryOf t cert args) = some p)
    (w : World) (hb : w.Bounded) (hfuel : cfg.fuel ≥ fuelFor (1 + v.maxId.getD 0))
    (rs : List Reply) (hs : RunSound p rs w) :
    (∀ msg w', interp p rs w ≠ (.crashed msg, w')) ∧
    ((∃ ans w', interp p rs w = (.done ans, w') ∧ ProblemOK t σ g (entryOf t cert args) ans) ∨
     (∃ w', interp p rs w = (.abort, w')) ∨ (∃ w', interp p rs w = (.starved, w'))) :=
  ⟨cli_never_panics t σ enc _ (literal_guard s t σ hread) cfg henc v g hv cert args hargs p hp w hb hfuel rs hs,
   cli_run_total t σ enc _ (literal_guard s t σ hread) cfg henc v g hv cert args hargs p hp w hb hfuel rs hs⟩

/-- what `ProblemOK` is: the conformance relation of the problem's own semantics (`EntryOK σ`, the
one C01–C04 are stated with) for every problem except DC-PR, whose witness is a complete extension -/
theorem problem_spec (t : Task) (σ : Sem) (h : ¬ (t = .DC ∧ σ = .PR)) (g : G) (cert : Bool)
    (args : List Nat) (ans : Ans) :
    ProblemOK t σ g (entryOf t cert args) ans ↔ EntryOK σ g (entryOf t cert args) ans := by
  cases t with
  | SE => cases ans <;> exact Iff.rfl
  | DS => cases ans <;> exact Iff.rfl
  | DC =>
    cases ans with
    | ext res => exact Iff.rfl
    | acc a cv =>
      cases σ with
      | PR => exact absurd ⟨rfl, rfl⟩ h
      | _ => exact Iff.rfl

/-- a DC-PR witness (a complete extension containing the argument) extends to a preferred extension
containing it -/
theorem dc_pr_witness_extends {g : G} (hfin : ∃ n, ∀ a, g.live a = true → a < n) {args : List Nat}
    {e : List Nat} (he : Sem.GExt (witnessSem .DC .PR) g (ofList e)) (hh : HitsL args (ofList e)) :
    ∃ P, Sem.GExt .PR g P ∧ SubsetS (ofList e) P ∧ HitsL args P := by
  have he' : g.Complete (ofList e) := he
  obtain ⟨P, hP, hSP⟩ := g.exists_preferred_above hfin _ he'.1
  exact ⟨P, hP, hSP, hitsL_mono hSP hh⟩

/-- the encoder the command line selects is admissible for the solver and entry point it dispatches
to, for every problem and every value of `--encoding` -/
theorem dispatched_encoder_admissible (t : Task) (σ : Sem) (enc : Option String) (literal : Bool)
    (hlit : literal = true → t = .SE ∧ σ = .PR) (cfg : Cfg)
    (henc : ∀ k, dispatchEncoder σ enc literal = some k → cfg.enc = k) (cert : Bool) (args : List Nat) :
    CliCfgOK (dispatchSolver t σ) (entryOf t cert args) cfg :=
  cli_dispatch_cfg_ok t σ enc literal hlit cfg henc cert args

/-- non-vacuity: `SE-PR` with the default encoding reaches the admissibility branch, `se-pr` does not -/
example : dispatchEncoder .PR none (decide (s_SEPR = s_SEPR)) = some .auxADM ∧
    dispatchEncoder .PR none (decide (lower s_SEPR = s_SEPR)) = some .auxCO := by decide

/-- **from the bytes of the instance file to the answer** (ICCMA'23 format, the one the wrapper
forces): for every byte sequence the reader accepts, the store it builds presents exactly the
declared graph (arguments `0..n-1`, the declared attacks, repeated lines included), and for every
accepted problem string, `--encoding` value, certificate flag and `-a` string accepted by the
reader's argument look-up, the dispatched solver program exists, never panics on sound replies and
returns what the problem asks for on that graph -/
theorem cli_on_readable_file (bs : List UInt8) (fw : IO.IccmaFw) (hfile : IO.readIccma bs = .ok fw)
    (s : Str) (t : Task) (σ : Sem) (hread : readProblem s = some (t, σ))
    (enc : Option String) (cfg : Cfg)
    (henc : ∀ k, dispatchEncoder σ enc (decide (s = s_SEPR)) = some k → cfg.enc = k)
    (cert : Bool) (argStr : Str) (a : Nat) (harg : t ≠ .SE → IO.iccmaArgOfStr fw.n argStr = some a)
    (w : World) (hb : w.Bounded)
    (hfuel : cfg.fuel ≥ fuelFor (1 + (Store.ofIccma fw.n fw.atts).view.maxId.getD 0)) :
    (∀ x, (Store.ofIccma fw.n fw.atts).g.live x = true ↔ x < fw.n) ∧
    (∀ x y, (Store.ofIccma fw.n fw.atts).g.att x y ↔ (x, y) ∈ fw.atts) ∧
    ∃ p, entryProg (dispatchSolver t σ) cfg (Store.ofIccma fw.n fw.atts).view (entryOf t cert [a]) = some p ∧
      wp False p w (fun ans _ => ProblemOK t σ (Store.ofIccma fw.n fw.atts).g (entryOf t cert [a]) ans) :=
  cli_on_iccma_file bs fw hfile s t σ hread enc cfg henc cert argStr a harg w hb hfuel

/-- **the same for the Aspartix format**: for every byte sequence the Aspartix reader accepts, the
framework it builds (arguments in declaration order, duplicates dropped; one `new_attack` per attack
line, repeated lines having no effect) presents exactly the declared graph, and for every accepted
problem string, `--encoding` value, certificate flag and `-a` label that is declared in the file, the
dispatched solver program exists, never panics on sound replies and returns what the problem asks for -/
theorem cli_on_readable_apx_file (bs : List UInt8) (fw : IO.ApxFw) (hfile : IO.readApx bs = .ok fw)
    (s : Str) (t : Task) (σ : Sem) (hread : readProblem s = some (t, σ))
    (enc : Option String) (cfg : Cfg)
    (henc : ∀ k, dispatchEncoder σ enc (decide (s = s_SEPR)) = some k → cfg.enc = k)
    (cert : Bool) (argStr : Str) (a : Nat) (harg : t ≠ .SE → IO.idxOf fw.labels argStr = some a)
    (w : World) (hb : w.Bounded)
    (hfuel : cfg.fuel ≥ fuelFor (1 + (apxStore fw).view.maxId.getD 0)) :
    (∀ x, (apxStore fw).g.live x = true ↔ x < fw.labels.length) ∧
    (∀ x y, (apxStore fw).g.att x y ↔ (x, y) ∈ fw.atts) ∧
    ∃ p, entryProg (dispatchSolver t σ) cfg (apxStore fw).view (entryOf t cert [a]) = some p ∧
      wp False p w (fun ans _ => ProblemOK t σ (apxStore fw).g (entryOf t cert [a]) ans) :=
  cli_on_apx_file bs fw hfile s t σ hread enc cfg henc cert argStr a harg w hb hfuel

theorem semName_inj : ∀ σ ∈ allSems, ∀ τ ∈ allSems, semName σ = semName τ → σ = τ := by decide +kernel

theorem taskName_inj : ∀ t ∈ allTasks, ∀ u ∈ allTasks, taskName t = taskName u → t = u := by decide +kernel

/-- **the grammar is the one in the source**: the tables below are regenerated from
`src/aa/problem.rs` on every run (`tools/gen_from_source.py`: variants of the two enums in
declaration order, match arms of the two `TryFrom<&str>` implementations, which must still compare
the ASCII-lowercased string, and `read_problem_string` must still split at the first hyphen); the
Lean grammar the theorems above are about has exactly these variants, in this order, and exactly
these spellings — a problem added, removed, renamed or re-spelled in the source breaks this theorem -/
theorem grammar_is_the_source :
    allSems.map semName = Gen.semanticsVariants ∧ allTasks.map taskName = Gen.queryVariants ∧
    allSems.map (fun σ => (semLower σ, semName σ)) = Gen.semanticsArms ∧
    allTasks.map (fun t => (taskLower t, taskName t)) = Gen.queryArms ∧
    (∀ s σ, semOf s = some σ ↔ (lower s, semName σ) ∈ Gen.semanticsArms) ∧
    (∀ s t, Cli.queryOf s = some t ↔ (lower s, taskName t) ∈ Gen.queryArms) := by
  refine ⟨rfl, rfl, rfl, rfl, fun s σ => ?_, fun s t => ?_⟩
  · rw [semOf_eq_some]
    -- `Gen.semanticsArms` is that list by evaluation (the third conjunct)
    show _ ↔ _ ∈ allSems.map fun σ => (semLower σ, semName σ)
    refine ⟨fun h => List.mem_map.2 ⟨σ, mem_allSems σ, by rw [h]⟩, fun h => ?_⟩
    obtain ⟨τ, hτ, e⟩ := List.mem_map.1 h
    obtain ⟨e1, e2⟩ := Prod.mk.inj e
    rw [← e1, semName_inj τ hτ σ (mem_allSems σ) e2]
  · rw [queryOf_eq_some]
    show _ ↔ _ ∈ allTasks.map fun t => (taskLower t, taskName t)
    refine ⟨fun h => List.mem_map.2 ⟨t, mem_allTasks t, by rw [h]⟩, fun h => ?_⟩
    obtain ⟨u, hu, e⟩ := List.mem_map.1 h
    obtain ⟨e1, e2⟩ := Prod.mk.inj e
    rw [← e1, taskName_inj u hu t (mem_allTasks t) e2]

def kindName : SolverKind → String
  | .GR => "GR" | .CO => "CO" | .PR => "PR" | .ST => "ST" | .SST => "SST" | .STG => "STG" | .ID => "ID"

def encOfName : String → Option EncKind
  | "auxCF" => some .auxCF | "auxADM" => some .auxADM | "auxCO" => some .auxCO
  | "expCF" => some .expCF | "expCO" => some .expCO | "hyb" => some .hyb | _ => none

/-- does an arm of `create_encoder` apply? (`[]` = the wildcard arm; a guard needs the literal problem string) -/
def rowApplies (r : List String × String × String × String × String) (σ : Sem) (literal : Bool) : Bool :=
  (r.1.isEmpty || r.1.contains (semName σ)) && (r.2.1 == "" || literal)

/-- interpretation of the generated table as Rust evaluates the nested `match`; a row is (semantics of the
arm, guard, default `--encoding`, `--encoding` value, encoder), see `Gen.encoderTable` -/
def lookupEnc (tbl : List (List String × String × String × String × String)) (σ : Sem) (enc : Option String)
    (literal : Bool) : Option (Option EncKind) :=
  match tbl.find? (fun r => rowApplies r σ literal) with
  | none => none
  | some r0 =>
    if r0.2.2.2.2 == "none" then some none
    else
      let v := enc.getD r0.2.2.1
      match tbl.find? (fun r => r.1 == r0.1 && r.2.1 == r0.2.1 && r.2.2.2.1 == v) with
      | some r => (encOfName r.2.2.2.2).map some
      | none => none

/-- **the dispatch tables are those of the source**: which solver type answers each of the 21
problems (the three `match semantics` of `compute_one_extension`, `check_credulous_acceptance`,
`check_skeptical_acceptance`) and which encoder `create_encoder` selects for every semantics, every
`--encoding` value and the literal `SE-PR` guard are regenerated from `src/app/solve_command.rs` on
every run; the Lean `dispatchSolver` / `dispatchEncoder` — the functions `cli_answer_valid` is
about — agree with these tables on every problem and every option value -/
theorem dispatch_is_the_source :
    (∀ t σ, (taskName t, semName σ, kindName (dispatchSolver t σ)) ∈ Gen.dispatchTable) ∧
    Gen.dispatchTable.length = 21 ∧
    (∀ σ (enc : Option String) (literal : Bool), (literal = true → σ = .PR) →
      enc ∈ [none, some "aux_var", some "exp", some "hybrid"] →
      lookupEnc Gen.encoderTable σ enc literal = some (dispatchEncoder σ enc literal)) := by
  have solver : ∀ t ∈ allTasks, ∀ σ ∈ allSems,
      (taskName t, semName σ, kindName (dispatchSolver t σ)) ∈ Gen.dispatchTable := by decide +kernel
  have encoder : ∀ σ ∈ allSems, ∀ enc ∈ [none, some "aux_var", some "exp", some "hybrid"], ∀ literal : Bool,
      (literal = true → σ = .PR) →
      lookupEnc Gen.encoderTable σ enc literal = some (dispatchEncoder σ enc literal) := by decide +kernel
  exact ⟨fun t σ => solver t (mem_allTasks t) σ (mem_allSems σ), rfl,
    fun σ enc literal hl henc => encoder σ (mem_allSems σ) enc henc literal hl⟩

/-- **the wrapper's argument translation is the one in the source** (`main_iccma23.rs`, regenerated
on every run: the common arguments, the special `--problems` invocation, the three sub-commands and
the arguments appended to a solve invocation, with the order of the `chain` calls checked by the generator) -/
theorem wrapper_is_the_source (args : List String) :
    ∃ a p s, Gen.wrapperSubcommands = [a, p, s] ∧
      wrapperArgs args =
        (if args.isEmpty then a :: Gen.wrapperCommonArgs
         else if args == Gen.wrapperSpecialInvocation then p :: Gen.wrapperCommonArgs
         else [s] ++ args ++ Gen.wrapperCommonArgs ++ Gen.wrapperSolveTail) := by
  refine ⟨_, _, _, rfl, ?_⟩
  unfold wrapperArgs
  rw [List.append_assoc ([_] ++ args)]
  rfl

/-! ### the text on stdout

`stdoutIccma` / `stdoutApx` (`Model/CliOut.lean`) are the bytes `execute_with_reader_and_writer` prints
for an answer (status line, extension line of the writer); `parseStdoutIccma` / `parseStdoutApx` are
what a reader of that text sees (`Shown`: status and printed set as argument ids), and `ShownOK` says,
in terms of the shown text and the declared graph only, what the property promises.  The model's
stdout bytes are compared with the real binary's on every run (cli family). -/

/-- **from the bytes of the file to the bytes on stdout (ICCMA format)**: for every accepted file,
problem string, `--encoding` value, certificate flag and argument, on sound SAT replies the run does
not panic, and what it prints parses to a status / set that is right for the declared graph: SE — `NO`
only if no extension exists, otherwise an extension listed without repetition; DC / DS — the status
is the truth, a set is printed exactly when a certificate was requested and the status is YES (DC) /
NO (DS), and it is an extension (for DC-PR a complete one) containing / omitting the argument -/
theorem cli_stdout_on_readable_file (bs : List UInt8) (fw : IO.IccmaFw) (hfile : IO.readIccma bs = .ok fw)
    (s : Str) (t : Task) (σ : Sem) (hread : readProblem s = some (t, σ))
    (enc : Option String) (cfg : Cfg)
    (henc : ∀ k, dispatchEncoder σ enc (decide (s = s_SEPR)) = some k → cfg.enc = k)
    (cert : Bool) (argStr : Str) (a : Nat) (harg : t ≠ .SE → IO.iccmaArgOfStr fw.n argStr = some a)
    (w : World) (hb : w.Bounded)
    (hfuel : cfg.fuel ≥ fuelFor (1 + (Store.ofIccma fw.n fw.atts).view.maxId.getD 0)) :
    ∃ p, entryProg (dispatchSolver t σ) cfg (Store.ofIccma fw.n fw.atts).view (entryOf t cert [a]) = some p ∧
      wp False p w (fun ans _ => ∃ sh, parseStdoutIccma t (stdoutIccma ans) = some sh ∧
        ShownOK t σ (Store.ofIccma fw.n fw.atts).g cert a sh) :=
  Cli.cli_stdout_on_readable_file bs fw hfile s t σ hread enc cfg henc cert argStr a harg w hb hfuel

/-- the same for the Aspartix format (labels of the file instead of numbers) -/
theorem cli_stdout_on_readable_apx_file (bs : List UInt8) (fw : IO.ApxFw) (hfile : IO.readApx bs = .ok fw)
    (s : Str) (t : Task) (σ : Sem) (hread : readProblem s = some (t, σ))
    (enc : Option String) (cfg : Cfg)
    (henc : ∀ k, dispatchEncoder σ enc (decide (s = s_SEPR)) = some k → cfg.enc = k)
    (cert : Bool) (argStr : Str) (a : Nat) (harg : t ≠ .SE → IO.idxOf fw.labels argStr = some a)
    (w : World) (hb : w.Bounded)
    (hfuel : cfg.fuel ≥ fuelFor (1 + (apxStore fw).view.maxId.getD 0)) :
    ∃ p, entryProg (dispatchSolver t σ) cfg (apxStore fw).view (entryOf t cert [a]) = some p ∧
      wp False p w (fun ans _ => ∃ sh, parseStdoutApx fw.labels t (stdoutApx fw.labels ans) = some sh ∧
        ShownOK t σ (apxStore fw).g cert a sh) :=
  Cli.cli_stdout_on_readable_apx_file bs fw hfile s t σ hread enc cfg henc cert argStr a harg w hb hfuel

/-- the printed text determines the answer: stdout of an answer of the right shape parses back to it -/
theorem stdout_parses_back (t : Task) (ans : Ans) (hs : shapeOk t ans = true) :
    parseStdoutIccma t (stdoutIccma ans) = some (shownOf ans) := parseStdoutIccma_stdoutIccma t ans hs

/-- two runs that both satisfy the promise show the same status, whatever the certificate flag -/
theorem shown_status_unique {t : Task} {σ : Sem} {g : G} {c1 c2 : Bool} {a : Nat} {sh1 sh2 : Shown}
    (h1 : ShownOK t σ g c1 a sh1) (h2 : ShownOK t σ g c2 a sh2) : sh1.status = sh2.status := by
  cases t with
  | SE => exact h1.1.trans h2.1.symm
  | DC => exact status_eq_of_shown h1.1 h1.2.1 h2.1 h2.2.1
  | DS => exact status_eq_of_shown h1.1 h1.2.1 h2.1 h2.2.1

end Crusta.C05
