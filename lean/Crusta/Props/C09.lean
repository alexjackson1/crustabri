import Crusta.Proofs.Oracle
import Crusta.Proofs.DynHistory
import Crusta.Proofs.DynTotal
import Crusta.Proofs.DynAttHistory
import Crusta.Proofs.DynAttTotal

/-!
# C09 — redundant or invalid updates never corrupt a dynamic solver (property theorems)

The model is `Crusta.Dyn` / `Crusta.DynAtt`, as for C08.  `update_call_contract` is proved for the buffered solvers of all three
semantics (the update path does not depend on the semantics); the statement about later answers
is `C08.dynamic_answers_for_current_framework` (complete, stable and preferred solvers), whose framework is
`runOps ops`: a history in which rejected or redundant updates have no effect.

`solver_stays_usable` / `preferred_solver_stays_usable` add that in every reachable state a supported
query about an existing argument **does not panic** (`Proofs/DynTotal.lean`): no `unwrap()` on a
missing variable, selector, label or cached id, no index out of bounds; for the preferred solver the
search loop terminates (the model's fuel, which the Rust loop does not have, is never exhausted when
it is at least `prFuel`, a bound on the number of iterations).
-/

namespace Crusta.C09
open Crusta Crusta.Dyn

/-- `checkAnswer`, which the harness runs on the answers that follow an update history, accepts exactly the
conforming answers (C02–C04) -/
theorem judge_is_exact (af : AF) (hwf : af.WF) (q : Query) (a : Answer) :
    checkAnswer af q a = .ok () ↔ Conforms af q a := checkAnswer_iff af hwf q a

/-- **the update calls.**  On every state satisfying the solver invariant: the call reports `ok`
or `err` exactly as the framework store does on the pending framework (C12 says when that is), never
panics; after an error the solver state is unchanged; an update that does not change the framework
(an argument or an attack that is already present) leaves the whole solver state unchanged; and
the invariant is kept, so the solver stays usable. -/
theorem update_call_contract {sem : DSem} {d : DState} {w : World} (h : QInv sem d w) (op : StoreOp) :
    QInv sem (d.update op).1 w ∧
    ((d.update op).2 = .ok ∧ d.pending.step op = .ok (d.update op).1.pending ∨
     (d.update op).2 = .err ∧ d.pending.step op = .err d.pending ∧ (d.update op).1 = d) ∧
    ((d.update op).1.pending = d.pending → (d.update op).1 = d) := update_preserves h op

/-- for every reachable state of the three solvers (complete, stable, preferred) the contract applies, and the
pending framework is the one obtained from the calls made so far with the rejected ones dropped -/
theorem reachable_states_keep_contract {sem : DSem} {fuel : Nat} {ops : List StoreOp}
    {d : DState} {w : World} (hreach : Reach sem fuel ops d w) (op : StoreOp) :
    Store.runOps Store.empty ops = some d.pending ∧
    Store.runOps Store.empty (ops ++ [op]) = some (d.update op).1.pending ∧
    ((d.update op).2 = .err → (d.update op).1 = d) := by
  obtain ⟨hq, _, hops⟩ := reach_inv hreach
  obtain ⟨_, _, hops'⟩ := reach_inv (Reach.update op hreach)
  refine ⟨hops, hops', ?_⟩
  intro herr
  rcases (update_preserves hq op).2.1 with ⟨hok, _⟩ | ⟨_, _, hd⟩
  · rw [hok] at herr; cases herr
  · exact hd

/-- **the solver stays usable** (complete and stable solvers).  In every state reachable from a fresh
solver by update calls — accepted, rejected or redundant — and by queries, a query the solver offers
(the complete solver has no skeptical query: `unimplemented!()`), about an argument of the current
framework, run on replies a correct SAT solver may give, never panics. -/
theorem solver_stays_usable {sem : DSem} (hsem : sem ≠ .PR) {fuel : Nat} {ops : List StoreOp}
    {d : DState} {w : World} (hreach : Reach sem fuel ops d w) (q : DQuery) (hq : sem = .CO → q = .cred)
    {l id : Nat} (hl : d.pending.Live id l) {fuel' : Nat} {rs : List Reply}
    (hs : RunSound (query fuel' d q l) rs w) :
    ∀ msg w', interp (query fuel' d q l) rs w ≠ (.crashed msg, w') := by
  have hsup := Supported.of_ne_pr hsem hq (st := d.pending) (fuel := fuel')
  exact wp_no_crash _ rs w _ (supported_query_total (reach_inv hreach).1 q hsup.1 hsup.2 hl) hs

/-- **the preferred solver stays usable.**  The same for the skeptical query of the preferred solver
(the only one it offers); the one hypothesis is about the model, not the code: the fuel given to the
model's search loop covers the bound `prFuel` on its number of iterations
(`3 * 2 ^ n + 2`, `n` the number of argument ids issued so far), so that the node "fuel exhausted" —
which does not exist in the Rust loop — is not reached. -/
theorem preferred_solver_stays_usable {fuel : Nat} {ops : List StoreOp}
    {d : DState} {w : World} (hreach : Reach .PR fuel ops d w)
    {l id : Nat} (hl : d.pending.Live id l) {fuel' : Nat} (hfuel : prFuel d.pending ≤ fuel') {rs : List Reply}
    (hs : RunSound (query fuel' d .skep l) rs w) :
    ∀ msg w', interp (query fuel' d .skep l) rs w ≠ (.crashed msg, w') := by
  exact wp_no_crash _ rs w _ (supported_query_total (reach_inv hreach).1 .skep trivial (fun _ => hfuel) hl) hs

/-- all three solvers at once, with the outcome spelled out: the run ends with the right answer in a
state that satisfies the invariant again (so the next call finds a usable solver), or the SAT solver
gave up (`unknown`), or the recorded reply list is too short — never with a panic -/
theorem usable_after_any_history {sem : DSem} {fuel : Nat} {ops : List StoreOp}
    {d : DState} {w : World} (hreach : Reach sem fuel ops d w) (q : DQuery) (hq : Supported sem q)
    {l id : Nat} (hl : d.pending.Live id l) {fuel' : Nat} (hfuel : FuelOK sem d.pending fuel') {rs : List Reply}
    (hs : RunSound (query fuel' d q l) rs w) :
    (∃ d' a w', interp (query fuel' d q l) rs w = (.done (d', a), w') ∧ QInv sem d' w' ∧
        d'.pending = d.pending ∧ AnswerOK sem d.pending q l a) ∨
    (∃ w', interp (query fuel' d q l) rs w = (.abort, w')) ∨
    (∃ w', interp (query fuel' d q l) rs w = (.starved, w')) := by
  exact supported_query_outcome (reach_inv hreach).1 q hq hfuel hl hs

/-- non-vacuity of the fuel hypothesis: after `A1; A2; +1>2` the bound is 14 iterations -/
example : ∃ d w, Reach .PR 100 [.newArg 1, .newArg 2, .newAtt 1 2] d w ∧ d.pending.Live 1 2 ∧
    prFuel d.pending = 14 ∧ FuelOK .PR d.pending 100 :=
  ⟨_, _, Reach.update (.newAtt 1 2) (Reach.update (.newArg 2) (Reach.update (.newArg 1) Reach.init)),
    by unfold Store.Live; decide, by decide, fun _ => by decide⟩

/-- which updates the store rejects: unknown argument to remove, unknown endpoint of an attack,
unknown attack to remove (from the store theorems of C12) -/
theorem store_rejects_exactly {s : Store} (hinv : s.Inv) :
    (∀ l, (∀ id, ¬ s.Live id l) → s.step (.remArg l) = .err s) ∧
    (∀ la lb, ((∀ a, ¬ s.Live a la) ∨ (∀ b, ¬ s.Live b lb)) → s.step (.newAtt la lb) = .err s) ∧
    (∀ la lb, ((∀ a, ¬ s.Live a la) ∨ (∀ b, ¬ s.Live b lb)) → s.step (.remAtt la lb) = .err s) ∧
    (∀ la lb a b, s.Live a la → s.Live b lb → ¬ s.HasAtt a b → s.step (.remAtt la lb) = .err s) :=
  ⟨fun l h => (Store.removeArgument_spec hinv l).2 h,
   fun la lb h => (Store.newAttack_spec hinv la lb).2 h,
   fun la lb h => (Store.removeAttack_spec hinv la lb).2 h,
   fun la lb a b ha hb hn => ((Store.removeAttack_spec hinv la lb).1 a b ha hb).2 hn⟩

/-- the update contract for the two assumptions-on-attacks solvers -/
theorem attack_assumption_update_contract {sem : DSem} {d : DynAtt.ADState} {w : World}
    (h : DynAtt.AQInv sem d w) (op : StoreOp) :
    DynAtt.AQInv sem (d.update op).1 w ∧
    ((d.update op).2 = .ok ∧ d.pending.step op = .ok (d.update op).1.pending ∨
     (d.update op).2 = .err ∧ d.pending.step op = .err d.pending ∧ (d.update op).1 = d) ∧
    ((d.update op).1.pending = d.pending → (d.update op).1 = d) := DynAtt.update_preserves h op

/-- **the attack-assumption solvers stay usable.**  In every state reachable from a fresh solver
(any reservation factor `num/den ≥ 1`) by update calls — accepted, rejected or redundant — and by
queries, a query the solver type offers (`AttSupported`: the complete variant has no skeptical query,
`unimplemented!()`), about an argument of the current framework, run on replies a correct SAT solver
may give, never panics (no `unwrap()` on a missing variable or label, no index out of bounds, no
underflow of `n_arg_vars - n_args`); the run ends with the right answer in a state satisfying the
invariant again, or the SAT solver gave up, or the recorded reply list is too short -/
theorem attack_assumption_solvers_stay_usable {sem : DSem} {num den : Nat} (hfac : 0 < den ∧ den ≤ num)
    {ops : List StoreOp} {d : DynAtt.ADState} {w : World} (h : DynAtt.Reach sem num den ops d w)
    (q : DQuery) (hq : DynAtt.AttSupported sem q) {l id : Nat} (hl : d.pending.Live id l)
    {rs : List Reply} (hs : RunSound (DynAtt.query d q l) rs w) :
    (∀ msg w', interp (DynAtt.query d q l) rs w ≠ (.crashed msg, w')) ∧
    ((∃ d' a w', interp (DynAtt.query d q l) rs w = (.done (d', a), w') ∧
        DynAtt.Reach sem num den ops d' w' ∧ DynAtt.AQInv sem d' w' ∧ d'.pending = d.pending ∧
        Store.runOps Store.empty ops = some d.pending ∧ AnswerOK sem d.pending q l a) ∨
     (∃ w', interp (DynAtt.query d q l) rs w = (.abort, w')) ∨
     (∃ w', interp (DynAtt.query d q l) rs w = (.starved, w'))) := by
  refine ⟨DynAtt.att_never_panics hfac h q hq hl hs, ?_⟩
  rcases DynAtt.att_run_total hfac h q hq hl hs with ⟨d', a, w', h1, h2, h3, _, h5, h6, h7⟩ | h | h
  · exact .inl ⟨d', a, w', h1, h2, h3, h5, h6, h7⟩
  · exact .inr (.inl h)
  · exact .inr (.inr h)

end Crusta.C09
