import Crusta.Proofs.Oracle
import Crusta.Proofs.DynHistory
import Crusta.Proofs.DynTotal
import Crusta.Proofs.StaticAll
import Crusta.Proofs.DynAttHistory

/-!
# C08 — dynamic solvers always answer for the current framework (property theorems)

The model is `Crusta.Dyn` (`Model/Dyn.lean`), replayed call by call against the implementation by
the `dyn` family of runs.  The theorems below are about every state reachable from a fresh
solver by any sequence of update calls and of queries (about arguments of the framework) that ran
to completion on replies a correct SAT solver may give (`RunSound`), with no bound on the length of
the history, the number of arguments or the number of SAT variables retired.

`dynamic_answers_for_current_framework` is proved for the three dynamic solvers: complete, stable
and preferred.  For the preferred solver the answer comes from its own search for maximal
extensions on the shared SAT solver (blocking clauses guarded by a selector that is retired after
the search); its soundness is `Dyn.wp_prSkepQuery` (`Proofs/DynPR.lean`): YES means that every
preferred extension of the current framework contains the argument, NO comes with a preferred
extension that does not, and the computation cached for later queries is a true statement.

`supported_queries_are_answered` adds totality (`Proofs/DynTotal.lean`): a supported query about an
existing argument never panics and, unless the SAT solver gives up, ends with that answer; the search
loop of the preferred solver terminates within `prFuel` iterations.
-/

namespace Crusta.C08
open Crusta Crusta.Dyn

/-- `checkAnswer` — which the harness runs on every answer of a dynamic solver, against the framework as it
stands at the moment of the query — accepts exactly the conforming answers (C02–C04) -/
theorem judge_is_exact (af : AF) (hwf : af.WF) (q : Query) (a : Answer) :
    checkAnswer af q a = .ok () ↔ Conforms af q a := checkAnswer_iff af hwf q a

/-- **C08 for the complete, stable and preferred dynamic solvers.**  After any history of update calls `ops`
and queries, a query about an argument of the framework, run on sound replies, returns the status
and the certificate the semantics dictate for the framework obtained by applying `ops` (rejected
updates having no effect) — whatever was asked, cached, buffered or retired before. -/
theorem dynamic_answers_for_current_framework {sem : DSem} {fuel : Nat}
    {ops : List StoreOp} {d : DState} {w : World} (hreach : Reach sem fuel ops d w)
    (q : DQuery) {l id : Nat} (hl : d.pending.Live id l) {rs : List Reply}
    (hs : RunSound (query fuel d q l) rs w) {d' : DState} {a : AccAns} {w' : World}
    (hrun : interp (query fuel d q l) rs w = (.done (d', a), w')) :
    Store.runOps Store.empty ops = some d.pending ∧ AnswerOK sem d.pending q l a := by
  obtain ⟨hq, _, hops⟩ := reach_inv hreach
  exact ⟨hops, (query_ok hq q hl hs hrun).2.2⟩

/-- **each supported query is answered.**  In every reachable state a query the solver offers
(`Supported`: credulous for the complete solver, both for the stable one, skeptical for the preferred
one), about an argument of the framework, on sound replies, does not panic: the run ends with an
answer — and then it is the right one for the framework obtained by applying `ops` — unless the SAT
solver replied `unknown` (the query is aborted) or the reply list is exhausted.  For the preferred
solver the fuel of the model's loop must cover `prFuel` (`FuelOK`), the proved bound on the number of
iterations of the search; the Rust loop has no fuel. -/
theorem supported_queries_are_answered {sem : DSem} {fuel : Nat}
    {ops : List StoreOp} {d : DState} {w : World} (hreach : Reach sem fuel ops d w)
    (q : DQuery) (hq : Supported sem q) {l id : Nat} (hl : d.pending.Live id l) {fuel' : Nat}
    (hfuel : FuelOK sem d.pending fuel') {rs : List Reply} (hs : RunSound (query fuel' d q l) rs w) :
    (∀ msg w', interp (query fuel' d q l) rs w ≠ (.crashed msg, w')) ∧
    ((∃ d' a w', interp (query fuel' d q l) rs w = (.done (d', a), w') ∧
        Store.runOps Store.empty ops = some d.pending ∧ AnswerOK sem d.pending q l a) ∨
     (∃ w', interp (query fuel' d q l) rs w = (.abort, w')) ∨
     (∃ w', interp (query fuel' d q l) rs w = (.starved, w'))) := by
  obtain ⟨hq', _, hops⟩ := reach_inv hreach
  refine ⟨wp_no_crash _ rs w _ (supported_query_total hq' q hq hfuel hl) hs, ?_⟩
  rcases supported_query_outcome hq' q hq hfuel hl hs with ⟨d', a, w', hrun, _, _, hans⟩ | hr
  · exact Or.inl ⟨d', a, w', hrun, hops, hans⟩
  · exact Or.inr hr

/-- what `AnswerOK` says, spelled out for a credulous query: YES comes with an extension of the
current framework that contains the argument, NO means that no extension contains it -/
theorem credulous_answer_meaning (sem : DSem) (st : Store) (l id : Nat) (a : AccAns)
    (h : AnswerOK sem st .cred l a) (hl : st.Live id l) :
    (a.status = true → ∃ e, a.cert = some e ∧ IsExt sem st.g (ofList e) ∧ id ∈ e) ∧
    (a.status = false → a.cert = none ∧ ∀ S, IsExt sem st.g S → S id = false) := h id hl

theorem skeptical_answer_meaning (sem : DSem) (st : Store) (l id : Nat) (a : AccAns)
    (h : AnswerOK sem st .skep l a) (hl : st.Live id l) :
    (a.status = true → a.cert = none ∧ ∀ S, IsExt sem st.g S → S id = true) ∧
    (a.status = false → ∃ e, a.cert = some e ∧ IsExt sem st.g (ofList e) ∧ id ∉ e) := h id hl

/-- the semantics used above are the textbook ones: on a compact framework they are the
definitions of the spec layer -/
theorem semantics_are_the_spec (af : AF) (S : ASet) :
    (af.g.Complete S ↔ Complete af S) ∧ (af.g.Stable S ↔ Stable af S) ∧ (af.g.Preferred S ↔ Preferred af S) :=
  ⟨AF.g_complete af S, AF.g_stable af S, AF.g_preferred af S⟩

/-- **re-encoding.**  Whatever updates are buffered, `update_encoding` leaves the solver's
framework equal to the pending one and a clause database in which no stale constraint is active
(`DInv.clean`: nothing dirty) — this is what makes retired selectors and removed arguments
harmless.  The statement holds for every reading `C` of the crash nodes of the model, in particular
for `C = False`: the replay of the buffer never panics (the buffered updates were validated against
the pending framework, so each replayed store operation succeeds, every live argument has a variable
and every selector to retire is among the assumptions). -/
theorem update_encoding_resynchronises {C : Prop} {sem : DSem} {d : DState} {w : World} (h : DInv sem d w) :
    wp C d.updateEncoding w (fun d' w' => DInv sem d' w' ∧ d'.af = d.pending ∧ d'.pending = d.pending ∧
      d'.buffer = d.buffer ∧ d'.next = d.buffer.length) := wp_updateEncoding h

/-- **soundness and completeness of the incremental encoding**: with nothing dirty, the
assignments satisfying the clause database under the current assumptions are exactly (on the
argument variables) the complete — resp. stable — extensions of the solver's framework -/
theorem incremental_encoding_exact {sem : DSem} {st : Store} {e : Enc} {Γ : Cnf} (hinv : st.Inv)
    (h : CleanEnc sem st e Γ) :
    (∀ ν : Asg, cnfTrue ν Γ = true → assumpsTrue ν e.assumptions = true → EncExt sem st.g (setOf st e ν)) ∧
    (∀ S : ASet, EncExt sem st.g S → ∃ ν : Asg, cnfTrue ν Γ = true ∧ assumpsTrue ν e.assumptions = true ∧
      ∀ i, st.hasId i = true → ν (e.xv i) = S i) :=
  ⟨fun _ hΓ hA => models_ext hinv h hΓ hA, fun _ hS => ext_model hinv h hS⟩

/-- a cached answer is only ever read from a computation that no update separates from the query -/
theorem cache_reads_are_after_last_update (evs : List Event) (l : Nat) (b : Bool) (e : List Nat) :
    (cachedCred evs l = (some b, some e) ∨ cachedSkep evs l = (some b, some e)) →
    ∃ c ∈ evs.takeWhile (fun ev => !ev.isUpdate), ∃ acc ref,
      (c = .cred acc ref (some e) ∨ c = .skep acc ref (some e)) := by
  rintro (h | h)
  · obtain ⟨_, c, hc, acc, ref, hcc, _⟩ := cachedCred_spec evs l b e h
    exact ⟨c, hc, acc, ref, hcc⟩
  · obtain ⟨_, c, hc, acc, ref, hcc, _⟩ := cachedSkep_spec evs l b e h
    exact ⟨c, hc, acc, ref, hcc⟩

/-- non-vacuity: a fresh solver is reachable and after `A1; A2; +1>2` the argument labelled 2 is an
argument of the pending framework -/
example : ∃ d w, Reach .CO 100 [.newArg 1, .newArg 2, .newAtt 1 2] d w ∧ d.pending.Live 1 2 :=
  ⟨_, _, Reach.update (.newAtt 1 2) (Reach.update (.newArg 2) (Reach.update (.newArg 1) Reach.init)), by unfold Store.Live; decide +kernel⟩

/-- the same for the preferred solver -/
example : ∃ d w, Reach .PR 100 [.newArg 1, .newArg 2, .newAtt 1 2] d w ∧ d.pending.Live 1 2 :=
  ⟨_, _, Reach.update (.newAtt 1 2) (Reach.update (.newArg 2) (Reach.update (.newArg 1) Reach.init)), by unfold Store.Live; decide +kernel⟩

/-- **the recompute-from-scratch wrapper** (`DummyDynamicConstraintsEncoder` over any of the seven
static solvers): its state is the framework store itself; a query runs the static solver's program
on the store's view.  After any history of update calls, every answer is what the semantics dictate
for the store reached by that history (model replayed call by call by the `dyn` family). -/
theorem recompute_wrapper_answers (sk : SolverKind) (cfg : Cfg) (hcfg : CfgOK sk cfg) (ops : List StoreOp)
    (st : Store) (hst : Store.runOps Store.empty ops = some st) (e : Entry)
    (hargs : ∀ a, a ∈ e.argsList → st.hasId a = true) (p : Prog Ans)
    (hp : entryProg sk cfg st.view e = some p) (w : World) (hb : w.Bounded) (rs : List Reply)
    (hs : RunSound p rs w) (ans : Ans) (w' : World) (hrun : interp p rs w = (.done ans, w')) :
    EntryOK sk.sem st.g e ans := by
  obtain ⟨s, hs', hinv, hrows⟩ := Store.rows_reachable ops
  rw [hst] at hs'
  injection hs' with hs'
  subst hs'
  exact static_answers_conform sk cfg hcfg st.view st.g (Store.view_ok st hinv hrows) e hargs p hp w hb rs hs ans w' hrun

/-- **the two assumptions-on-attacks solvers** (model `Crusta.DynAtt`, replayed call by call by the
`dyn` family, every reservation factor `num/den ≥ 1`): after any history
of update calls and queries (re-encodings into fresh SAT solvers, reuse of reserved argument
variables, cached answers), a query about an argument of the framework that completes on sound
replies returns the status and certificate the semantics dictate for the framework reached by the
update calls. -/
theorem attack_assumption_solvers_answer {sem : DSem} (hsem : sem ≠ .PR) {num den : Nat}
    (hfac : 0 < den ∧ den ≤ num) {ops : List StoreOp} {d : DynAtt.ADState} {w : World}
    (h : DynAtt.Reach sem num den ops d w) (q : DQuery) {l id : Nat} (hl : d.pending.Live id l)
    {rs : List Reply} (hs : RunSound (DynAtt.query d q l) rs w) {d' : DynAtt.ADState} {a : AccAns} {w' : World}
    (hrun : interp (DynAtt.query d q l) rs w = (.done (d', a), w')) :
    ∃ st, Store.runOps Store.empty ops = some st ∧ st = d.pending ∧ AnswerOK sem st q l a :=
  DynAtt.answers_correct hsem hfac h q hl hs hrun

end Crusta.C08
