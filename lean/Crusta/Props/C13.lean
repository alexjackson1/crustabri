import Crusta.Proofs.RoundTrip
import Crusta.Proofs.LinesNoLf
import Crusta.Gen.IccmaTokens

/-!
# C13 — instance readers are total and faithful (property theorems)

Totality is by construction (`readIccma`, `readApx` are total functions on all byte strings);
the correspondence run turns it into "the Rust readers do not panic where the model returns".
Below: once a line is rejected nothing later repairs it; one rejection theorem per ill-formedness
class named in the property (statements about the line functions `iccmaLine` / `apxLine` in any
state, contrapositives of `IO.iccmaLine_ok`); acceptance of the canonical renderings
(`*_wellformed_accepted`) and well-formedness of whatever is accepted (`*_accepted_is_wellformed`);
the tie of the Aspartix scanners to the regular expressions of the source and of the ICCMA keywords
to the tokens of the source.
-/

namespace Crusta.C13
open Crusta Crusta.IO

theorem ok_or_error {ε α : Type} (x : Except ε α) : (∃ a, x = .ok a) ∨ ∃ e, x = .error e := by
  cases x with
  | error e => exact .inr ⟨e, rfl⟩
  | ok a => exact .inl ⟨a, rfl⟩

/-- every byte string yields a framework or an error: true of any value of type `Except`; the
readers are total because the model functions are -/
theorem readers_total (bs : List UInt8) :
    ((∃ fw, readIccma bs = .ok fw) ∨ (∃ e, readIccma bs = .error e)) ∧
    ((∃ fw, readApx bs = .ok fw) ∨ (∃ e, readApx bs = .error e)) :=
  ⟨ok_or_error _, ok_or_error _⟩

/-- an error is final: whatever follows a rejected line, the file is rejected -/
theorem error_is_final {σ : Type} (f : σ → Option Str → Except String σ) :
    ∀ (pre : List (Option Str)) (s s' : σ) (l : Option Str) (post : List (Option Str)) (e : String),
      foldLines f s pre = .ok s' → f s' l = .error e →
      foldLines f s (pre ++ l :: post) = .error e := by
  intro pre s s' l post e h1 h2
  rw [foldLines_append, h1]
  simp only [foldLines, h2]

/-- invalid UTF-8 anywhere is rejected by both readers -/
theorem invalid_utf8_rejected (st : IccmaSt) (st' : ApxSt) :
    (∃ e, iccmaLine st none = .error e) ∧ (∃ e, apxLine st' none = .error e) :=
  ⟨⟨_, rfl⟩, ⟨_, rfl⟩⟩

/-- ICCMA: the empty file is rejected (the reader ends without having seen a preamble) -/
theorem iccma_missing_header : ∃ e, readIccma [] = .error e := ⟨_, rfl⟩

/-- ICCMA: content after a blank line is rejected (comments excepted) -/
theorem iccma_content_after_blank (st : IccmaSt) (l : Str) (hf : st.foundEmpty = true)
    (hc : l.head? ≠ some 35) (hne : l ≠ []) : ∃ e, iccmaLine st (some l) = .error e :=
  error_of_not_ok fun _ h => Bool.false_ne_true ((iccmaLine_ok h hc hne).1.symm.trans hf)

/-- ICCMA: a bad header (wrong word count, wrong keyword, non-numeric or negative size) is rejected -/
theorem iccma_bad_header (st : IccmaSt) (l : Str) (haf : st.af = none) (hf : st.foundEmpty = false)
    (hc : l.head? ≠ some 35) (hne : l ≠ []) (e0 : String) (hp : readPreamble (splitWs l) = .error e0) :
    ∃ e, iccmaLine st (some l) = .error e :=
  error_of_not_ok fun _ h => by
    obtain ⟨n, hn, _⟩ := (iccmaLine_ok h hc hne).2.1 haf
    cases hp.symm.trans hn

/-- ICCMA: an attack line that does not have exactly two words is rejected -/
theorem iccma_wrong_arity (st : IccmaSt) (af : IccmaFw) (l : Str) (haf : st.af = some af)
    (hf : st.foundEmpty = false) (hc : l.head? ≠ some 35) (hne : l ≠ [])
    (hw : (splitWs l).length ≠ 2) : ∃ e, iccmaLine st (some l) = .error e :=
  error_of_not_ok fun _ h => by
    obtain ⟨_, _, _, _, e, _⟩ := (iccmaLine_ok h hc hne).2.2 af haf
    exact hw (congrArg List.length e)

/-- ICCMA: an index that is non-numeric, < 1 or > n is rejected -/
theorem iccma_bad_index (st : IccmaSt) (af : IccmaFw) (l : Str) (w0 w1 : Str) (haf : st.af = some af)
    (hf : st.foundEmpty = false) (hc : l.head? ≠ some 35) (hne : l ≠ [])
    (hw : splitWs l = [w0, w1])
    (hbad : ∀ a b, parseIsize w0 = some a → parseIsize w1 = some b →
      ¬ (a ≥ 1 ∧ a.toNat ≤ af.n ∧ b ≥ 1 ∧ b.toNat ≤ af.n)) :
    ∃ e, iccmaLine st (some l) = .error e :=
  error_of_not_ok fun _ h => by
    obtain ⟨_, _, a, b, e, h0, h1, ha1, ha2, hb1, hb2, _⟩ := (iccmaLine_ok h hc hne).2.2 af haf
    cases hw.symm.trans e
    exact hbad a b h0 h1 ⟨ha1, ha2, hb1, hb2⟩

/-- Aspartix: an argument declared after an attack is rejected -/
theorem apx_arg_after_att (st : ApxSt) (l lab : Str) (hb : l.all isWs = false)
    (hm : matchArg l = some lab) (haf : st.af.isSome = true) : ∃ e, apxLine st (some l) = .error e := by
  unfold apxLine
  simp [hb, hm, haf]

/-- Aspartix: an attack naming an undeclared argument is rejected -/
theorem apx_undeclared (st : ApxSt) (l a b : Str) (hb : l.all isWs = false) (hna : matchArg l = none)
    (hm : matchAtt l = some (a, b))
    (hun : idxOf (match st.af with | some af => af.labels | none => dedup st.labels) a = none ∨
           idxOf (match st.af with | some af => af.labels | none => dedup st.labels) b = none) :
    ∃ e, apxLine st (some l) = .error e := by
  unfold apxLine
  dsimp only
  rw [hb, if_neg Bool.false_ne_true, hna]
  dsimp only
  rw [hm]
  generalize st.af = o at hun ⊢
  cases o <;> dsimp only at hun ⊢ <;> rcases hun with h | h <;> rw [h]
  · exact ⟨_, rfl⟩
  · cases idxOf _ a <;> exact ⟨_, rfl⟩
  · exact ⟨_, rfl⟩
  · cases idxOf _ a <;> exact ⟨_, rfl⟩

/-- Aspartix: a non-blank line that is neither an argument nor an attack declaration is rejected -/
theorem apx_syntax_error (st : ApxSt) (l : Str) (hb : l.all isWs = false)
    (h1 : matchArg l = none) (h2 : matchAtt l = none) : ∃ e, apxLine st (some l) = .error e := by
  unfold apxLine
  simp [hb, h1, h2]

/-- non-vacuity: a concrete well-formed ICCMA file (`p af 2\n1 2\n`) is accepted with exactly
its content -/
example : (match readIccma [112, 32, 97, 102, 32, 50, 10, 49, 32, 50, 10] with
    | .ok fw => fw == ⟨2, [(0, 1)]⟩ | .error _ => false) = true := by decide +kernel

/-- **acceptance and faithfulness, ICCMA'23**: the canonical rendering of any framework (declared
size up to `isize::MAX`, attacks between declared arguments, duplicates kept) is accepted and read
back as exactly that framework: the declared number of arguments, the declared attacks in
declaration order -/
theorem iccma_wellformed_accepted (n : Nat) (atts : List (Nat × Nat)) (h : ∀ p ∈ atts, p.1 < n ∧ p.2 < n)
    (hn : n ≤ 9223372036854775807) :
    readIccma (encodeUtf8 (renderIccma n atts)) = .ok ⟨n, atts⟩ := by
  have := read_render_iccma_comments n (atts.map .att) hn (List.forall_mem_map.2 h)
  rwa [itemAtts_map_att, List.flatMap_map] at this

/-- the same with comment lines before the header and between attack lines, trailing blank or
comment lines, and with or without a final newline -/
theorem iccma_wellformed_accepted_general (n : Nat) (pre : List Str) (items : List IccmaItem) (post : List Str)
    (finalNl : Bool) (hn : n ≤ 9223372036854775807)
    (hpre : ∀ t ∈ pre, LineOk (35 :: t)) (hit : ∀ it ∈ items, it.Ok n)
    (hpost : ∀ t ∈ post, TrailOk t) (hlast : finalNl = false → post.getLast? ≠ some []) :
    readIccma (encodeUtf8 (joinLines
        (pre.map (fun t => 35 :: t) ++ (iccmaHeader n :: (items.map IccmaItem.line ++ post))) finalNl)) =
      .ok ⟨n, itemAtts items⟩ := read_render_iccma_general n pre items post finalNl hn hpre hit hpost hlast

/-- a declared size above `isize::MAX` is rejected, not read as something else -/
theorem iccma_oversized_rejected (n : Nat) (atts : List (Nat × Nat)) (hn : n > 9223372036854775807) :
    ∃ e, readIccma (encodeUtf8 (renderIccma n atts)) = .error e := read_render_iccma_big n atts hn

/-- **acceptance and faithfulness, Aspartix**: a file of `arg(l).` lines (valid identifiers, incl.
Unicode digits; distinct) followed by `att(a,b).` lines between declared arguments is accepted and
yields exactly the declared labels in declaration order and exactly the declared attacks -/
theorem apx_wellformed_accepted (labels : List Str) (atts : List (Nat × Nat))
    (hv : ∀ l ∈ labels, ValidId l) (hnd : labels.Nodup)
    (ha : ∀ p ∈ atts, p.1 < labels.length ∧ p.2 < labels.length) (hand : atts.Nodup) :
    readApx (encodeUtf8 (writeApx labels (atts.map (fun p => (labels.getD p.1 [], labels.getD p.2 [])))))
      = .ok ⟨labels, atts⟩ := apx_write_read labels atts hv hnd ha hand

/-- **only well-formed frameworks are accepted** (ICCMA'23): whatever the bytes, if the reader
returns a framework then every attack it holds is between declared arguments — together with the
rejection theorems above and `iccma_wellformed_accepted(_general)` this is "accepts exactly" -/
theorem iccma_accepted_is_wellformed (bs : List UInt8) (fw : IccmaFw) (h : readIccma bs = .ok fw) :
    ∀ p ∈ fw.atts, p.1 < fw.n ∧ p.2 < fw.n := readIccma_wfa bs fw h

/-- the same for the Aspartix reader: whatever the bytes, a framework that is returned has distinct
labels, attacks between declared arguments only, and no attack twice -/
theorem apx_accepted_is_wellformed (bs : List UInt8) (fw : ApxFw) (h : readApx bs = .ok fw) :
    fw.labels.Nodup ∧ (∀ p ∈ fw.atts, p.1 < fw.labels.length ∧ p.2 < fw.labels.length) ∧ fw.atts.Nodup :=
  readApx_wfa bs fw h

/-- **the reader model's scanners are the regular expressions of the source.**  `Gen.argLineName`,
`Gen.attLineNames` (and the loose `Gen.argLine`, `Gen.attLine`) are regenerated from
`src/io/aspartix_reader.rs` on every run; for every byte string and every line the reader is given
(no line contains a line feed: `lines_no_lf`), the scanner `matchArg` succeeds exactly when the
strict argument pattern matches, and returns the captured group, trimmed as `captured_arg` does —
the capture being unique, so that the regex engine's leftmost-first rule has nothing to choose —,
and likewise for `matchAtt`; the strict patterns are included in the loose ones and the argument and
attack patterns exclude each other, so the order in which the Rust code tries them is immaterial.
What remains trusted is that the `regex` crate implements this textbook semantics. -/
theorem apx_scanners_are_the_source_patterns (bs : List UInt8) (l : Str) (hl : some l ∈ lines bs) :
    (∀ lab, matchArg l = some lab ↔ ∃ g, Rx.MatchesG Gen.argLineName l [g] ∧ lab = trimWs g) ∧
    (∀ a b, matchAtt l = some (a, b) ↔
      ∃ g1 g2, Rx.MatchesG Gen.attLineNames l [g1, g2] ∧ a = trimWs g1 ∧ b = trimWs g2) ∧
    (∀ g g', Rx.MatchesG Gen.argLineName l [g] → Rx.MatchesG Gen.argLineName l [g'] → g = g') ∧
    (∀ g1 g2 g1' g2', Rx.MatchesG Gen.attLineNames l [g1, g2] → Rx.MatchesG Gen.attLineNames l [g1', g2'] →
      g1 = g1' ∧ g2 = g2') ∧
    (Rx.Matches Gen.argLineName l → Rx.Matches Gen.argLine l) ∧
    (Rx.Matches Gen.attLineNames l → Rx.Matches Gen.attLine l) ∧
    ¬ (Rx.Matches Gen.argLine l ∧ Rx.Matches Gen.attLine l) :=
  ⟨fun lab => RxApx.reader_matchArg_iff bs l hl lab, fun a b => RxApx.reader_matchAtt_iff bs l hl a b,
   fun g g' h h' => RxApx.argLineName_capture_unique l g g' h h',
   fun g1 g2 g1' g2' h h' => RxApx.attLineNames_capture_unique l g1 g2 g1' g2' h h',
   RxApx.strict_sub_loose_arg l, RxApx.strict_sub_loose_att l, RxApx.arg_att_exclusive l⟩

/-- no line handed to the readers contains a line feed, for any input bytes -/
theorem lines_have_no_line_feed (bs : List UInt8) : ∀ l, some l ∈ lines bs → ∀ c ∈ l, c ≠ 10 :=
  lines_no_lf bs

theorem strOf_p : strOf "p" = [112] := by decide +kernel
theorem strOf_af : strOf "af" = [97, 102] := by decide +kernel

/-- **the tokens of the ICCMA'23 reader are those of the source** (regenerated on every run; the
generator also insists on the shape of the line loop: comment test, empty-line flag,
`split_whitespace`, `parse::<isize>` with `n >= 0`): a line starting with the comment character is
skipped in every state; a preamble is accepted only with the source's number of words, first word
and kind; the arguments are labelled from the source's first label on -/
theorem iccma_tokens_are_the_source :
    (∀ (st : IccmaSt) (l : Str), l.head? = some Gen.iccmaComment → iccmaLine st (some l) = .ok st) ∧
    (∀ (ws : List Str) (n : Nat), readPreamble ws = .ok n →
      ws.length = Gen.iccmaPreambleWords ∧ ws[0]? = some Gen.iccmaFirstWord ∧ ws[1]? = some Gen.iccmaKind) ∧
    (∀ n : Nat, n ≤ 9223372036854775807 → readPreamble [Gen.iccmaFirstWord, Gen.iccmaKind, natToStr n] = .ok n) ∧
    (∀ (st : IccmaSt) (af : IccmaFw) (l : Str) (st' : IccmaSt), st.af = some af → st.foundEmpty = false →
      l.head? ≠ some Gen.iccmaComment → l ≠ [] → iccmaLine st (some l) = .ok st' →
      (splitWs l).length = Gen.iccmaAttackWords) ∧
    Gen.iccmaFirstLabel = 1 := by
  refine ⟨fun st l h => ?_, fun ws n h => ?_, readPreamble_header,
    fun st af l st' haf _ hc hne h => ?_, rfl⟩
  · obtain _ | ⟨c, t⟩ := l
    · cases h
    · cases h; exact iccmaLine_comment st t
  · unfold readPreamble at h
    obtain _ | ⟨w0, _ | ⟨w1, _ | ⟨w2, _ | _⟩⟩⟩ := ws <;> try cases h
    dsimp only at h
    by_cases h0 : (w0 != strOf "p") = true
    · rw [if_pos h0] at h; cases h
    by_cases h1 : (w1 != strOf "af") = true
    · rw [if_neg h0, if_pos h1] at h; cases h
    rw [strOf_p] at h0
    rw [strOf_af] at h1
    exact ⟨rfl, congrArg some (Decidable.of_not_not (mt bne_iff_ne.2 h0)),
      congrArg some (Decidable.of_not_not (mt bne_iff_ne.2 h1))⟩
  · obtain ⟨_, _, _, _, e, _⟩ := (iccmaLine_ok h hc hne).2.2 af haf
    exact congrArg List.length e

end Crusta.C13
