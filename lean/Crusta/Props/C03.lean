import Crusta.Proofs.Oracle
import Crusta.Proofs.StaticAll

/-! # C03 — skeptical acceptance (property theorems) -/

namespace Crusta.C03
open Crusta

/-- The judge accepts a skeptical status iff it is YES exactly when every extension contains the
argument. -/
theorem ds_judge_exact (af : AF) (hwf : af.WF) (σ : Sem) (a : Nat) (st : Bool) :
    checkAnswer af ⟨σ, .DS, false, [a]⟩ (.acc st none) = .ok () ↔
      (st = true ↔ ∀ S, σ.Ext af S → S a = true) := by
  rw [checkAnswer_iff af hwf]
  simp only [Conforms, CertConforms, List.mem_singleton, exists_eq_left, and_true]

/-- vacuous truth: with no extension every argument is skeptically accepted (the ST case) -/
theorem no_extension_all_skeptical (af : AF) (hwf : af.WF) (σ : Sem) (a : Nat)
    (h : ¬ ∃ S, σ.Ext af S) : σ.skepB af [a] = true := by
  rw [skepB_iff σ af hwf]
  intro S hS; exact absurd ⟨S, hS⟩ h


/-- **C03 on the solver programs**: the status of a skeptical query is YES exactly when every
extension of `g` contains one of the queried arguments (vacuously when there is none) -/
theorem skeptical_status_exact (sk : SolverKind) (cfg : Cfg) (hcfg : CfgOK sk cfg) (v : FwView) (g : G) (hv : v.Ok g)
    (cert : Bool) (args : List Nat) (hargs : ∀ a ∈ args, g.live a = true)
    (p : Prog Ans) (hp : entryProg sk cfg v (.ds cert args) = some p) (w : World) (hb : w.Bounded)
    (rs : List Reply) (hs : RunSound p rs w) (a : AccAns) (cv : Bool) (w' : World)
    (hrun : interp p rs w = (.done (.acc a cv), w')) :
    (a.status = true ↔ ∀ S, sk.sem.GExt g S → HitsL args S) :=
  (static_answers_conform sk cfg hcfg v g hv (.ds cert args) hargs p hp w hb rs hs _ w' hrun).2.1.status_iff

end Crusta.C03
