import Crusta.Proofs.Iso
import Crusta.Proofs.Assemble
import Crusta.Proofs.StaticAll
import Crusta.Proofs.StoreIccma
import Crusta.Proofs.GRename
import Crusta.Proofs.GLocal

/-!
# C11 — statuses are invariant under presentation, local to components and mutually consistent (property theorems)

First for the textbook semantics (which the judge of C01–C04 is proved to implement), for all
frameworks: they depend only on the attack graph, commute with renamings, and satisfy the
cross-semantics relations the property lists.  Then on the solver programs: two sound runs on views of
the same graph, of a renamed graph, or of the graph with an unrelated component added return the same
status.
-/

namespace Crusta.C11
open Crusta

/-- reordering or repeating attack declarations changes no extension of any of the 7 semantics -/
theorem attack_lines_irrelevant (σ : Sem) {f g : AF} (h : f.SameGraph g) (S : ASet) :
    σ.Ext f S ↔ σ.Ext g S := by
  rw [← AF.g_ext, ← AF.g_ext, h.g_eq]

/-- renaming / reordering arguments: extensions are mapped to extensions, for all 7 semantics -/
theorem renaming_invariant {af : AF} (ρ : Renaming af.n) (σ : Sem) (S : ASet) :
    σ.Ext (af.rename ρ.f) (imageSet S ρ.g) ↔ σ.Ext af S :=
  ((rename_transfer ρ σ).iff S _ ⟨fun _ _ => rfl, fun _ _ => rfl, fun a _ => show S (ρ.g (ρ.f a)) = S a by rw [ρ.gf]⟩).symm

/-- hence credulous and skeptical statuses are invariant under renaming -/
theorem status_renaming_invariant {af : AF} (ρ : Renaming af.n) (σ : Sem) (a : Nat) :
    ((∃ S, σ.Ext af S ∧ S a = true) ↔ (∃ S', σ.Ext (af.rename ρ.f) S' ∧ S' (ρ.f a) = true)) ∧
    ((∀ S, σ.Ext af S → S a = true) ↔ (∀ S', σ.Ext (af.rename ρ.f) S' → S' (ρ.f a) = true)) := by
  have hR : ∀ S S', ρ.renum.Corr S S' → (S a = true ↔ S' (ρ.f a) = true) := by
    intro S S' c
    rw [show S' (ρ.f a) = S a from c.eq a rfl]
  exact ⟨(rename_transfer ρ σ).exists_iff (rename_iso ρ) hR, (rename_transfer ρ σ).forall_iff (rename_iso ρ) hR⟩

/-- non-vacuity: a renaming of a 3-argument framework (swap 0 and 2) -/
example : ∃ ρ : Renaming 3, ρ.f 0 = 2 :=
  ⟨⟨fun a => if a = 0 then 2 else if a = 2 then 0 else a, fun a => if a = 0 then 2 else if a = 2 then 0 else a,
    by intro a; by_cases h0 : a = 0 <;> by_cases h2 : a = 2 <;> simp_all,
    by intro a; by_cases h0 : a = 0 <;> by_cases h2 : a = 2 <;> simp_all,
    by intro a; by_cases h0 : a = 0 <;> by_cases h2 : a = 2 <;> simp_all <;> omega⟩, rfl⟩

/-- skeptical acceptance implies credulous acceptance whenever an extension exists -/
theorem skeptical_implies_credulous (σ : Sem) (af : AF) (a : Nat)
    (hex : ∃ S, σ.Ext af S) (hs : ∀ S, σ.Ext af S → S a = true) : ∃ S, σ.Ext af S ∧ S a = true := by
  obtain ⟨S, hS⟩ := hex
  exact ⟨S, hS, hs S hS⟩

/-- GR within every PR extension; ID within every PR extension; PR extensions are complete -/
theorem gr_id_within_pr {af : AF} {G I P : ASet} (hP : Preferred af P) :
    (Grounded af G → SubsetS G P) ∧ (Ideal af I → SubsetS I P) ∧ Complete af P :=
  ⟨fun hG => grounded_sub_preferred hG hP, fun hI => ideal_sub_preferred hI hP, preferred_complete hP⟩

/-- a credulously PR-accepted argument is credulously CO-accepted (the CLI answers DC-PR through
the complete solver; the converse direction is the existence of a preferred superset) -/
theorem dc_pr_implies_dc_co {af : AF} {a : Nat} (h : ∃ S, Preferred af S ∧ S a = true) :
    ∃ S, Complete af S ∧ S a = true := by
  obtain ⟨S, hS, ha⟩ := h
  exact ⟨S, preferred_complete hS, ha⟩

/-- ST within PR, CO, SST and STG -/
theorem st_within {af : AF} (hwf : af.WF) {S : ASet} (h : Stable af S) :
    Preferred af S ∧ Complete af S ∧ SemiStable af S ∧ Stage af S :=
  ⟨stable_preferred hwf h, stable_complete hwf h, stable_semistable hwf h, stable_stage hwf h⟩

/-- ST, SST and STG coincide whenever a stable extension exists -/
theorem st_sst_stg_coincide {af : AF} (hwf : af.WF) {E : ASet} (hE : Stable af E) (S : ASet) :
    (SemiStable af S ↔ Stable af S) ∧ (Stage af S ↔ Stable af S) := Crusta.st_sst_stg_coincide hwf hE S

/-- **credulous acceptance coincides for CO and PR**: an argument in some complete extension is in
some preferred extension (every admissible set lies in a preferred one), and conversely -/
theorem dc_co_iff_dc_pr {af : AF} {a : Nat} :
    (∃ S, Complete af S ∧ S a = true) ↔ (∃ S, Preferred af S ∧ S a = true) := by
  refine ⟨fun ⟨S, hS, ha⟩ => ?_, dc_pr_implies_dc_co⟩
  obtain ⟨P, hP, hsub⟩ := exists_preferred_superset hS.1
  exact ⟨P, hP, hsub a ha⟩

/-- **GR ⊆ ID**: the grounded extension lies inside the ideal extension (which is complete) -/
theorem gr_within_id {af : AF} {G I : ASet} (hG : Grounded af G) (hI : Ideal af I) : SubsetS G I :=
  hG.2 I (ideal_complete hI)

/-- the ideal extension is unique; a preferred extension always exists -/
theorem id_unique_pr_exists (af : AF) :
    (∀ S T, Ideal af S → Ideal af T → ∀ a, S a = T a) ∧ (∃ P, Preferred af P) :=
  ⟨fun _ _ hS hT => ideal_unique hS hT, exists_preferred af⟩

/-- **locality (disjoint unions)**: when the live arguments are partitioned into parts that no
attack leaves or enters, the extensions of the whole graph — for each of the seven semantics — are
exactly the sets whose trace on every part is an extension of that part: adding an unrelated
component changes nothing inside the others -/
theorem locality {g : G} {parts : List (Nat → Bool)} (hp : Parts g parts)
    (hfin : ∃ n, ∀ a, g.live a = true → a < n) (σ : Sem) (S : ASet) (hS : ∀ a, S a = true → g.live a = true) :
    g.Ext σ S ↔ ∀ U ∈ parts, (g.restrict U).Ext σ (inter S U) := ext_parts hp hfin σ S hS

/-- **the solvers' statuses do not depend on the presentation** (on the solver programs): two views
that present the same graph — the same arguments and the same attack relation, declared in any
order, any number of times, reached by different update histories — give the same credulous and
the same skeptical status, for every solver type, admissible encoders, sound reply lists, with or
without certificate -/
theorem solver_status_presentation_invariant (sk : SolverKind) (v1 v2 : FwView) (g1 g2 : G)
    (hv1 : v1.Ok g1) (hv2 : v2.Ok g2)
    (hlive : ∀ a, g1.live a = g2.live a) (hatt : ∀ a b, g1.att a b ↔ g2.att a b)
    (args : List Nat) (hargs : ∀ a ∈ args, g1.live a = true)
    (cfg1 cfg2 : Cfg) (h1 : CfgOK sk cfg1) (h2 : CfgOK sk cfg2) (c1 c2 : Bool)
    (w1 w2 : World) (hb1 : w1.Bounded) (hb2 : w2.Bounded) (rs1 rs2 : List Reply)
    (a1 a2 : AccAns) (cv1 cv2 : Bool) (w1' w2' : World) :
    (∀ p1 p2, entryProg sk cfg1 v1 (.dc c1 args) = some p1 → entryProg sk cfg2 v2 (.dc c2 args) = some p2 →
      RunSound p1 rs1 w1 → RunSound p2 rs2 w2 →
      interp p1 rs1 w1 = (.done (.acc a1 cv1), w1') → interp p2 rs2 w2 = (.done (.acc a2 cv2), w2') →
      a1.status = a2.status) ∧
    (∀ p1 p2, entryProg sk cfg1 v1 (.ds c1 args) = some p1 → entryProg sk cfg2 v2 (.ds c2 args) = some p2 →
      RunSound p1 rs1 w1 → RunSound p2 rs2 w2 →
      interp p1 rs1 w1 = (.done (.acc a1 cv1), w1') → interp p2 rs2 w2 = (.done (.acc a2 cv2), w2') →
      a1.status = a2.status) := by
  obtain rfl := G.ext_of_eq hlive hatt
  constructor <;> intro p1 p2 hp1 hp2 hs1 hs2 hr1 hr2
  · obtain ⟨_, hd1, _⟩ := static_answers_conform sk cfg1 h1 v1 g1 hv1 (.dc c1 args) hargs p1 hp1 w1 hb1 rs1 hs1 _ w1' hr1
    obtain ⟨_, hd2, _⟩ := static_answers_conform sk cfg2 h2 v2 g1 hv2 (.dc c2 args) hargs p2 hp2 w2 hb2 rs2 hs2 _ w2' hr2
    exact (status_determined sk.sem g1 args c1 c2 a1 a2).1 hd1 hd2
  · obtain ⟨_, hd1, _⟩ := static_answers_conform sk cfg1 h1 v1 g1 hv1 (.ds c1 args) hargs p1 hp1 w1 hb1 rs1 hs1 _ w1' hr1
    obtain ⟨_, hd2, _⟩ := static_answers_conform sk cfg2 h2 v2 g1 hv2 (.ds c2 args) hargs p2 hp2 w2 hb2 rs2 hs2 _ w2' hr2
    exact (status_determined sk.sem g1 args c1 c2 a1 a2).2 hd1 hd2

/-- instance: two ICCMA'23 files declaring the same attacks in different orders, with repetitions,
are two presentations of one graph -/
theorem iccma_files_same_graph (n : Nat) (atts atts' : List (Nat × Nat))
    (h : ∀ p ∈ atts, p.1 < n ∧ p.2 < n) (hsame : ∀ p, p ∈ atts ↔ p ∈ atts') :
    (Store.ofIccma n atts).view.Ok (Store.ofIccma n atts).g ∧
    (Store.ofIccma n atts').view.Ok (Store.ofIccma n atts').g ∧
    (∀ a, (Store.ofIccma n atts).g.live a = (Store.ofIccma n atts').g.live a) ∧
    (∀ a b, (Store.ofIccma n atts).g.att a b ↔ (Store.ofIccma n atts').g.att a b) := by
  have h' : ∀ p ∈ atts', p.1 < n ∧ p.2 < n := fun p hp => h p ((hsame p).2 hp)
  have g1 := Store.ofIccma_g n atts h
  have g2 := Store.ofIccma_g n atts' h'
  exact ⟨Store.ofIccma_view_ok n atts h, Store.ofIccma_view_ok n atts' h',
    fun a => Bool.eq_iff_iff.2 ((g1.1 a).trans (g2.1 a).symm),
    fun a b => (g1.2 a b).trans ((hsame (a, b)).trans (g2.2 a b).symm)⟩

/-- **renaming the arguments** (on the solver programs): if the second view presents the graph
obtained from the first by any bijective renaming `ρ` of the ids, the credulous and the skeptical
status of the renamed query equal those of the original query — for every solver type, admissible
encoders, sound reply lists, with or without certificate -/
theorem solver_status_renaming_invariant (sk : SolverKind) (v1 v2 : FwView) (g : G) (ρ : Bij)
    (hv1 : v1.Ok g) (hv2 : v2.Ok (g.rename ρ))
    (args : List Nat) (hargs : ∀ a ∈ args, g.live a = true)
    (cfg1 cfg2 : Cfg) (h1 : CfgOK sk cfg1) (h2 : CfgOK sk cfg2) (c1 c2 : Bool)
    (w1 w2 : World) (hb1 : w1.Bounded) (hb2 : w2.Bounded) (rs1 rs2 : List Reply)
    (a1 a2 : AccAns) (cv1 cv2 : Bool) (w1' w2' : World) :
    (∀ p1 p2, entryProg sk cfg1 v1 (.dc c1 args) = some p1 →
      entryProg sk cfg2 v2 (.dc c2 (args.map ρ.f)) = some p2 →
      RunSound p1 rs1 w1 → RunSound p2 rs2 w2 →
      interp p1 rs1 w1 = (.done (.acc a1 cv1), w1') → interp p2 rs2 w2 = (.done (.acc a2 cv2), w2') →
      a1.status = a2.status) ∧
    (∀ p1 p2, entryProg sk cfg1 v1 (.ds c1 args) = some p1 →
      entryProg sk cfg2 v2 (.ds c2 (args.map ρ.f)) = some p2 →
      RunSound p1 rs1 w1 → RunSound p2 rs2 w2 →
      interp p1 rs1 w1 = (.done (.acc a1 cv1), w1') → interp p2 rs2 w2 = (.done (.acc a2 cv2), w2') →
      a1.status = a2.status) :=
  Crusta.solver_status_renaming_invariant sk v1 v2 g ρ hv1 hv2 args hargs cfg1 cfg2 h1 h2 c1 c2 w1 w2 hb1 hb2 rs1 rs2
    a1 a2 cv1 cv2 w1' w2'

/-- all seven semantics over sparse id spaces commute with bijective renamings -/
theorem semantics_renaming_invariant (g : G) (ρ : Bij) (σ : Sem) (S : ASet) :
    (g.rename ρ).Ext σ (ρ.image S) ↔ g.Ext σ S := G.ext_rename g ρ σ S

/-- **adding an unrelated component** (on the solver programs): if the second view presents the
disjoint union `g'` of the graph `g` of the first view and any other graph `h` (no attack between
them), the statuses of arguments of `g` are the same on both views — for every solver type, provided
`h` has an extension under the solver's semantics, which is automatic except for the stable
semantics (`solver_status_local_all_but_stable`); when `h` has no stable extension, the stable
solver answers NO to every credulous and YES to every skeptical query on the union
(`stable_component_without_extension`). -/
theorem solver_status_local (sk : SolverKind) (v1 v2 : FwView) (g h g' : G)
    (hv1 : v1.Ok g) (hv2 : v2.Ok g') (d : DisjUnion g h g') (hex : ∃ T, h.Ext sk.sem T)
    (args : List Nat) (hargs : ∀ a ∈ args, g.live a = true)
    (cfg1 cfg2 : Cfg) (h1 : CfgOK sk cfg1) (h2 : CfgOK sk cfg2) (c1 c2 : Bool)
    (w1 w2 : World) (hb1 : w1.Bounded) (hb2 : w2.Bounded) (rs1 rs2 : List Reply)
    (a1 a2 : AccAns) (cv1 cv2 : Bool) (w1' w2' : World) :
    (∀ p1 p2, entryProg sk cfg1 v1 (.dc c1 args) = some p1 → entryProg sk cfg2 v2 (.dc c2 args) = some p2 →
      RunSound p1 rs1 w1 → RunSound p2 rs2 w2 →
      interp p1 rs1 w1 = (.done (.acc a1 cv1), w1') → interp p2 rs2 w2 = (.done (.acc a2 cv2), w2') →
      a1.status = a2.status) ∧
    (∀ p1 p2, entryProg sk cfg1 v1 (.ds c1 args) = some p1 → entryProg sk cfg2 v2 (.ds c2 args) = some p2 →
      RunSound p1 rs1 w1 → RunSound p2 rs2 w2 →
      interp p1 rs1 w1 = (.done (.acc a1 cv1), w1') → interp p2 rs2 w2 = (.done (.acc a2 cv2), w2') →
      a1.status = a2.status) :=
  Crusta.solver_status_local sk v1 v2 g h g' hv1 hv2 d hex args hargs cfg1 cfg2 h1 h2 c1 c2 w1 w2 hb1 hb2 rs1 rs2
    a1 a2 cv1 cv2 w1' w2'

/-- the same without the side condition, for the six solver types other than the stable one: there the
added component always has an extension (`G.exists_ext`) -/
theorem solver_status_local_all_but_stable (sk : SolverKind) (hsk : sk ≠ .ST) (v1 v2 : FwView) (g h g' : G)
    (hv1 : v1.Ok g) (hv2 : v2.Ok g') (d : DisjUnion g h g')
    (args : List Nat) (hargs : ∀ a ∈ args, g.live a = true)
    (cfg1 cfg2 : Cfg) (h1 : CfgOK sk cfg1) (h2 : CfgOK sk cfg2) (c1 c2 : Bool)
    (w1 w2 : World) (hb1 : w1.Bounded) (hb2 : w2.Bounded) (rs1 rs2 : List Reply)
    (a1 a2 : AccAns) (cv1 cv2 : Bool) (w1' w2' : World) :
    (∀ p1 p2, entryProg sk cfg1 v1 (.dc c1 args) = some p1 → entryProg sk cfg2 v2 (.dc c2 args) = some p2 →
      RunSound p1 rs1 w1 → RunSound p2 rs2 w2 →
      interp p1 rs1 w1 = (.done (.acc a1 cv1), w1') → interp p2 rs2 w2 = (.done (.acc a2 cv2), w2') →
      a1.status = a2.status) ∧
    (∀ p1 p2, entryProg sk cfg1 v1 (.ds c1 args) = some p1 → entryProg sk cfg2 v2 (.ds c2 args) = some p2 →
      RunSound p1 rs1 w1 → RunSound p2 rs2 w2 →
      interp p1 rs1 w1 = (.done (.acc a1 cv1), w1') → interp p2 rs2 w2 = (.done (.acc a2 cv2), w2') →
      a1.status = a2.status) :=
  Crusta.solver_status_local sk v1 v2 g h g' hv1 hv2 d (h.exists_ext d.wfh d.fin_right sk.sem (SolverKind.sem_ne_st hsk))
    args hargs cfg1 cfg2 h1 h2 c1 c2 w1 w2 hb1 hb2 rs1 rs2 a1 a2 cv1 cv2 w1' w2'

/-- the stable solver when the added component has no stable extension: the union has none either,
so every credulous query is answered NO and every skeptical query YES -/
theorem stable_component_without_extension (v2 : FwView) (g h g' : G)
    (hv2 : v2.Ok g') (d : DisjUnion g h g') (hno : ¬ ∃ T, h.Ext .ST T)
    (args : List Nat) (hargs : ∀ a ∈ args, g.live a = true)
    (cfg2 : Cfg) (c2 : Bool)
    (w2 : World) (hb2 : w2.Bounded) (rs2 : List Reply) (a2 : AccAns) (cv2 : Bool) (w2' : World) :
    (∀ p2, entryProg .ST cfg2 v2 (.dc c2 args) = some p2 → RunSound p2 rs2 w2 →
      interp p2 rs2 w2 = (.done (.acc a2 cv2), w2') → a2.status = false) ∧
    (∀ p2, entryProg .ST cfg2 v2 (.ds c2 args) = some p2 → RunSound p2 rs2 w2 →
      interp p2 rs2 w2 = (.done (.acc a2 cv2), w2') → a2.status = true) :=
  solver_status_degenerate .ST v2 g h g' hv2 d hno args hargs cfg2 trivial c2 w2 hb2 rs2 a2 cv2 w2'

/-- non-vacuity: one fresh self-attacking argument is such a component -/
example (g : G) (hwf : g.WF) (hfin : ∃ n, ∀ a, g.live a = true → a < n) (k : Nat) (hk : g.live k = false) :
    DisjUnion g (G.selfLoop k) (g.addSelfLoop k) ∧ ¬ ∃ T, (G.selfLoop k).Ext .ST T :=
  ⟨G.addSelfLoop_disjUnion g hwf hfin k hk, G.selfLoop_no_stable k⟩

end Crusta.C11
