import Crusta.Proofs.Calls
import Crusta.Proofs.Abstract
import Crusta.Proofs.SolveCallsID
import Crusta.Proofs.SolveCallsRG
import Crusta.Proofs.StaticTotal
import Crusta.Proofs.DynCalls
import Crusta.Proofs.DynHistory
import Crusta.Proofs.SolveCalls

/-!
# C18 — every query terminates within a bounded number of SAT calls (property theorems)

For **arbitrary** reply lists where the number of calls is fixed by the program (CO: one; ST: two per
connected component; the complete and stable dynamic queries: one); for every **sound** reply list where
a search decides it: the set-level procedures of `Proofs/Abstract` (grow loop and skeptical search correct
and bounded, range-guided loop correct), then PR, ID, SST/STG on the `Prog` models of a component together
with absence of crashes (`wp False`), `every_query_terminates` for all seven solver types, and the
preferred dynamic solver.
-/

namespace Crusta.C18
open Crusta

/-- a run that returned made no more SAT calls than there were replies -/
theorem calls_eq_replies_consumed (sk : SolverKind) (cfg : Cfg) (v : FwView) (e : Entry)
    (p : Prog Ans) (_hp : entryProg sk cfg v e = some p)
    (rs : List Reply) (w w' : World) (a : Ans) (h : interp p rs w = (.done a, w')) :
    w'.calls - w.calls ≤ rs.length :=
  (done_consumed_no_unknown p rs w w' a h).1

/-- CO: at most one SAT call per query, for every framework, encoder and reply -/
theorem co_calls (cfg : Cfg) (v : FwView) (args : List Nat) :
    Bounded (coDC cfg v args) 1 ∧ Bounded (coDCcert cfg v args) 1 :=
  ⟨coDC_bounded cfg v args, coDCcert_bounded cfg v args⟩

/-- ST: one call per component for SE, at most two per component for DC/DS -/
theorem st_calls (v : FwView) (args : List Nat) :
    Bounded (stSE v) (allComps v).length ∧
    Bounded (stDC v args) (2 * (allComps v).length) ∧
    Bounded (stDS v args) (2 * (allComps v).length) :=
  ⟨stSE_bounded v, stAcc_bounded v args true false, stAcc_bounded v args false true⟩

/-- PR (set level): the grow loop of `compute_maximal` returns a ⊆-maximal base set and makes at
most `|U| - |start| + 1` calls, for every sound oracle -/
theorem pr_grow {α : Type} [DecidableEq α] (base : Finset α → Prop) (U : Finset α)
    (hU : ∀ S, base S → S ⊆ U) (rs : List (Abs.SReply α)) (cur : Finset α) (res : Finset α × Nat)
    (hb : base cur) (hs : Abs.GrowSound base rs cur []) (h : Abs.grow rs cur [] = some res) :
    Abs.IsMaxBase base res.1 ∧ cur ⊆ res.1 ∧ res.2 + cur.card ≤ U.card + 1 :=
  ⟨(Abs.grow_maximal base rs cur [] res hb nofun hs h).1,
   (Abs.grow_maximal base rs cur [] res hb nofun hs h).2,
   Abs.grow_calls base U hU rs cur [] res hb hs h⟩

/-- PR (set level): the skeptical search answers correctly and makes at most `|base|` calls;
no candidate set is examined twice -/
theorem pr_skeptical {α : Type} [DecidableEq α] [Fintype α] (base : Finset α → Prop) [DecidablePred base]
    (a : α) (rs : List (Abs.SReply α)) (start : Finset α) (res : Option (Finset α) × Nat)
    (hb : base start) (hs : Abs.SkeptSound base a rs start []) (h : Abs.skept a rs start [] = some res) :
    (∀ M, res.1 = some M → Abs.IsMaxBase base M ∧ a ∉ M) ∧
    (res.1 = none → ∀ M, Abs.IsMaxBase base M → a ∈ M) ∧
    res.2 ≤ (Finset.univ.filter base).card := by
  have h1 := Abs.skept_correct base a rs start [] res ⟨hb, nofun, nofun⟩ hs h
  exact ⟨h1.1, h1.2, Nat.le_of_add_le_add_right
    (Abs.skept_calls base a rs start [] res hb nofun (List.nodup_singleton _) hs h)⟩

/-- SST / STG (set level): at UNSAT the asserted range is the true range and is maximal -/
theorem range_grow {α : Type} [DecidableEq α] (c : Abs.RCtx α) (rs : List (Abs.RReply α))
    (S R : Finset α) (res : Finset α × Finset α) (hb : c.base S) (hSR : S ⊆ R) (hR : R ⊆ c.rg S)
    (hs : Abs.RSoundRun c rs R []) (h : Abs.rgrow rs S R [] = some res) :
    Abs.MaxRange c res.1 ∧ res.2 = c.rg res.1 :=
  Abs.rgrow_correct c rs S R [] res hb hSR hR nofun hs h

/-! ## the searches on the `Prog` models: termination and call bounds for every sound run

The three theorems below are about the programs the driver replays against the implementation.  They
are total-correctness statements (`wp False`): on sound replies the program reaches no `crash` node
(in particular the model's fuel — an artefact, the Rust loops have none — never runs out when it is
at least the stated amount) and a run that returns has made at most the stated number of SAT calls.
`|CO|`, `|PR|`, `|CF|` are the lengths of the exact enumerations of the spec layer. -/

/-- PR on a component: `compute_maximal` ≤ n + 1 calls; the skeptical search ≤ |CO| + |PR| + 1
(in fact ≤ |CO|: no candidate set is examined twice) -/
theorem pr_calls_on_prog (cfg : Cfg) (hk : ∀ af T, cfg.enc.Base af T ↔ Complete af T) (c : Comp)
    (hwf : c.af.WF) (w : World) (hb : w.Bounded) :
    (cfg.fuel ≥ c.af.n + 3 →
      wp False (prMaximalOfComp cfg c) w (fun _ w' => w'.calls ≤ w.calls + c.af.n + 1)) ∧
    (∀ args sc, (∃ pos, posAll c args = some pos) → cfg.fuel ≥ (extsCO c.af).length + 1 →
      wp False (prSkeptInCc cfg c args sc) w
        (fun _ w' => w'.calls ≤ w.calls + (extsCO c.af).length + (extsPR c.af).length + 1)) :=
  ⟨fun hf => prMaximalOfComp_calls cfg hk c hwf (GrOK_of_wf _ hwf) w hb hf,
   fun args sc hpos hf => prSkeptInCc_calls_c18 cfg hk c args sc hwf (GrOK_of_wf _ hwf) w hb hpos hf⟩

/-- ID on a component: ≤ 2|CO| + |PR| + 2 calls -/
theorem id_calls_on_prog (cfg : Cfg) (hk : ∀ af T, cfg.enc.Base af T ↔ Complete af T) (c : Comp)
    (hwf : c.af.WF) (w : World) (hb : w.Bounded)
    (hfuel : cfg.fuel ≥ (extsCO c.af).length + (extsPR c.af).length + 2) :
    wp False (idOneForCc cfg c) w
      (fun _ w' => w'.calls ≤ w.calls + 2 * (extsCO c.af).length + (extsPR c.af).length + 2) ∧
    ∀ pos, wp False (idCredForCc cfg c pos) w
      (fun _ w' => w'.calls ≤ w.calls + 2 * (extsCO c.af).length + (extsPR c.af).length + 2) :=
  ⟨idOneForCc_calls_c18 cfg hk c hwf (GrOK_of_wf _ hwf) w hb hfuel,
   fun pos => idCredForCc_calls_c18 cfg hk c pos hwf (GrOK_of_wf _ hwf) w hb hfuel⟩

/-- SST / STG on a component: ≤ (n+2)·|base| + 3 calls, `base` = the complete (SST) or conflict-free
(STG) sets -/
theorem range_calls_on_prog (cfg : Cfg) (hk : RangeEnc cfg.enc) (c : Comp) (args : List Nat) (cred : Bool)
    (hwf : c.af.WF) (w : World) (hb : w.Bounded) (hpos : ∃ pos, posAll c args = some pos) :
    ((∀ af T, cfg.enc.Base af T ↔ Complete af T) → cfg.fuel ≥ (c.af.n + 2) * (extsCO c.af).length + 2 →
      wp False (rgAccInCc cfg c args cred) w
        (fun _ w' => w'.calls ≤ w.calls + (c.af.n + 2) * (extsCO c.af).length + 3)) ∧
    ((∀ af T, cfg.enc.Base af T ↔ ConflictFree af T) → cfg.fuel ≥ (c.af.n + 2) * (extsCF c.af).length + 2 →
      wp False (rgAccInCc cfg c args cred) w
        (fun _ w' => w'.calls ≤ w.calls + (c.af.n + 2) * (extsCF c.af).length + 3)) := by
  -- the lemmas give `+ 1`; `+ 3` is the bound as the property states it ("SST/STG ≤ (n+2)|base|+3")
  have weaken : ∀ {k m : Nat}, m ≤ k + 1 → m ≤ k + 3 := fun h => Nat.le_trans h (Nat.add_le_add_left (by decide) _)
  exact ⟨fun hco hf => wp_mono _ _ _ _ (fun _ _ => weaken)
      (rgAccInCc_calls_sst cfg hk hco c args cred hwf (GrOK_of_wf _ hwf) w hb hpos hf),
    fun hcf hf => wp_mono _ _ _ _ (fun _ _ => weaken)
      (rgAccInCc_calls_stg cfg hk hcf c args cred hwf (GrOK_of_wf _ hwf) w hb hpos hf)⟩

/-- what the `wp False … calls` statements mean for runs of the interpreter -/
theorem calls_statement_meaning {α : Type} (p : Prog α) (w : World) (k : Nat)
    (h : wp False p w (fun _ w' => w'.calls ≤ w.calls + k)) (rs : List Reply) (hs : RunSound p rs w) :
    (∀ msg w', interp p rs w ≠ (.crashed msg, w')) ∧
    ∀ a w', interp p rs w = (.done a, w') → w'.calls ≤ w.calls + k := calls_of_wp p w k h rs hs

/-- **every query terminates**: for each of the seven static solver types, every entry point, every
view presenting a graph, every admissible encoder and every sound behaviour of the SAT solver, the
program reaches no crash node — no `unwrap` panic, no "unreachable", and the model's loop fuel (the
Rust loops have none) is never exhausted once it is at least `fuelFor N = (N+3)·2^N + N + 3` for ids
below `N`; a run on a reply list therefore either returns a conforming answer, or aborts on an
`unknown` reply (C17), or stops because the reply list given to the interpreter was too short -/
theorem every_query_terminates (sk : SolverKind) (cfg : Cfg) (hcfg : CfgOK sk cfg) (v : FwView) (g : G) (hv : v.Ok g)
    (e : Entry) (hargs : ∀ a, a ∈ e.argsList → g.live a = true)
    (p : Prog Ans) (hp : entryProg sk cfg v e = some p) (w : World) (hb : w.Bounded)
    (hfuel : cfg.fuel ≥ fuelFor (1 + v.maxId.getD 0)) (rs : List Reply) (hs : RunSound p rs w) :
    (∀ msg w', interp p rs w ≠ (.crashed msg, w')) ∧
    ((∃ ans w', interp p rs w = (.done ans, w') ∧ EntryOK sk.sem g e ans) ∨
     (∃ w', interp p rs w = (.abort, w')) ∨ (∃ w', interp p rs w = (.starved, w'))) :=
  ⟨static_never_panics sk cfg hcfg v g hv e hargs p hp w hb hfuel rs hs,
   static_run_total sk cfg hcfg v g hv e hargs p hp w hb hfuel rs hs⟩

/-! ### the dynamic solvers (`src/dynamics`): the same bounds on the framework as it stands

The dynamic solvers do not split the framework into components, so the bound is the one of a single
component: the whole current framework. -/

/-- complete and stable dynamic solvers, arbitrary replies: at most one SAT call per query, in whatever
state the update history left the solver -/
theorem dynamic_co_st_calls (fuel : Nat) (d : Dyn.DState) (q : Dyn.DQuery) (l : Nat) (h : d.enc.sem ≠ .PR) :
    Bounded (Dyn.query fuel d q l) 1 := by
  unfold Dyn.query
  cases hs : d.enc.sem <;> cases q <;> simp only
  · exact Dyn.dyn_cred_bounded d l
  · exact bounded_crash _ _
  · exact Dyn.dyn_cred_bounded d l
  · exact Dyn.dyn_stSkep_bounded d l
  · exact absurd hs h
  · exact absurd hs h

/-- the dynamic solvers with assumptions on attacks: at most one SAT call per query -/
theorem dynamic_attacks_calls (d : DynAtt.ADState) (q : Dyn.DQuery) (l : Nat) :
    Bounded (DynAtt.query d q l) 1 := by
  unfold DynAtt.query
  cases d.enc.sem <;> cases q
  · exact DynAtt.dynatt_cred_bounded d l
  · exact bounded_crash _ _
  · exact DynAtt.dynatt_cred_bounded d l
  · exact DynAtt.dynatt_stSkep_bounded d l
  · exact bounded_crash _ _
  · exact bounded_crash _ _

/-- **preferred dynamic solver.**  After any history `ops` of update calls and completed queries, a
skeptical query about an argument of the framework, on sound replies, does not panic (in particular
the model's loop fuel — an artefact, the Rust loop has none — is not exhausted once it is at least
`|CO| + 1`, which `prFuel` covers) and a run that returns has made at most `|CO|` SAT calls, hence at
most the property's `|CO| + |PR| + 1`, where `|CO|`, `|PR|` count the complete / preferred extensions
of the current framework (`Dyn.nCO`, `Dyn.nPR`; `counts_are_cardinalities`): no candidate set is
examined twice. -/
theorem dynamic_preferred_calls {fuel : Nat} {ops : List StoreOp} {d : Dyn.DState} {w : World}
    (hreach : Dyn.Reach .PR fuel ops d w) {l id : Nat} (hl : d.pending.Live id l) {fuel' : Nat}
    (hfuel : Dyn.prFuel d.pending ≤ fuel') (rs : List Reply)
    (hs : RunSound (Dyn.query fuel' d .skep l) rs w) :
    (∀ msg w', interp (Dyn.query fuel' d .skep l) rs w ≠ (.crashed msg, w')) ∧
    ∀ a w', interp (Dyn.query fuel' d .skep l) rs w = (.done a, w') →
      w'.calls ≤ w.calls + Dyn.nCO d.pending ∧
      w'.calls ≤ w.calls + (Dyn.nCO d.pending + Dyn.nPR d.pending + 1) := by
  obtain ⟨hq, henc, _⟩ := Dyn.reach_inv hreach
  have hwp : wp False (Dyn.query fuel' d .skep l) w (fun _ w' => w'.calls ≤ w.calls + Dyn.nCO d.pending) := by
    unfold Dyn.query
    rw [henc]
    exact wp_mono _ _ _ _ (fun _ _ hh => hh.1)
      (Dyn.dyn_pr_calls_co hq hl (Nat.le_trans (Dyn.nCO_succ_le_prFuel _) hfuel))
  obtain ⟨hnc, hdone⟩ := calls_of_wp _ w _ hwp rs hs
  exact ⟨hnc, fun a w' hi => ⟨hdone a w' hi, Nat.le_trans (hdone a w' hi)
    (Nat.add_le_add_left (Nat.le_trans (Nat.le_add_right _ _) (Nat.le_add_right _ _)) _)⟩⟩

theorem counts_are_cardinalities (st : Store) :
    Dyn.nCO st = Set.ncard {S : ASet | st.g.Complete S} ∧ Dyn.nPR st = Set.ncard {S : ASet | st.g.Preferred S} :=
  ⟨Dyn.nCO_eq_ncard st, Dyn.nPR_eq_ncard st⟩

/-- the fuel of the model's loop is an artefact: in a state satisfying the solver invariant, on sound
replies, every fuel of at least `|CO| + 1` gives the same run (same outcome, same trace, same number of
calls) -/
theorem dynamic_preferred_fuel_irrelevant {d : Dyn.DState} {w : World} (h : Dyn.QInv .PR d w) {l id : Nat}
    (hl : d.pending.Live id l) {f1 f2 : Nat} (h1 : Dyn.nCO d.pending + 1 ≤ f1) (h2 : f1 ≤ f2) {rs : List Reply}
    (hs : RunSound (Dyn.prSkepQuery f1 d l) rs w) :
    interp (Dyn.prSkepQuery f2 d l) rs w = interp (Dyn.prSkepQuery f1 d l) rs w := by
  have hnc := wp_no_crash _ rs w _ (Dyn.dyn_pr_calls_co h hl h1) hs
  have := Dyn.prSkepQuery_fuel_add d l rs w f1 hnc (f2 - f1)
  rwa [Nat.add_sub_cancel' h2] at this

end Crusta.C18
