import Crusta.Proofs.Prog
import Crusta.Model.Solvers
import Crusta.Model.Dyn
import Crusta.Model.DynAtt

/-!
# C17 — a failing SAT backend never turns into an answer (property theorems)

Every public entry point of every static solver is a `Prog` (`entryProg`), whose `solve` nodes hand
the continuation only `some model` / `none`; an `unknown` reply is turned into `abort` by the
interpreter — the model of `SolvingResult::unwrap_model`, through which all solve sites go.  The
theorems quantify over **all** solvers, encoders, frameworks, queries and reply lists.
-/

namespace Crusta.C17
open Crusta

/-- If the backend answers `unknown` at the call the run has reached, the query is aborted:
no status, no certificate — for every solver entry point, framework, query and reply history.
The hypothesis `_hp` only says that `p` is such an entry point; the proof does not use it
(`any_program`). -/
theorem unknown_at_any_call_aborts (sk : SolverKind) (cfg : Cfg) (v : FwView) (e : Entry)
    (p : Prog Ans) (_hp : entryProg sk cfg v e = some p)
    (pre post : List Reply) (w : World) (h : ∃ w1, interp p pre w = (.starved, w1)) :
    ∃ w2, interp p (pre ++ Reply.unknown :: post) w = (.abort, w2) :=
  unknown_aborts p pre post w h

/-- Conversely, a run that produced an answer made no more SAT calls than there were replies and
consumed no `unknown` reply (`_hp` is again unused). -/
theorem answer_implies_no_unknown (sk : SolverKind) (cfg : Cfg) (v : FwView) (e : Entry)
    (p : Prog Ans) (_hp : entryProg sk cfg v e = some p)
    (rs : List Reply) (w w' : World) (a : Ans) (h : interp p rs w = (.done a, w')) :
    w'.calls - w.calls ≤ rs.length ∧ Reply.unknown ∉ rs.take (w'.calls - w.calls) :=
  done_consumed_no_unknown p rs w w' a h

/-- the statement holds for any program whatsoever: it is a property of the interface, so a new
solve site written against it cannot convert a failure into an answer -/
theorem any_program {α : Type} (p : Prog α) (pre post : List Reply) (w : World)
    (h : ∃ w1, interp p pre w = (.starved, w1)) :
    ∃ w2, interp p (pre ++ Reply.unknown :: post) w = (.abort, w2) :=
  unknown_aborts p pre post w h

/-- the buffered dynamic solvers (`Model/Dyn.lean`, all three semantics): an `unknown` reply at the call a
query has reached aborts that query — whatever the state the update history left behind -/
theorem dynamic_query_unknown_aborts (fuel : Nat) (d : Dyn.DState) (q : Dyn.DQuery) (l : Nat)
    (pre post : List Reply) (w : World)
    (h : ∃ w1, interp (Dyn.query fuel d q l) pre w = (.starved, w1)) :
    ∃ w2, interp (Dyn.query fuel d q l) (pre ++ Reply.unknown :: post) w = (.abort, w2) :=
  unknown_aborts _ pre post w h

/-- the same for the attack-assumption dynamic solvers (`Model/DynAtt.lean`) -/
theorem dynamic_attacks_query_unknown_aborts (d : DynAtt.ADState) (q : Dyn.DQuery) (l : Nat)
    (pre post : List Reply) (w : World)
    (h : ∃ w1, interp (DynAtt.query d q l) pre w = (.starved, w1)) :
    ∃ w2, interp (DynAtt.query d q l) (pre ++ Reply.unknown :: post) w = (.abort, w2) :=
  unknown_aborts _ pre post w h

/-- a query of a buffered dynamic solver that returned consumed no `unknown` reply -/
theorem dynamic_answer_implies_no_unknown (fuel : Nat) (d : Dyn.DState) (q : Dyn.DQuery) (l : Nat)
    (rs : List Reply) (w w' : World) (a : Dyn.DState × AccAns)
    (h : interp (Dyn.query fuel d q l) rs w = (.done a, w')) :
    w'.calls - w.calls ≤ rs.length ∧ Reply.unknown ∉ rs.take (w'.calls - w.calls) :=
  done_consumed_no_unknown _ rs w w' a h

/-- non-vacuity of `_hp`: the stable single-extension entry point on a one-argument framework is a program -/
example : ∃ p, entryProg .ST ⟨.stb, 10⟩ (AF.view ⟨1, []⟩) .se = some p := ⟨_, rfl⟩

end Crusta.C17
