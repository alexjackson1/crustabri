import Crusta.Proofs.Oracle
import Crusta.Proofs.StaticAll

/-! # C02 — credulous acceptance (property theorems) -/

namespace Crusta.C02
open Crusta

/-- The judge accepts a credulous status iff it is YES exactly when some extension contains the
argument. -/
theorem dc_judge_exact (af : AF) (hwf : af.WF) (σ : Sem) (a : Nat) (st : Bool) :
    checkAnswer af ⟨σ, .DC, false, [a]⟩ (.acc st none) = .ok () ↔
      (st = true ↔ ∃ S, σ.Ext af S ∧ S a = true) := by
  rw [checkAnswer_iff af hwf]
  simp only [Conforms, CertConforms, List.mem_singleton, exists_eq_left, and_true]

/-- NO for every argument when there is no extension (the ST case) -/
theorem no_extension_no_credulous (af : AF) (hwf : af.WF) (σ : Sem) (a : Nat)
    (h : ¬ ∃ S, σ.Ext af S) : σ.credB af [a] = false :=
  Bool.eq_false_iff.2 fun hc => let ⟨S, hS, _⟩ := (credB_iff σ af hwf [a]).1 hc; h ⟨S, hS⟩


/-- **C02 on the solver programs**: the status of a credulous query (with or without certificate)
is YES exactly when some extension of `g` contains one of the queried arguments — for every
solver type offering the query, every sound run -/
theorem credulous_status_exact (sk : SolverKind) (cfg : Cfg) (hcfg : CfgOK sk cfg) (v : FwView) (g : G) (hv : v.Ok g)
    (cert : Bool) (args : List Nat) (hargs : ∀ a ∈ args, g.live a = true)
    (p : Prog Ans) (hp : entryProg sk cfg v (.dc cert args) = some p) (w : World) (hb : w.Bounded)
    (rs : List Reply) (hs : RunSound p rs w) (a : AccAns) (cv : Bool) (w' : World)
    (hrun : interp p rs w = (.done (.acc a cv), w')) :
    (a.status = true ↔ ∃ S, sk.sem.GExt g S ∧ HitsL args S) :=
  (static_answers_conform sk cfg hcfg v g hv (.dc cert args) hargs p hp w hb rs hs _ w' hrun).2.1.status_iff

end Crusta.C02
