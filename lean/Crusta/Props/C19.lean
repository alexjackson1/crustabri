import Crusta.Model.Equiv
import Crusta.Proofs.Deciders
import Crusta.Proofs.EquivSound
import Crusta.Proofs.EquivGrounded

/-! # C19 — arguments merged by the equivalence reduction are indistinguishable (property theorems)

The model of the reduction is `Model/Equiv`; its proofs are in `Proofs/EquivSound` and
`Proofs/EquivGrounded`, of which all theorems below but `sameComplete_exact` and `sameComplete_equiv`
are instances. -/

namespace Crusta.C19
open Crusta Crusta.Eq

/-- the criterion used to judge every merged pair is exact: identical membership in every complete
extension of the framework (textbook definition), for all frameworks -/
theorem sameComplete_exact (af : AF) (a b : Nat) :
    sameCompleteB af a b = true ↔ ∀ S, Complete af S → S a = S b := by
  unfold sameCompleteB
  simp only [List.all_eq_true, beq_iff_eq]
  constructor
  · intro h S hS
    obtain ⟨l, hl, rfl⟩ := exists_list_of_sub af S (co_sub hS)
    exact h l ((mem_extsCO af l).2 ⟨hl, hS⟩)
  · intro h e he
    exact h (ofList e) ((mem_extsCO af e).1 he).2

/-- indistinguishability is an equivalence relation, so "merge classes" is meaningful -/
theorem sameComplete_equiv (af : AF) :
    (∀ a, sameCompleteB af a a = true) ∧
    (∀ a b, sameCompleteB af a b = true → sameCompleteB af b a = true) ∧
    (∀ a b c, sameCompleteB af a b = true → sameCompleteB af b c = true → sameCompleteB af a c = true) := by
  simp only [sameComplete_exact]
  exact ⟨fun _ _ _ => trivial, fun _ _ h S hS => (h S hS).symm, fun _ _ _ h1 h2 S hS => (h1 S hS).trans (h2 S hS)⟩

/-- **C19, the reduction itself** (model `Crusta.Eq.computeClasses`, tied to the implementation by the
`equiv` family): on every well-formed framework the classes only merge arguments that belong to
exactly the same complete extensions -/
theorem merged_arguments_indistinguishable (af : AF) (hwf : af.WF) :
    ∀ c ∈ computeClasses af, ∀ a ∈ c.members, ∀ b ∈ c.members, ∀ S, Complete af S → S a = S b :=
  fun c hc => ((computeClasses_good af hwf).sound c hc).1

/-- the grounded class lies in every complete extension, the defeated class in none -/
theorem grounded_and_defeated_classes (af : AF) (hwf : af.WF) :
    ∀ c ∈ computeClasses af, (c.kind = .grounded → ∀ a ∈ c.members, ∀ S, Complete af S → S a = true) ∧
      (c.kind = .defeated → ∀ a ∈ c.members, ∀ S, Complete af S → S a = false) :=
  fun c hc => ((computeClasses_good af hwf).sound c hc).2

/-- the classes partition the arguments (total, no overlap) -/
theorem classes_are_a_partition (af : AF) (hwf : af.WF) :
    (∀ a, a < af.n → ∃ c ∈ computeClasses af, a ∈ c.members) ∧
    (∀ c ∈ computeClasses af, ∀ a ∈ c.members, a < af.n) ∧
    ((computeClasses af).flatMap (·.members)).Nodup :=
  have h := computeClasses_good af hwf
  ⟨fun a ha => mem_flat.1 (h.cover a ha), fun c hc a ha => h.lt a (mem_flat.2 ⟨c, hc, ha⟩), h.nodup⟩

/-- the two mappings are total and inverse at the level of classes: `init_to_reduced_arg` sends every
argument to a class that contains it, and `reduced_arg_to_init_args`, which lists the members of a class,
leads back to it -/
theorem mappings_inverse (af : AF) (hwf : af.WF) :
    ∀ a, a < af.n → ∃ c, (computeClasses af)[(initToReduced af.n (computeClasses af)).getD a 0]? = some c ∧
      a ∈ c.members := by
  intro a ha
  have h := computeClasses_good af hwf
  obtain ⟨c, hc, hac⟩ := mem_flat.1 (h.cover a ha)
  obtain ⟨i, hi⟩ := List.getElem?_of_mem hc
  exact ⟨c, (initToReduced_spec af.n _ h.nodup h.lt i c hi a hac).symm ▸ hi, hac⟩

/-- soundness of the propagation underlying the reduction -/
theorem propagation_sound (af : AF) (hwf : af.WF) (args : List Nat) (hargs : ∀ a ∈ args, a < af.n) :
    (∀ p d, propagate af (nAttacksTo af) args = some (p, d) →
      ∀ S, Complete af S → (∀ a ∈ args, S a = true) → (∀ x ∈ p, S x = true) ∧ (∀ x ∈ d, S x = false)) ∧
    (propagate af (nAttacksTo af) args = none → ¬ ∃ S, Complete af S ∧ ∀ a ∈ args, S a = true) :=
  propagate_sound af hwf args hargs

/-! ### "in particular all arguments of the grounded extension together, and all arguments it defeats together" -/

/-- every argument that is in every complete extension (i.e. in the grounded extension) is a member of
the class of kind `grounded` -/
theorem grounded_arguments_together (af : AF) (hwf : af.WF) (a : Nat) (ha : a < af.n)
    (hall : ∀ S, Complete af S → S a = true) :
    ∃ c ∈ computeClasses af, c.kind = .grounded ∧ a ∈ c.members :=
  Eq.grounded_arguments_together af hwf a ha hall

/-- every argument attacked by an argument of the grounded extension is a member of the class of kind
`defeated` -/
theorem defeated_arguments_together (af : AF) (hwf : af.WF) (a b : Nat) (ha : a < af.n) (hb : b < af.n)
    (hall : ∀ S, Complete af S → S a = true) (hatt : (a, b) ∈ af.atts) :
    ∃ c ∈ computeClasses af, c.kind = .defeated ∧ b ∈ c.members :=
  Eq.defeated_arguments_together af hwf a b ha hb hall hatt

/-- there is at most one class of each of the two special kinds: "together" means one class -/
theorem special_classes_unique (af : AF) (hwf : af.WF) :
    ∀ c1 ∈ computeClasses af, ∀ c2 ∈ computeClasses af, c1.kind = c2.kind → c1.kind ≠ .other → c1 = c2 :=
  Eq.special_classes_unique af hwf

/-- hence `init_to_reduced_arg` sends any two grounded arguments to the same reduced argument … -/
theorem grounded_same_reduced_argument (af : AF) (hwf : af.WF) (a b : Nat) (ha : a < af.n) (hb : b < af.n)
    (halla : ∀ S, Complete af S → S a = true) (hallb : ∀ S, Complete af S → S b = true) :
    (initToReduced af.n (computeClasses af)).getD a 0 = (initToReduced af.n (computeClasses af)).getD b 0 :=
  Eq.grounded_same_index af hwf a b ha hb halla hallb

/-- … and any two arguments defeated by the grounded extension as well -/
theorem defeated_same_reduced_argument (af : AF) (hwf : af.WF) (a a' b b' : Nat)
    (ha : a < af.n) (ha' : a' < af.n) (hb : b < af.n) (hb' : b' < af.n)
    (halla : ∀ S, Complete af S → S a = true) (halla' : ∀ S, Complete af S → S a' = true)
    (hatt : (a, b) ∈ af.atts) (hatt' : (a', b') ∈ af.atts) :
    (initToReduced af.n (computeClasses af)).getD b 0 = (initToReduced af.n (computeClasses af)).getD b' 0 :=
  Eq.defeated_same_index af hwf a a' b b' ha ha' hb hb' halla halla' hatt hatt'

/-- the class of kind `grounded` IS the grounded extension, the class of kind `defeated` the set it attacks -/
theorem grounded_class_is_the_grounded_extension (af : AF) (hwf : af.WF) :
    (∀ c ∈ computeClasses af, c.kind = .grounded → Grounded af (ofList c.members)) ∧
    (∀ c ∈ computeClasses af, c.kind = .defeated →
      ∀ G, Grounded af G → ∀ x, x ∈ c.members ↔ AttackedBy af G x) :=
  Eq.grounded_class_is_grounded af hwf

/-- non-vacuity: in the framework `0 → 1, 2 → 2` the unattacked argument 0 is in every complete extension, so the
hypotheses of `grounded_arguments_together` (for 0) and of `defeated_arguments_together` (for 1) are met -/
example : let af : AF := ⟨3, [(0, 1), (2, 2)]⟩
    af.WF ∧ (∀ S, Complete af S → S 0 = true) ∧
    (∃ c ∈ computeClasses af, c.kind = .grounded ∧ 0 ∈ c.members) ∧
    (∃ c ∈ computeClasses af, c.kind = .defeated ∧ 1 ∈ c.members) := by
  intro af
  have hwf : af.WF := by
    intro p hp
    have : p = (0, 1) ∨ p = (2, 2) := by simpa [af] using hp
    rcases this with rfl | rfl <;> simp [af]
  have h0 : ∀ S, Complete af S → S 0 = true := fun S hS => unattacked_in af hwf 0 (by decide) S hS
  exact ⟨hwf, h0, Eq.grounded_arguments_together af hwf 0 (by decide) h0,
    Eq.defeated_arguments_together af hwf 0 1 (by decide) (by decide) h0 (by simp [af])⟩

end Crusta.C19
