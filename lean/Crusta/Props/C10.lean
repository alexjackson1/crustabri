import Crusta.Proofs.EncAux
import Crusta.Proofs.EncExp
import Crusta.Proofs.EncHyb
import Crusta.Proofs.EncDecode

/-!
# C10 — CNF encodings characterise exactly the intended argument sets (property theorems)

For every well-formed compact framework (no bound on size), every assignment, and — for the
hybrid encoder — every switching threshold.  `X.S af ν` is the set obtained by translating a model
back (restricted to the argument variables, cf. `decode_eq_S`).
"no more": every model denotes an intended set;  "no fewer": every intended set has a model.
-/

namespace Crusta.C10
open Crusta

theorem auxCF_exact (af : AF) (hwf : af.WF) :
    (∀ ν, cnfTrue ν (Aux.cf af) = true ↔ ConflictFree af (Aux.S af ν)) ∧
    (∀ T, ConflictFree af T → ∃ ν, cnfTrue ν (Aux.cf af) = true ∧ Aux.S af ν = T) :=
  ⟨Aux.cf_iff af hwf, Aux.cf_surj af hwf⟩

theorem auxADM_exact (af : AF) (hwf : af.WF) :
    (∀ ν, cnfTrue ν (Aux.adm af) = true ↔ (Aux.PCons af ν ∧ Admissible af (Aux.S af ν))) ∧
    (∀ T, Admissible af T → ∃ ν, cnfTrue ν (Aux.adm af) = true ∧ Aux.S af ν = T) :=
  ⟨Aux.adm_iff af hwf, Aux.adm_surj af hwf⟩

theorem auxCO_exact (af : AF) (hwf : af.WF) :
    (∀ ν, cnfTrue ν (Aux.co af) = true ↔ (Aux.PCons af ν ∧ Complete af (Aux.S af ν))) ∧
    (∀ T, Complete af T → ∃ ν, cnfTrue ν (Aux.co af) = true ∧ Aux.S af ν = T) :=
  ⟨Aux.co_iff af hwf, Aux.co_surj af hwf⟩

/-- aux_var with range variables: in every model `r_a ⇔ a ∈ range(S)`, and every intended set
has such a model (all three base semantics) -/
theorem auxRange_exact (af : AF) (hwf : af.WF) :
    (∀ ν, cnfTrue ν (Aux.cfRange af) = true ↔ (Aux.PCons af ν ∧ ConflictFree af (Aux.S af ν) ∧ Aux.RCons af ν)) ∧
    (∀ ν, cnfTrue ν (Aux.admRange af) = true ↔ (Aux.PCons af ν ∧ Admissible af (Aux.S af ν) ∧ Aux.RCons af ν)) ∧
    (∀ ν, cnfTrue ν (Aux.coRange af) = true ↔ (Aux.PCons af ν ∧ Complete af (Aux.S af ν) ∧ Aux.RCons af ν)) ∧
    (∀ T, Sub af T → ∃ ν, Aux.S af ν = T ∧ Aux.PCons af ν ∧ Aux.RCons af ν) :=
  ⟨Aux.cfRange_iff af hwf, Aux.admRange_iff af hwf, Aux.coRange_iff af hwf,
   fun T hT => ⟨Aux.asgOf af T, Aux.asgOf_cons af T hT⟩⟩

theorem expCF_exact (af : AF) (hwf : af.WF) :
    (∀ ν, cnfTrue ν (Exp.cf af) = true ↔ ConflictFree af (Exp.S af ν)) ∧
    (∀ T, ConflictFree af T → ∃ ν, cnfTrue ν (Exp.cf af) = true ∧ Exp.S af ν = T) :=
  ⟨Exp.cf_iff af hwf, Exp.cf_surj af hwf⟩

theorem expCO_exact (af : AF) (hwf : af.WF) :
    (∀ ν, cnfTrue ν (Exp.co af) = true ↔ Complete af (Exp.S af ν)) ∧
    (∀ T, Complete af T → ∃ ν, cnfTrue ν (Exp.co af) = true ∧ Exp.S af ν = T) :=
  ⟨Exp.co_iff af hwf, Exp.co_surj af hwf⟩

/-- exp with range variables: a range variable is true only inside the range (and for every member
of the set); every intended set has a model whose range variables equal its range -/
theorem expRange_exact (af : AF) (hwf : af.WF) :
    (∀ ν, cnfTrue ν (Exp.cfRange af) = true ↔ (ConflictFree af (Exp.S af ν) ∧ Exp.RSound af ν)) ∧
    (∀ ν, cnfTrue ν (Exp.coRange af) = true ↔ (Complete af (Exp.S af ν) ∧ Exp.RSound af ν)) ∧
    (∀ T, Sub af T → ∃ ν, Exp.S af ν = T ∧ Exp.RSound af ν ∧
        ∀ a, a < af.n → (ν (Exp.r af.n a) = true ↔ InRange af T a)) :=
  ⟨Exp.cfRange_iff af hwf, Exp.coRange_iff af hwf, fun T hT => ⟨Exp.asgOf af T, Exp.asgOf_cons af T hT⟩⟩

/-! ## hybrid, for every threshold (in particular the one regenerated from the source) -/

theorem hybridCO_exact (thr : Nat) (af : AF) (hwf : af.WF) :
    (∀ ν, cnfTrue ν (Hyb.co thr af) = true ↔ (Complete af (Exp.S af ν) ∧ Hyb.DvC af ν (Hyb.run thr af))) ∧
    (∀ T, Complete af T → ∃ ν, cnfTrue ν (Hyb.co thr af) = true ∧ Exp.S af ν = T) :=
  ⟨Hyb.co_iff thr af hwf, Hyb.co_surj thr af hwf⟩

theorem hybridRange_exact (thr : Nat) (af : AF) (hwf : af.WF) :
    (∀ ν, cnfTrue ν (Hyb.coRange thr af) = true → (Complete af (Exp.S af ν) ∧ Exp.RSound af ν)) ∧
    (∀ T, Complete af T → ∃ ν, cnfTrue ν (Hyb.coRange thr af) = true ∧ Exp.S af ν = T ∧
        ∀ a, a < af.n → (ν (Exp.r af.n a) = true ↔ InRange af T a)) :=
  ⟨Hyb.coRange_sound thr af hwf, Hyb.coRange_exact thr af hwf⟩

/-- the disjunction variables allocated by `Hyb.run` (no range variables) lie above the argument
variables and are pairwise distinct -/
theorem hybrid_fresh (thr : Nat) (af : AF) (hwf : af.WF) (b v : Nat)
    (h : Hyb.dvOf (Hyb.run thr af) b = some v) :
    af.n < v ∧ ∀ b', Hyb.dvOf (Hyb.run thr af) b' = some v → b' = b := by
  obtain ⟨_, _, hlo, hinj⟩ := Hyb.run_dvOK hwf thr
  exact ⟨Nat.lt_of_lt_of_le (Nat.lt_add_of_pos_left Nat.one_pos) (hlo b v h).1,
    fun b' hb' => (hinj b b' v h hb').symm⟩

theorem stable_exact (af : AF) (hwf : af.WF) :
    (∀ ν, cnfTrue ν (Stb.enc af) = true ↔ Stable af (Stb.S af ν)) ∧
    (∀ T, Stable af T → ∃ ν, cnfTrue ν (Stb.enc af) = true ∧ Stb.S af ν = T) :=
  ⟨Stb.enc_iff af hwf, Stb.enc_surj af hwf⟩

/-- distinct arguments get distinct literals, never colliding with auxiliary or range variables -/
theorem layout_aux (n a b : Nat) (ha : a < n) :
    (Aux.x a = Aux.x b → a = b) ∧ Aux.x a ≠ Aux.p b ∧ Aux.x a ≠ Aux.r n b ∧ Aux.p a ≠ Aux.r n b ∧
    (Aux.r n a = Aux.r n b → a = b) ∧ 1 ≤ Aux.x a ∧ Aux.x a ≤ n * 2 ∧ Aux.r n a ≤ n * 3 :=
  ⟨Aux.x_inj, Aux.x_ne_p a b, Aux.x_ne_r ha b, Aux.p_ne_r ha b, Aux.r_inj, (Aux.x_le_reserve ha).1,
   (Aux.x_le_reserve ha).2, (Aux.r_le_reserve ha).2⟩

theorem layout_exp (n a b : Nat) (ha : a < n) :
    (Exp.x a = Exp.x b → a = b) ∧ Exp.x a ≠ Exp.r n b ∧ (Exp.r n a = Exp.r n b → a = b) ∧
    1 ≤ Exp.x a ∧ Exp.x a ≤ n ∧ Exp.r n a ≤ n * 2 :=
  ⟨Exp.x_inj, Exp.x_ne_r ha b, Exp.r_inj, (Exp.x_le_reserve ha).1, (Exp.x_le_reserve ha).2,
   Exp.r_le_reserve ha⟩

/-- `assignment_to_extension` returns exactly the set denoted by the model, for the three layouts -/
theorem decode_exact (af : AF) (m : List (Option Bool)) (a : Nat) :
    (a ∈ Aux.decode af.n m ↔ Aux.S af (asgOfModel m) a = true) ∧
    (a ∈ Exp.decode af.n m ↔ Exp.S af (asgOfModel m) a = true) ∧
    (a ∈ Stb.decode af.n m ↔ Stb.S af (asgOfModel m) a = true) :=
  ⟨Aux.decode_eq_S af m a, Exp.decode_eq_S af m a, Stb.decode_eq_S af m a⟩

/-! ## non-vacuity: the hypotheses are met by concrete frameworks -/

example : (⟨3, [(0, 1), (1, 0), (1, 2)]⟩ : AF).WF := by
  intro p hp; simp at hp; rcases hp with rfl | rfl | rfl <;> simp

end Crusta.C10
