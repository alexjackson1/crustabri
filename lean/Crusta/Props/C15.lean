import Crusta.Proofs.Sat
import Crusta.Proofs.SatRoundTrip

/-!
# C15 — SAT solver objects honour the incremental solving contract (property theorems)

What is proved is the *wrapper* (clause buffer, instance construction, reply interpretation,
assignment padding); soundness and completeness of CaDiCaL / the external solver are assumed and
validated on the runs performed.
-/

namespace Crusta.C15
open Crusta Crusta.Sat

/-- any assignment that satisfies the clauses added so far together with one unit clause per
assumption (the instance `Buffered.dimacs` writes: `C16.dimacs_text_exact`) satisfies every clause
added so far and every assumption -/
theorem reported_model_satisfies (b : Buffered) (as : List Lit) (ν : Asg)
    (h : cnfTrue ν (b.clauses ++ as.map (fun a => [a])) = true) :
    (∀ c ∈ b.clauses, clauseTrue ν c = true) ∧ (∀ a ∈ as, litTrue ν a = true) :=
  instance_model b as ν h

/-- by definition of the buffer model: `withAssumptions` stores nothing, `addClause` appends -/
theorem incremental (b : Buffered) (as : List Lit) (c : Clause) :
    (b.withAssumptions as).clauses = b.clauses ∧ (b.addClause c).clauses = b.clauses ++ [c] :=
  ⟨rfl, rfl⟩

/-- the model can be queried for every declared variable -/
theorem model_total (nv : Nat) (out : List UInt8) (m : List (Option Bool))
    (h : parseReply nv out = .sat m) : m.length = nv := model_length nv out m h

/-- after every history of operations, every variable of every buffered clause is within the
declared variable count -/
theorem nvars_covers (ops : List BOp) : (ops.foldl Buffered.apply {}).Inv := Buffered.inv_reachable ops

/-- CaDiCaL wrapper: the assignment handed back has `max(max_variable, reserved)` entries -/
theorem cad_model_length (values : List (Option Bool)) (maxVar reserved : Nat) :
    (cadModel values maxVar reserved).length = cadNVars maxVar reserved := by
  unfold cadModel cadNVars
  rw [List.length_append, List.length_append, List.length_take, List.length_replicate, List.length_replicate,
    Nat.add_comm (min _ _), Nat.sub_add_min_cancel, Nat.add_comm, Nat.sub_add_eq_max, Nat.max_comm]

/-- **the external-process wrapper is exactly as sound as the program it runs.**  After any
history of clause additions, reservations and earlier calls, and for any assumptions: the program
receives a text that denotes exactly the clauses added so far plus the assumptions of this call
(`readDimacs`), so if it answers — in any layout of `v` lines and comments — with a model `m` of
*what it received*, the wrapper reports exactly `m`, and `m` satisfies every clause added so far and
every assumption of the call; if it answers `s UNSATISFIABLE`, the wrapper reports unsatisfiable.
Nothing of the assumptions is kept for the next call (`incremental`). -/
theorem external_wrapper_sound (ops : List BOp) (as : List Lit)
    (hops : ∀ op ∈ ops, op.Proper) (has : ∀ a ∈ as, 1 ≤ a.var)
    (m : List Bool) (lay : Layout) (hlay : lay.Ok) (hm : m.length ≤ 9223372036854775807) :
    let b := ops.foldl Buffered.apply {}
    ∃ nv nc cls, readDimacs (b.dimacs as) = some (nv, nc, cls) ∧
      (cnfTrue (asgOfModel (m.map some)) cls = true →
        parseReply m.length (renderModel m lay) = .sat (m.map some) ∧
        (∀ c ∈ b.clauses, clauseTrue (asgOfModel (m.map some)) c = true) ∧
        (∀ a ∈ as, litTrue (asgOfModel (m.map some)) a = true)) ∧
      (∀ pre post, (∀ l ∈ pre, Noise l) → (∀ l ∈ post, Noise l) → parseReply nv (renderUnsat pre post) = .unsat) := by
  intro b
  obtain ⟨nv, nc, cls, hread, hcls, _, _, _⟩ := Sat.dimacs_header_exact ops as hops has
  refine ⟨nv, nc, cls, hread, ?_, fun pre post hpre hpost => Sat.parseReply_renderUnsat nv pre post hpre hpost⟩
  intro hsat
  have h2 := instance_model b as (asgOfModel (m.map some)) (by rw [← hcls]; exact hsat)
  exact ⟨Sat.parseReply_renderModel m lay hlay hm, h2.1, h2.2⟩

end Crusta.C15
