import Crusta.Proofs.StoreObs
import Crusta.Proofs.StoreOps

/-!
# C12 — the framework store is a faithful set model under any update history (property theorems)

`Store` mirrors `LabelSet` / `ArgumentSet` / `AAFramework` (tombstones, stale row indexes,
`swap_remove`).  The abstract view of a state is: the live arguments `Live i l` (id, label) and
the live attacks `HasAtt a b` (between ids).  All theorems hold for **every** reachable state,
i.e. after any finite sequence of `new_argument` / `remove_argument` / `new_attack` /
`remove_attack` over any labels (self-attacks, re-insertions, repeated removals, invalid operands).
-/

namespace Crusta.C12
open Crusta Crusta.Store

/-- every history runs without panic and ends in a state satisfying the store invariant -/
theorem reachable_inv (ops : List StoreOp) : ∃ s, runOps Store.empty ops = some s ∧ s.Inv :=
  inv_reachable ops

/-- every `.err` leaf of the result carries the store `s` -/
def ErrOnly (s : Store) : StoreRes → Prop
  | .err x => x = s
  | _ => True

theorem ErrOnly.ite {s : Store} {c : Prop} [Decidable c] {a b : StoreRes}
    (ha : ErrOnly s a) (hb : ErrOnly s b) : ErrOnly s (if c then a else b) := by
  by_cases h : c
  · rwa [if_pos h]
  · rwa [if_neg h]

theorem ErrOnly.of_err {s x : Store} {r : StoreRes} (h : ErrOnly s r) (e : r = .err x) : x = s := by
  subst e; exact h

theorem removeArgument_errOnly (s : Store) (l : Nat) : ErrOnly s (s.removeArgument l) := by
  unfold removeArgument
  cases s.lookup l with
  | none => exact rfl
  | some id => exact .ite trivial <| .ite trivial <| .ite trivial trivial

theorem newAttack_errOnly (s : Store) (a b : Nat) : ErrOnly s (s.newAttack a b) := by
  unfold newAttack
  cases s.getArg a with
  | none => exact rfl
  | some ai =>
    cases s.getArg b with
    | none => exact rfl
    | some bi => exact .ite trivial <| .ite trivial <| .ite trivial <| .ite trivial trivial

theorem removeAttack_errOnly (s : Store) (a b : Nat) : ErrOnly s (s.removeAttack a b) := by
  unfold removeAttack
  cases s.getArg a with
  | none => exact rfl
  | some ai =>
    cases s.getArg b with
    | none => exact rfl
    | some bi =>
      refine .ite trivial <| .ite trivial ?_
      cases findPos (row s.from_ ai) fun i => s.att i == some (ai, bi) with
      | none => exact rfl
      | some posFrom =>
        refine .ite trivial ?_
        cases findPos (row s.to_ bi) fun i => i == (row s.from_ ai).getD posFrom 0 <;> exact trivial

/-- an update rejected by the store leaves the state it returns identical to the input state -/
theorem err_unchanged (s s' : Store) (op : StoreOp) (h : s.step op = .err s') : s' = s := by
  cases op with
  | newArg l => cases h
  | remArg l => exact (removeArgument_errOnly s l).of_err h
  | newAtt a b => exact (newAttack_errOnly s a b).of_err h
  | remAtt a b => exact (removeAttack_errOnly s a b).of_err h

/-- `new_argument`: inserting an existing label changes nothing; a new label gets the next id
(the number of ids ever issued), every other argument and every attack is untouched -/
theorem new_argument_refines {s : Store} (hinv : s.Inv) (l : Nat) :
    ((∃ i, s.Live i l) → s.newArgument l = s) ∧
    ((∀ i, ¬ s.Live i l) →
      (∀ i l', (s.newArgument l).Live i l' ↔ (s.Live i l' ∨ (i = s.labels.length ∧ l' = l))) ∧
      (∀ a b, (s.newArgument l).HasAtt a b ↔ s.HasAtt a b)) := by
  constructor
  · rintro ⟨i, hi⟩; exact newArgument_existing hinv hi
  · intro h
    rw [newArgument_fresh hinv h]
    exact ⟨fun i l' => live_pushArg, fun a b => Iff.rfl⟩

/-- `remove_argument`: an unknown label is an error; otherwise exactly that argument and exactly
its incident attacks disappear -/
theorem remove_argument_refines {s : Store} (hinv : s.Inv) (l : Nat) :
    ((∀ id, ¬ s.Live id l) → s.removeArgument l = .err s) ∧
    (∀ id, s.Live id l → ∃ s', s.removeArgument l = .ok s' ∧
      (∀ i l', s'.Live i l' ↔ (s.Live i l' ∧ i ≠ id)) ∧
      (∀ a b, s'.HasAtt a b ↔ (s.HasAtt a b ∧ a ≠ id ∧ b ≠ id))) := by
  refine ⟨(removeArgument_spec hinv l).2, fun id hl => ⟨_, (removeArgument_spec hinv l).1 id hl, fun i l' => live_dropArg, ?_⟩⟩
  intro a b
  constructor
  · rintro ⟨i, hi⟩
    obtain ⟨h0, h1, h2⟩ := (hinv.core.att_dropArg l id i (a, b)).1 hi
    exact ⟨⟨i, h0⟩, h1, h2⟩
  · rintro ⟨⟨i, hi⟩, h1, h2⟩
    exact ⟨i, (hinv.core.att_dropArg l id i (a, b)).2 ⟨hi, h1, h2⟩⟩

/-- `new_attack`: unknown endpoint is an error; an existing attack changes nothing; otherwise
exactly that attack is added -/
theorem new_attack_refines {s : Store} (hinv : s.Inv) (la lb : Nat) :
    (((∀ a, ¬ s.Live a la) ∨ (∀ b, ¬ s.Live b lb)) → s.newAttack la lb = .err s) ∧
    (∀ a b, s.Live a la → s.Live b lb → ∃ s', s.newAttack la lb = .ok s' ∧
      (∀ i l', s'.Live i l' ↔ s.Live i l') ∧
      (∀ c d, s'.HasAtt c d ↔ (s.HasAtt c d ∨ (c = a ∧ d = b))) ∧
      (s.HasAtt a b → s' = s)) := by
  refine ⟨(newAttack_spec hinv la lb).2, ?_⟩
  intro a b ha hb
  by_cases hh : s.HasAtt a b
  · exact ⟨s, ((newAttack_spec hinv la lb).1 a b ha hb).1 hh, fun _ _ => Iff.rfl,
      fun c d => ⟨.inl, fun h => h.elim id fun e => e.1 ▸ e.2 ▸ hh⟩, fun _ => rfl⟩
  · exact ⟨_, ((newAttack_spec hinv la lb).1 a b ha hb).2 hh, fun _ _ => Iff.rfl, hasAtt_pushAtt a b,
      fun h => absurd h hh⟩

/-- `remove_attack`: unknown endpoint or absent attack is an error; otherwise exactly that attack
disappears -/
theorem remove_attack_refines {s : Store} (hinv : s.Inv) (la lb : Nat) :
    (((∀ a, ¬ s.Live a la) ∨ (∀ b, ¬ s.Live b lb)) → s.removeAttack la lb = .err s) ∧
    (∀ a b, s.Live a la → s.Live b lb →
      (¬ s.HasAtt a b → s.removeAttack la lb = .err s) ∧
      (s.HasAtt a b → ∃ s', s.removeAttack la lb = .ok s' ∧
        (∀ i l', s'.Live i l' ↔ s.Live i l') ∧
        (∀ c d, s'.HasAtt c d ↔ (s.HasAtt c d ∧ ¬ (c = a ∧ d = b))))) := by
  refine ⟨(removeAttack_spec hinv la lb).2, ?_⟩
  intro a b ha hb
  refine ⟨((removeAttack_spec hinv la lb).1 a b ha hb).2, ?_⟩
  rintro ⟨k, hk⟩
  obtain ⟨pf, pt, he, _⟩ := ((removeAttack_spec hinv la lb).1 a b ha hb).1 k hk
  exact ⟨_, he, fun _ _ => Iff.rfl, hasAtt_dropAtt hinv hk⟩

/-- counts and iterators agree with the abstract view: `n_attacks` counts the live attacks,
`iter_attacks` lists exactly them, `iter_attacks_from/to` exactly those from / to the argument -/
theorem observers_agree {s : Store} (hinv : s.Inv) :
    s.nAttacks = s.iterAttacks.length ∧
    (∀ a b, (a, b) ∈ s.iterAttacks ↔ s.HasAtt a b) ∧
    (∀ a p, p ∈ s.iterFrom a ↔ (p.1 = a ∧ s.HasAtt p.1 p.2)) ∧
    (∀ b p, p ∈ s.iterTo b ↔ (p.2 = b ∧ s.HasAtt p.1 p.2)) ∧
    (∀ i j a b, s.att i = some (a, b) → s.att j = some (a, b) → i = j) :=
  ⟨nAttacks_eq hinv, mem_iterAttacks, mem_iterFrom hinv, mem_iterTo hinv, hinv.att_nodup⟩

/-- ids are unique and labels are unique among live arguments; lookup by label finds exactly the
live argument with that label; attacks only relate live arguments -/
theorem ids_and_labels {s : Store} (hinv : s.Inv) :
    (∀ i j l, s.Live i l → s.Live j l → i = j) ∧
    (∀ l i, s.getArg l = some i ↔ s.Live i l) ∧
    (∀ a b, s.HasAtt a b → s.hasId a = true ∧ s.hasId b = true) :=
  ⟨hinv.label_inj, fun _ _ => getArg_eq_some hinv, fun a b ⟨i, hi⟩ => hinv.ends_live i a b hi⟩

/-- ids are never reused: across any accepted operation the range of ids only grows, and an id of
the old range that is live afterwards was live before, with the same label (so a new argument
gets an id no argument ever had); that live arguments persist is in the `*_refines` theorems -/
theorem ids_stable {s s' : Store} (hinv : s.Inv) (op : StoreOp) (h : s.step op = .ok s') :
    s.labels.length ≤ s'.labels.length ∧
    (∀ i l, s'.Live i l → i < s.labels.length → s.Live i l) := by
  have same : s.labels.length ≤ s.labels.length ∧ ∀ i l, s.Live i l → i < s.labels.length → s.Live i l :=
    ⟨Nat.le_refl _, fun _ _ h _ => h⟩
  rcases step_upd hinv op with he | he | ⟨x, he, hu⟩
  · cases he.symm.trans h
  · cases he.symm.trans h; exact same
  · cases he.symm.trans h
    obtain ⟨_, hu⟩ := hu
    cases hu with
    | pushArg hl =>
      refine ⟨(length_labels_pushArg s _).symm ▸ Nat.le_succ _, fun i l' hli hlt => ?_⟩
      rcases live_pushArg.1 hli with h | ⟨h, _⟩
      · exact h
      · exact absurd hlt (h ▸ Nat.lt_irrefl _)
    | pushAtt => exact same
    | dropAtt => exact same
    | dropArg hl => exact ⟨Nat.le_of_eq (List.length_set ..).symm, fun i l' hli _ => (live_dropArg.1 hli).1⟩

/-- non-vacuity: a concrete history with a self-attack, a removal and a re-insertion runs -/
example : ∃ s, runOps Store.empty [.newArg 1, .newArg 2, .newAtt 1 1, .newAtt 1 2, .remArg 1, .newArg 1] = some s ∧
    s.nArguments = 2 := ⟨_, rfl, rfl⟩

end Crusta.C12
