import Crusta.Model.Dyn

/-!
# Model of the *assumptions-on-attacks* dynamic solvers (`src/dynamics/assumptions_on_attacks/*`)

* `AEnc` — `DynamicConstraintsEncoder` (attacks variant): `arg_id_to_solver_var`, `solver_vars`,
  `n_arg_vars`, `next_dummy_arg_var`, `need_to_encode`, the solver currently held in the shared
  `Rc<RefCell<Box<dyn SatSolver>>>` (a *new* solver is obtained from the factory at every
  re-encoding), `assumptions(af)`, `new_argument`, `remove_argument`, the two
  `update_encoding_for_*_semantics`;
* `ADState` — `BufferedDynamicConstraintsEncoder` (attacks variant) together with the solver's own
  framework: event buffer with cached computations (the `Event` type and the two cache lookups are
  those of `Crusta.Dyn`: the Rust code is the same), the eagerly validated `pending_af`, the replay
  of the buffer followed by `update_encoding`;
* the query procedures of `DynamicCompleteSemanticsSolverAttacks` (credulous) and
  `DynamicStableSemanticsSolverAttacks` (credulous and skeptical).

The reservation factor `arg_factor : f64` is modelled by a rational `num / den`;
`(n_args as f64 * arg_factor) as usize` is `n_args * num / den` (floor).  For the factors exercised
(1, 3/2, 2, 37/10) this equals the `f64` computation for every `n_args ≤ 10^6` (checked by
`tools/validate_att/check_factor.py`).

Labels are naturals; answers carry **ids** of the solver's framework.
-/

namespace Crusta.DynAtt
open Prog (addClause addClauses)
open Crusta.Dyn (DSem Event UpdRes cachedCred cachedSkep foldProg needArg needLabels)

inductive AVarType
  | arg (id : Nat)
  | disj (id : Nat)
  | attack
  | ignored
deriving Repr, DecidableEq

structure AEnc where
  sem : DSem
  /-- `arg_factor` as a fraction -/
  num : Nat := 2
  den : Nat := 1
  /-- index of the solver held in the shared cell -/
  solver : Nat := 0
  argVar : List (Option Nat) := []
  vars : List AVarType := [.ignored]
  nextDummy : Nat := 0
  nArgVars : Nat := 0
  needToEncode : Bool := true
deriving Repr

/-- `(n_args as f64 * arg_factor) as usize` -/
def AEnc.scaled (e : AEnc) (nArgs : Nat) : Nat := nArgs * e.num / e.den

/-- variable of the attack `attacker → target` (both given as argument variables, 1-based) -/
def attVar (n target attacker : Nat) : Nat := 1 + n + n * (target - 1) + attacker - 1

/-- variable of the attacker disjunction of the argument variable `v` (complete semantics) -/
def disjVar (n v : Nat) : Nat := v + n * (1 + n)

/-! ## `assumptions(af)` -/

/-- position in the assumption vector of the attack `p = (attacker id, attacked id)` -/
def AEnc.attIndex (e : AEnc) (p : Nat × Nat) : Option Nat :=
  match e.argVar.getD p.2 none, e.argVar.getD p.1 none with
  | some xt, some xa =>
    if xt = 0 ∨ xa = 0 then none else some ((xt - 1) * e.nArgVars + xa - 1)
  | _, _ => none

def setAssumptions (e : AEnc) : List (Nat × Nat) → List Lit → Option (List Lit)
  | [], acc => some acc
  | p :: rest, acc =>
    match e.attIndex p with
    | none => none
    | some i => if i < acc.length then setAssumptions e rest (acc.set i (pl (1 + i + e.nArgVars))) else none

def AEnc.assumptionsOpt (e : AEnc) (st : Store) : Option (List Lit) :=
  setAssumptions e st.iterAttacks
    ((List.range (e.nArgVars * e.nArgVars)).map (fun i => nl (1 + e.nArgVars + i)))

def AEnc.assumptions (e : AEnc) (st : Store) : Prog (List Lit) :=
  match e.assumptionsOpt st with
  | some a => .pure a
  | none => .crash "assumptions: attack on an argument without a solver variable"

/-! ## updates seen by the encoder -/

/-- `DynamicConstraintsEncoder::new_argument` -/
def encNewArgument (st : Store) (e : AEnc) (l : Nat) : Prog (Store × AEnc) :=
  let st' := st.newArgument l
  if e.needToEncode || e.nextDummy ≥ e.nArgVars then .pure (st', { e with needToEncode := true })
  else
    match st'.maxId with
    | none => .crash "max_argument_id on an empty framework"
    | some id =>
      if e.nextDummy ≥ e.vars.length then .crash "index out of bounds (solver_vars)" else
      let vars := e.vars.set e.nextDummy (.arg id)
      match e.sem with
      | .CO =>
        if disjVar e.nArgVars e.nextDummy ≥ vars.length then .crash "index out of bounds (solver_vars)" else
        .pure (st', { e with argVar := e.argVar ++ [some e.nextDummy],
                             vars := vars.set (disjVar e.nArgVars e.nextDummy) (.disj id),
                             nextDummy := e.nextDummy + 1 })
      | _ =>
        .pure (st', { e with argVar := e.argVar ++ [some e.nextDummy], vars := vars,
                             nextDummy := e.nextDummy + 1 })

/-- `DynamicConstraintsEncoder::remove_argument` (the caller unwraps) -/
def encRemoveArgument (st : Store) (e : AEnc) (l : Nat) : Prog (Store × AEnc) :=
  match st.getArg l with
  | none => .crash "remove_argument: no such argument"
  | some id =>
    match st.removeArgument l with
    | .ok st' =>
      if id < e.argVar.length then
        match e.argVar.getD id none with
        | some v =>
          if v ≥ e.vars.length then .crash "index out of bounds (solver_vars)" else
          (addClause e.solver [pl v]).bind fun _ =>
          .pure (st', { e with vars := e.vars.set v .ignored, argVar := e.argVar.set id none })
        | none => .pure (st', { e with argVar := e.argVar.set id none })
      else .pure (st', e)
    | _ => .crash "remove_argument failed"

def encAttack (add : Bool) (st : Store) (e : AEnc) (a b : Nat) : Prog (Store × AEnc) :=
  match (if add then st.newAttack a b else st.removeAttack a b) with
  | .ok st' => .pure (st', e)
  | _ => .crash "attack update failed"

/-! ## (re-)encoding -/

/-- `arg_id_to_solver_var` after an encoding: the live arguments get the variables 1, 2, … in id order -/
def freshArgVar (st : Store) : List (Option Nat) :=
  (st.liveArgs.zipIdx).foldl (fun t p => t.set p.1.1 (some (p.2 + 1)))
    (List.replicate (1 + st.maxId.getD 0) none)

/-- the clauses emitted for the pair (argument variable `x`, attacker variable `a`) and the fresh
auxiliary variable `u` — stable semantics: `u ↔ a ∧ att(x,a)`, and conflict-freeness -/
def stCell (n x a u : Nat) : Cnf :=
  [[nl u, pl a], [nl u, pl (attVar n x a)], [pl u, nl a, nl (attVar n x a)],
   [nl (attVar n x a), nl x, nl a]]

/-- complete semantics, first loop: `u ↔ ¬d(a) ∧ att(x,a)`, and `x` in ⇒ its attacker `a` is attacked -/
def coCell1 (n x a u : Nat) : Cnf :=
  [[nl u, nl (disjVar n a)], [nl u, pl (attVar n x a)], [pl u, pl (disjVar n a), nl (attVar n x a)],
   [nl (attVar n x a), nl x, pl (disjVar n a)]]

/-- complete semantics, second loop: `u ↔ a ∧ att(x,a)`, and `a` in ⇒ `d(x)` -/
def coCell2 (n x a u : Nat) : Cnf :=
  [[nl u, pl a], [nl u, pl (attVar n x a)], [pl u, nl a, nl (attVar n x a)],
   [nl (attVar n x a), pl (disjVar n x), nl a]]

/-- the inner loops `(1..=n_arg_vars).for_each(|attacker_var| …)`: one `n_vars()` call per attacker
variable (the auxiliary variable is `n_vars() + 1`), then the four clauses of the cell; returns the
long clause being accumulated -/
def auxLoop (k : Nat) (cell : Nat → Nat → Cnf) : List Nat → Clause → Prog Clause
  | [], acc => .pure acc
  | a :: rest, acc =>
    .nVars k fun nv =>
      (addClauses k (cell a (nv + 1))).bind fun _ => auxLoop k cell rest (acc ++ [pl (nv + 1)])

/-- the outer loops `(1..=n_arg_vars).for_each(|arg_var| …)`: clauses emitted before the inner loop,
the inner loop started with the literal `head x`, then the long clause -/
def rowLoop (k n : Nat) (pre : Nat → Cnf) (head : Nat → Lit) (cell : Nat → Nat → Nat → Cnf) :
    List Nat → Prog Unit
  | [] => .pure ()
  | x :: rest =>
    (addClauses k (pre x)).bind fun _ =>
    (auxLoop k (cell x) ((List.range n).map (· + 1)) [head x]).bind fun c =>
    .clause k c (rowLoop k n pre head cell rest)

def stOuter (k n : Nat) (xs : List Nat) : Prog Unit :=
  rowLoop k n (fun _ => []) pl (stCell n) xs

def coOuter1 (k n : Nat) (xs : List Nat) : Prog Unit :=
  rowLoop k n (fun x => [[nl x, nl (disjVar n x)]]) pl (coCell1 n) xs

def coOuter2 (k n : Nat) (xs : List Nat) : Prog Unit :=
  rowLoop k n (fun _ => []) (fun x => nl (disjVar n x)) (coCell2 n) xs

/-- `solver_vars` after an encoding -/
def freshVars (sem : DSem) (st : Store) (n : Nat) : List AVarType :=
  let pad := List.replicate (n - st.nArguments) AVarType.ignored
  let base := [AVarType.ignored] ++ st.liveArgs.map (fun p => AVarType.arg p.1) ++ pad ++
    List.replicate (n * n) AVarType.attack
  match sem with
  | .CO => base ++ st.liveArgs.map (fun p => AVarType.disj p.1) ++ pad
  | _ => base

/-- the encoder state right after a re-encoding on solver `k` -/
def AEnc.reencoded (e : AEnc) (st : Store) (k : Nat) : AEnc :=
  { e with solver := k, needToEncode := false, nArgVars := e.scaled st.nArguments,
           vars := freshVars e.sem st (e.scaled st.nArguments), argVar := freshArgVar st,
           nextDummy := st.nArguments + 1 }

/-- `DynamicConstraintsEncoder::update_encoding` -/
def AEnc.updateEncoding (e : AEnc) (st : Store) : Prog AEnc :=
  if e.sem == .PR then .crash "update_encoding: semantics not handled" else
  if !e.needToEncode then .pure e else
  let n := e.scaled st.nArguments
  -- `n_arg_vars - n_args` on `usize`: only reachable with a factor below 1
  if n < st.nArguments then .crash "attempt to subtract with overflow (arg_factor < 1)" else
  let xs := (List.range n).map (· + 1)
  .newSolver fun k =>
    match e.sem with
    | .ST =>
      .reserve k (n * (1 + n)) <|
      (stOuter k n xs).bind fun _ => .pure (e.reencoded st k)
    | _ =>
      .reserve k (n * (2 + n)) <|
      (coOuter1 k n xs).bind fun _ =>
      (coOuter2 k n xs).bind fun _ => .pure (e.reencoded st k)

/-! ## the buffer -/

structure ADState where
  af : Store := Store.empty
  pending : Store := Store.empty
  enc : AEnc
  buffer : List Event := []
  next : Nat := 0
deriving Repr

def ADState.init (sem : DSem) (num den : Nat) : ADState := { enc := { sem := sem, num := num, den := den } }

/-- the four update entry points: validated against `pending`, buffered only when they change it -/
def ADState.update (d : ADState) : StoreOp → ADState × UpdRes
  | .newArg l =>
    let p := d.pending.newArgument l
    if p.nArguments > d.pending.nArguments then ({ d with pending := p, buffer := d.buffer ++ [.newArg l] }, .ok)
    else ({ d with pending := p }, .ok)
  | .remArg l =>
    match d.pending.removeArgument l with
    | .ok p => ({ d with pending := p, buffer := d.buffer ++ [.remArg l] }, .ok)
    | .err _ => (d, .err)
    | .panic => (d, .panic)
  | .newAtt a b =>
    match d.pending.newAttack a b with
    | .ok p =>
      if p.nAttacks > d.pending.nAttacks then ({ d with pending := p, buffer := d.buffer ++ [.newAtt a b] }, .ok)
      else ({ d with pending := p }, .ok)
    | .err _ => (d, .err)
    | .panic => (d, .panic)
  | .remAtt a b =>
    match d.pending.removeAttack a b with
    | .ok p => ({ d with pending := p, buffer := d.buffer ++ [.remAtt a b] }, .ok)
    | .err _ => (d, .err)
    | .panic => (d, .panic)

def replayEvent (r : Store × AEnc) : Event → Prog (Store × AEnc)
  | .newArg l => encNewArgument r.1 r.2 l
  | .remArg l => encRemoveArgument r.1 r.2 l
  | .newAtt a b => encAttack true r.1 r.2 a b
  | .remAtt a b => encAttack false r.1 r.2 a b
  | _ => .pure r

/-- `BufferedDynamicConstraintsEncoder::update_encoding` -/
def ADState.updateEncoding (d : ADState) : Prog ADState :=
  (foldProg replayEvent (d.buffer.drop d.next) (d.af, d.enc)).bind fun r =>
  (r.2.updateEncoding r.1).bind fun e =>
  .pure { d with af := r.1, enc := e, next := d.buffer.length }

/-! ## decoding models -/

/-- `solver_var_to_arg` -/
def AEnc.varToArg (e : AEnc) (v : Nat) : Option Nat :=
  match e.vars.getD v .ignored with
  | .arg id => some id
  | _ => none

def AEnc.argsWhere (e : AEnc) (m : Model) (p : Option Bool → Bool) : List Nat :=
  (m.zipIdx).filterMap (fun q => if p q.1 then e.varToArg (q.2 + 1) else none)

def AEnc.extension (e : AEnc) (m : Model) : List Nat := e.argsWhere m (fun b => b == some true)

/-- `arg_to_lit` -/
def ADState.argLit (d : ADState) (l : Nat) : Prog Nat :=
  match d.af.getArg l with
  | none => .crash "arg_to_lit: no such argument"
  | some id =>
    match d.enc.argVar.getD id none with
    | some x => .pure x
    | none => .crash "arg_to_lit: argument without a solver variable"

def fromCache (d : ADState) (b : Bool) (e : List Nat) : Prog (ADState × AccAns) :=
  (needLabels d.af e).bind fun _ => .pure (d, ⟨b, some e⟩)

/-! ## queries -/

/-- the SAT call of a credulous query, on an up-to-date encoding -/
def credSolve (d : ADState) (l : Nat) : Prog (ADState × AccAns) :=
  (d.enc.assumptions d.af).bind fun as =>
  (d.argLit l).bind fun x =>
  .solve d.enc.solver (as ++ [pl x]) fun r =>
    match r with
    | some m =>
      (needLabels d.af (d.enc.argsWhere m (fun b => b != some false))).bind fun acc =>
      (needLabels d.af (d.enc.extension m)).bind fun _ =>
      .pure ({ d with buffer := d.buffer ++ [.cred acc [] (some (d.enc.extension m))] },
             ⟨true, some (d.enc.extension m)⟩)
    | none => .pure ({ d with buffer := d.buffer ++ [.cred [] [l] none] }, ⟨false, none⟩)

/-- credulous acceptance (both solvers) -/
def credQuery (d : ADState) (l : Nat) : Prog (ADState × AccAns) :=
  match cachedCred d.buffer.reverse l with
  | (some b, some e) => fromCache d b e
  | _ => d.updateEncoding.bind fun d' => credSolve d' l

/-- the SAT call of a skeptical query of the stable solver, on an up-to-date encoding -/
def stSkepSolve (d : ADState) (l : Nat) : Prog (ADState × AccAns) :=
  (d.enc.assumptions d.af).bind fun as =>
  (d.argLit l).bind fun x =>
  .solve d.enc.solver (as ++ [nl x]) fun r =>
    match r with
    | some m =>
      (needLabels d.af (d.enc.argsWhere m (fun b => b != some true))).bind fun ref =>
      (needLabels d.af (d.enc.extension m)).bind fun _ =>
      .pure ({ d with buffer := d.buffer ++ [.skep [] ref (some (d.enc.extension m))] },
             ⟨false, some (d.enc.extension m)⟩)
    | none =>
      (needArg d.af l).bind fun id =>
      (needLabels d.af ((d.af.iterFrom id).map (·.2))).bind fun ref =>
      .pure ({ d with buffer := d.buffer ++ [.skep [l] ref none] }, ⟨true, none⟩)

/-- skeptical acceptance of the stable solver -/
def stSkepQuery (d : ADState) (l : Nat) : Prog (ADState × AccAns) :=
  match cachedSkep d.buffer.reverse l with
  | (some b, some e) => fromCache d b e
  | _ => d.updateEncoding.bind fun d' => stSkepSolve d' l

def query (d : ADState) (q : Crusta.Dyn.DQuery) (l : Nat) : Prog (ADState × AccAns) :=
  match d.enc.sem, q with
  | .CO, .cred => credQuery d l
  | .ST, .cred => credQuery d l
  | .ST, .skep => stSkepQuery d l
  | _, _ => .crash "not implemented"

end Crusta.DynAtt
