import Crusta.Model.Cnf
import Crusta.Model.Readers

/-!
# Model of the SAT solver wrappers (`sat/buffered_sat_solver.rs`, `external_sat_solver.rs`,
`cadical_solver.rs`) and of the DIMACS exchange

* `Buffered`: the clause buffer, `n_vars` / `reserve`, the throw-away DIMACS instance (preamble +
  clauses + assumption units), and the reply parser (`parseReply`);
* `Pipe`: an abstract model of the parent / child / pipe interplay with the parent's policy as a
  parameter (wait-then-drain vs drain-then-wait);
* `cadModel`, `cadNVars`: the assignment padding and `n_vars` of the CaDiCaL wrapper over an abstract solver.
-/

namespace Crusta.Sat
open Crusta Crusta.IO

/-! ## BufferedSatSolver -/

structure Buffered where
  nVars : Nat := 0
  clauses : List Clause := []      -- in insertion order (the text buffer, structurally)
deriving Repr

namespace Buffered

def addClause (b : Buffered) (c : Clause) : Buffered :=
  { nVars := c.foldl (fun m l => max m l.var) b.nVars, clauses := b.clauses ++ [c] }

def reserve (b : Buffered) (n : Nat) : Buffered := if n > b.nVars then { b with nVars := n } else b

/-- variables are counted over clauses, reservations **and assumptions** (after the repair of F6) -/
def withAssumptions (b : Buffered) (as : List Lit) : Buffered :=
  { b with nVars := as.foldl (fun m l => max m l.var) b.nVars }

def intStr (i : Int) : Str := strOf (toString i)

def clauseLine (c : Clause) : Str := c.flatMap (fun l => intStr l.toInt ++ [32]) ++ [48, 10]

/-- the DIMACS text handed to the external solver for one call -/
def dimacs (b : Buffered) (as : List Lit) : Str :=
  let b' := b.withAssumptions as
  strOf "p cnf " ++ natToStr b'.nVars ++ [32] ++ natToStr (b'.clauses.length + as.length) ++ [10] ++
  b'.clauses.flatMap clauseLine ++ as.flatMap (fun a => intStr a.toInt ++ strOf " 0\n")

end Buffered

inductive PReply
  | sat (m : List (Option Bool))
  | unsat
  | unknown
  | abort (why : String)
deriving Repr, DecidableEq

structure PSt where
  status : Option Bool := none
  asg : List (Option Bool)
  seen : Bool := false
  ended : Bool := false

/-- `split_ascii_whitespace`: ASCII blanks only (space, \t, \n, \x0C, \r) -/
def isAsciiWs (c : Nat) : Bool := c == 32 || c == 9 || c == 10 || c == 12 || c == 13

def splitAsciiWs (l : Str) : List Str :=
  let rec go (l : Str) (cur : Str) (acc : List Str) : List Str :=
    match l with
    | [] => (if cur.isEmpty then acc else cur.reverse :: acc).reverse
    | c :: cs => if isAsciiWs c then go cs [] (if cur.isEmpty then acc else cur.reverse :: acc) else go cs (c :: cur) acc
  go l [] []

def vTokens (nVars : Nat) (st : PSt) : List Str → Except String PSt
  | [] => .ok st
  | w :: ws =>
    match parseIsize w with
    | none => .error "not a literal"
    | some n =>
      if n == 0 then
        if st.ended then .error "multiple zeroes on value line" else vTokens nVars { st with ended := true } ws
      else
        let v := n.natAbs - 1
        if v ≥ nVars then .error "variable out of bounds"
        else vTokens nVars { st with asg := st.asg.set v (some (decide (n > 0))) } ws

def replyLine (nVars : Nat) (st : PSt) (line : Option Str) : Except String PSt :=
  match line with
  | none => .error "invalid UTF-8 in solver output"
  | some l =>
    if l == strOf "s SATISFIABLE" then
      (if st.status.isSome then .error "multiple status lines" else .ok { st with status := some true })
    else if l == strOf "s UNSATISFIABLE" then
      (if st.status.isSome then .error "multiple status lines" else .ok { st with status := some false })
    else if (strOf "v ").isPrefixOf l then
      vTokens nVars { st with seen := true } ((splitAsciiWs l).drop 1)
    else if (strOf "c ").isPrefixOf l || l == strOf "c" || l == strOf "v" || l.isEmpty then .ok st
    else .error "unexpected line"

/-- the reply parser of `BufferedSatSolver::solve_under_assumptions` (after the repair of F8) -/
def parseReply (nVars : Nat) (out : List UInt8) : PReply :=
  match foldLines (replyLine nVars) { asg := List.replicate nVars none } (lines out) with
  | .error e => .abort e
  | .ok st =>
    match st.status with
    | some true => if st.seen && st.ended then .sat st.asg else .unknown
    | some false => .unsat
    | none => .unknown

/-! ## the exchange: who waits for whom -/

namespace Pipe

inductive Policy | waitThenDrain | drainThenWait
deriving Repr, DecidableEq

/-- child still has `todo` bytes to print, `buf` bytes sit in the pipe (capacity `cap`) -/
structure St where
  todo : Nat
  buf : Nat
  exited : Bool
  reaped : Bool
deriving Repr, DecidableEq

inductive Outcome | returned | deadlock | running
deriving Repr, DecidableEq

/-- one scheduling round: the child writes as much as fits (or exits), then the parent acts
according to its policy -/
def step (pol : Policy) (cap : Nat) (s : St) : St :=
  -- child
  let s1 : St :=
    if s.exited then s
    else if s.todo == 0 then { s with exited := true }
    else
      let k := min s.todo (cap - s.buf)
      { s with todo := s.todo - k, buf := s.buf + k }
  -- parent
  match pol with
  | .waitThenDrain =>
    if s1.exited then { s1 with buf := 0, reaped := true } else s1
  | .drainThenWait =>
    if s1.exited && s1.buf == 0 then { s1 with reaped := true } else { s1 with buf := 0 }

def run (pol : Policy) (cap : Nat) : Nat → St → Outcome
  | 0, _ => .running
  | fuel + 1, s =>
    if s.reaped then .returned
    else if step pol cap s == s then .deadlock else run pol cap fuel (step pol cap s)

def start (out : Nat) : St := ⟨out, 0, false, false⟩

end Pipe

/-! ## CadicalSolver wrapper -/

/-- assignment handed back: the solver's values for `1..maxVar`, padded with `None` up to the
reservation -/
def cadModel (values : List (Option Bool)) (maxVar reserved : Nat) : List (Option Bool) :=
  (values.take maxVar ++ List.replicate (maxVar - values.length) none) ++ List.replicate (reserved - maxVar) none

def cadNVars (maxVar reserved : Nat) : Nat := max maxVar reserved

end Crusta.Sat
