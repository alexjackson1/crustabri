import Crusta.Model.Solvers
import Crusta.Spec.Oracle

/-!
# Model of the command-line layer (`aa/problem.rs`, `app/solve_command.rs`, `main_iccma23.rs`)

* `readProblem` mirrors `Query::read_problem_string` (split at the first hyphen, ASCII-lowercase
  comparison); `problemStrings` mirrors `iter_problem_strings`;
* `dispatchSolver` mirrors the three `match semantics` tables of `solve_command.rs` (which solver
  type answers each problem), `dispatchEncoder` mirrors `create_encoder` (default / selectable encoder);
* `wrapperArgs` mirrors the argument translation of the ICCMA'23 wrapper.
-/

namespace Crusta.Cli
open Crusta

/-- strings are lists of code points -/
abbrev Str := List Nat

def lowerChar (c : Nat) : Nat := if 65 ≤ c ∧ c ≤ 90 then c + 32 else c
def lower (s : Str) : Str := s.map lowerChar

def s_se : Str := [115, 101]
def s_dc : Str := [100, 99]
def s_ds : Str := [100, 115]
def s_gr : Str := [103, 114]
def s_co : Str := [99, 111]
def s_pr : Str := [112, 114]
def s_st : Str := [115, 116]
def s_sst : Str := [115, 115, 116]
def s_stg : Str := [115, 116, 103]
def s_id : Str := [105, 100]

def queryOf (s : Str) : Option Task :=
  let l := lower s
  if l = s_se then some .SE else if l = s_dc then some .DC else if l = s_ds then some .DS else none

def semOf (s : Str) : Option Sem :=
  let l := lower s
  if l = s_gr then some .GR else if l = s_co then some .CO else if l = s_pr then some .PR
  else if l = s_st then some .ST else if l = s_sst then some .SST else if l = s_stg then some .STG
  else if l = s_id then some .ID else none

/-- split at the first hyphen (45) -/
def splitHyphen : Str → Option (Str × Str)
  | [] => none
  | c :: cs => if c = 45 then some ([], cs) else (splitHyphen cs).map (fun p => (c :: p.1, p.2))

/-- `Query::read_problem_string` -/
def readProblem (s : Str) : Option (Task × Sem) :=
  match splitHyphen s with
  | none => none
  | some (q, sem) =>
    match queryOf q, semOf sem with
    | some t, some σ => some (t, σ)
    | _, _ => none

def taskLower : Task → Str | .SE => s_se | .DC => s_dc | .DS => s_ds
def semLower : Sem → Str
  | .GR => s_gr | .CO => s_co | .PR => s_pr | .ST => s_st | .SST => s_sst | .STG => s_stg | .ID => s_id

def taskName : Task → String | .SE => "SE" | .DC => "DC" | .DS => "DS"
def semName : Sem → String
  | .GR => "GR" | .CO => "CO" | .PR => "PR" | .ST => "ST" | .SST => "SST" | .STG => "STG" | .ID => "ID"

def allSems : List Sem := [.GR, .CO, .PR, .ST, .SST, .STG, .ID]
def allTasks : List Task := [.SE, .DC, .DS]

/-- `iter_problem_strings`: semantics outer, query inner -/
def problemStrings : List String :=
  allSems.flatMap (fun σ => allTasks.map (fun t => taskName t ++ "-" ++ semName σ))

/-- the 21 problems in lower case, as code points -/
def problemsLower : List Str :=
  allSems.flatMap (fun σ => allTasks.map (fun t => taskLower t ++ [45] ++ semLower σ))

/-- which solver object answers a problem (`compute_one_extension`, `check_credulous_acceptance`,
`check_skeptical_acceptance`) -/
def dispatchSolver : Task → Sem → SolverKind
  | .SE, .GR | .SE, .CO => .GR
  | .SE, .PR => .PR | .SE, .ST => .ST | .SE, .SST => .SST | .SE, .STG => .STG | .SE, .ID => .ID
  | .DC, .GR => .GR
  | .DC, .CO | .DC, .PR => .CO
  | .DC, .ST => .ST | .DC, .SST => .SST | .DC, .STG => .STG | .DC, .ID => .ID
  | .DS, .GR | .DS, .CO => .GR
  | .DS, .PR => .PR | .DS, .ST => .ST | .DS, .SST => .SST | .DS, .STG => .STG | .DS, .ID => .ID

/-- `create_encoder`: `enc` is the `--encoding` option (`none` = default); `literalSEPR` says whether
the problem string is literally `SE-PR` -/
def dispatchEncoder (σ : Sem) (enc : Option String) (literalSEPR : Bool) : Option EncKind :=
  match σ with
  | .GR | .ST => none
  | .STG =>
    match enc.getD "exp" with
    | "aux_var" => some .auxCF
    | _ => some .expCF
  | .PR =>
    if literalSEPR then
      match enc.getD "aux_var" with
      | "aux_var" => some .auxADM | "exp" => some .expCO | _ => some .hyb
    else
      match enc.getD "aux_var" with
      | "aux_var" => some .auxCO | "exp" => some .expCO | _ => some .hyb
  | _ =>
    match enc.getD "aux_var" with
    | "aux_var" => some .auxCO | "exp" => some .expCO | _ => some .hyb

/-- the semantics whose extensions are valid witnesses for a problem as answered by the CLI: the
queried one, except that DC-PR is answered through the complete solver -/
def witnessSem : Task → Sem → Sem
  | .DC, .PR => .CO
  | _, σ => σ

/-- ICCMA'23 wrapper: argument translation -/
def wrapperArgs (args : List String) : List String :=
  if args.isEmpty then ["authors", "--logging-level", "off"]
  else if args == ["--problems"] then ["problems", "--logging-level", "off"]
  else ["solve"] ++ args ++ ["--logging-level", "off", "--with-certificate", "--reader", "iccma23"]

end Crusta.Cli
