import Crusta.Gen.Unicode

/-!
# Model of the instance readers (`io/iccma23_reader.rs`, `io/aspartix_reader.rs`) on bytes

Total functions `List UInt8 → Except String …`.  Mirrors `BufRead::lines` (split at `\n`, strip a
preceding `\r`, reject invalid UTF-8), `str::split_whitespace` / `trim` (Unicode White_Space),
`parse::<isize>` / `parse::<usize>`, and the two strict regular expressions of the Aspartix reader
(argument line, attack line; the two loose ones only choose between error messages, merged here) as
deterministic scanners (the anchored patterns are unambiguous; `\s` and `\d` tables are
regenerated from the vendored regex-syntax crate).  Text is a list of code points.
-/

namespace Crusta.IO

abbrev Str := List Nat

/-! ## UTF-8 (validating, as `str::from_utf8`) -/

def cont (b : UInt8) : Bool := 0x80 ≤ b && b ≤ 0xBF

def decodeUtf8 : List UInt8 → Option Str
  | [] => some []
  | b0 :: rest =>
    if b0 < 0x80 then (decodeUtf8 rest).map (b0.toNat :: ·)
    else if 0xC2 ≤ b0 && b0 ≤ 0xDF then
      match rest with
      | b1 :: r =>
        if cont b1 then (decodeUtf8 r).map (((b0.toNat - 0xC0) * 64 + (b1.toNat - 0x80)) :: ·) else none
      | _ => none
    else if 0xE0 ≤ b0 && b0 ≤ 0xEF then
      match rest with
      | b1 :: b2 :: r =>
        let ok1 := if b0 == 0xE0 then 0xA0 ≤ b1 && b1 ≤ 0xBF
                   else if b0 == 0xED then 0x80 ≤ b1 && b1 ≤ 0x9F
                   else cont b1
        if ok1 && cont b2 then
          (decodeUtf8 r).map (((b0.toNat - 0xE0) * 4096 + (b1.toNat - 0x80) * 64 + (b2.toNat - 0x80)) :: ·)
        else none
      | _ => none
    else if 0xF0 ≤ b0 && b0 ≤ 0xF4 then
      match rest with
      | b1 :: b2 :: b3 :: r =>
        let ok1 := if b0 == 0xF0 then 0x90 ≤ b1 && b1 ≤ 0xBF
                   else if b0 == 0xF4 then 0x80 ≤ b1 && b1 ≤ 0x8F
                   else cont b1
        if ok1 && cont b2 && cont b3 then
          (decodeUtf8 r).map (((b0.toNat - 0xF0) * 262144 + (b1.toNat - 0x80) * 4096 +
            (b2.toNat - 0x80) * 64 + (b3.toNat - 0x80)) :: ·)
        else none
      | _ => none
    else none

def encodeUtf8 : Str → List UInt8
  | [] => []
  | c :: cs =>
    (if c < 0x80 then [c.toUInt8]
     else if c < 0x800 then [(0xC0 + c / 64).toUInt8, (0x80 + c % 64).toUInt8]
     else if c < 0x10000 then [(0xE0 + c / 4096).toUInt8, (0x80 + c / 64 % 64).toUInt8, (0x80 + c % 64).toUInt8]
     else [(0xF0 + c / 262144).toUInt8, (0x80 + c / 4096 % 64).toUInt8, (0x80 + c / 64 % 64).toUInt8,
           (0x80 + c % 64).toUInt8]) ++ encodeUtf8 cs

/-! ## `BufRead::lines` -/

/-- raw lines: split at `\n`; a final segment without `\n` is a line iff it is non-empty -/
def splitRaw (bs : List UInt8) : List (List UInt8 × Bool) :=
  let rec go (bs : List UInt8) (cur : List UInt8) : List (List UInt8 × Bool) :=
    match bs with
    | [] => if cur.isEmpty then [] else [(cur.reverse, false)]
    | b :: rest => if b == 0x0A then (cur.reverse, true) :: go rest [] else go rest (b :: cur)
  go bs []

/-- strip the `\r` of a `\r\n` terminator (only when the `\n` was there) -/
def stripCr (l : List UInt8 × Bool) : List UInt8 :=
  if l.2 then (match l.1.getLast? with | some 0x0D => l.1.dropLast | _ => l.1) else l.1

/-- the lines as the readers see them: `none` = invalid UTF-8 (an `Err` item of the iterator).
UTF-8 validation is done on the whole raw line including the terminator. -/
def lines (bs : List UInt8) : List (Option Str) :=
  (splitRaw bs).map (fun l => decodeUtf8 (stripCr l))

/-! ## character classes and scanners -/

def inRanges (rs : List (Nat × Nat)) (c : Nat) : Bool := rs.any (fun r => r.1 ≤ c && c ≤ r.2)
def isWs (c : Nat) : Bool := inRanges Gen.whiteSpaceRanges c
def isDigitU (c : Nat) : Bool := inRanges Gen.decimalRanges c
def isAlphaA (c : Nat) : Bool := (65 ≤ c && c ≤ 90) || (97 ≤ c && c ≤ 122)
def isIdStart (c : Nat) : Bool := c == 95 || isAlphaA c
def isIdChar (c : Nat) : Bool := c == 95 || isAlphaA c || isDigitU c

/-- `str::split_whitespace` -/
def splitWs (l : Str) : List Str :=
  let rec go (l : Str) (cur : Str) (acc : List Str) : List Str :=
    match l with
    | [] => (if cur.isEmpty then acc else cur.reverse :: acc).reverse
    | c :: cs => if isWs c then go cs [] (if cur.isEmpty then acc else cur.reverse :: acc) else go cs (c :: cur) acc
  go l [] []

def trimWs (l : Str) : Str := ((l.dropWhile isWs).reverse.dropWhile isWs).reverse

def isAsciiDigit (c : Nat) : Bool := 48 ≤ c && c ≤ 57

def digitsVal (l : Str) : Nat := l.foldl (fun acc c => acc * 10 + (c - 48)) 0

/-- `str::parse::<isize>` (64-bit): optional sign, at least one ASCII digit, range check -/
def parseIsize (w : Str) : Option Int :=
  let (neg, ds) := match w with
    | 45 :: r => (true, r)
    | 43 :: r => (false, r)
    | r => (false, r)
  if ds.isEmpty || !ds.all isAsciiDigit then none
  else
    let v := digitsVal ds
    if neg then (if v ≤ 9223372036854775808 then some (-(v : Int)) else none)
    else (if v ≤ 9223372036854775807 then some (v : Int) else none)

/-- `str::parse::<usize>` (64-bit): optional `+`, at least one ASCII digit, range check -/
def parseUsize (w : Str) : Option Nat :=
  let ds := match w with | 43 :: r => r | r => r
  if ds.isEmpty || !ds.all isAsciiDigit then none
  else let v := digitsVal ds; if v ≤ 18446744073709551615 then some v else none

def strOf (s : String) : Str := s.toList.map Char.toNat

/-! ## ICCMA'23 reader -/

structure IccmaFw where
  n : Nat
  atts : List (Nat × Nat)      -- 0-based, declaration order, duplicates kept
deriving Repr, DecidableEq

structure IccmaSt where
  af : Option IccmaFw := none
  foundEmpty : Bool := false

def readPreamble (words : List Str) : Except String Nat :=
  match words with
  | [w0, w1, w2] =>
    if w0 != strOf "p" then .error "first word of preamble"
    else if w1 != strOf "af" then .error "second word of preamble"
    else match parseIsize w2 with
      | some k => if k ≥ 0 then .ok k.toNat else .error "invalid number of arguments"
      | none => .error "invalid number of arguments"
  | _ => .error "preamble: expected 3 words"

def iccmaLine (st : IccmaSt) (line : Option Str) : Except String IccmaSt :=
  match line with
  | none => .error "invalid UTF-8"
  | some l =>
    if l.head? == some 35 then .ok st
    else if l.isEmpty then .ok { st with foundEmpty := true }
    else if st.foundEmpty then .error "content after an empty line"
    else
      let words := splitWs l
      match st.af with
      | none =>
        match readPreamble words with
        | .ok n => .ok { st with af := some ⟨n, []⟩ }
        | .error e => .error e
      | some af =>
        match words with
        | [w0, w1] =>
          match parseIsize w0, parseIsize w1 with
          | some a, some b =>
            if a ≥ 1 && a.toNat ≤ af.n then
              (if b ≥ 1 && b.toNat ≤ af.n then .ok { st with af := some ⟨af.n, af.atts ++ [(a.toNat - 1, b.toNat - 1)]⟩ }
               else .error "invalid argument index for attacked")
            else .error "invalid argument index for attacker"
          | none, _ => .error "invalid argument index for attacker"
          | _, none => .error "invalid argument index for attacked"
        | _ => .error "error in attack; expected 2 words"

def foldLines {σ : Type} (f : σ → Option Str → Except String σ) : σ → List (Option Str) → Except String σ
  | s, [] => .ok s
  | s, l :: ls => match f s l with | .ok s' => foldLines f s' ls | .error e => .error e

def readIccma (bs : List UInt8) : Except String IccmaFw :=
  match foldLines iccmaLine {} (lines bs) with
  | .error e => .error e
  | .ok st => match st.af with | some af => .ok af | none => .error "missing preamble"

/-- `Iccma23Reader::read_arg_from_str`: the id of the argument -/
def iccmaArgOfStr (n : Nat) (arg : Str) : Option Nat :=
  match parseUsize arg with
  | some k => if k > 0 && k ≤ n then some (k - 1) else none
  | none => none

/-! ## Aspartix reader -/

def dropPrefix (p : Str) (l : Str) : Option Str :=
  if p.isPrefixOf l then some (l.drop p.length) else none

/-- `\s*IDENT\s*` then the given terminator character: returns the identifier and the rest -/
def scanName (l : Str) (term : Nat) : Option (Str × Str) :=
  let l1 := l.dropWhile isWs
  match l1 with
  | c :: _ =>
    if !isIdStart c then none
    else
      let ident := l1.takeWhile isIdChar
      let l2 := (l1.dropWhile isIdChar).dropWhile isWs
      match l2 with
      | t :: rest => if t == term then some (ident, rest) else none
      | [] => none
  | [] => none

/-- `.\s*$` : exactly one arbitrary character, then blanks only -/
def scanTail (l : Str) : Bool :=
  match l with
  | _ :: rest => rest.all isWs
  | [] => false

/-- the strict argument-line pattern `^\s*arg\((\s*ID\s*)\).\s*$` -/
def matchArg (l : Str) : Option Str :=
  match dropPrefix (strOf "arg(") (l.dropWhile isWs) with
  | none => none
  | some r =>
    match scanName r 41 with
    | some (id, rest) => if scanTail rest then some id else none
    | none => none

/-- the strict attack-line pattern `^\s*att\((\s*ID\s*),(\s*ID\s*)\).\s*$` -/
def matchAtt (l : Str) : Option (Str × Str) :=
  match dropPrefix (strOf "att(") (l.dropWhile isWs) with
  | none => none
  | some r =>
    match scanName r 44 with
    | none => none
    | some (a, r2) =>
      match scanName r2 41 with
      | some (b, rest) => if scanTail rest then some (a, b) else none
      | none => none

structure ApxFw where
  labels : List Str
  atts : List (Nat × Nat)      -- indexes into `labels`, insertion order, no duplicates
deriving Repr, DecidableEq

structure ApxSt where
  labels : List Str := []       -- as pushed (duplicates kept until the framework is created)
  af : Option ApxFw := none

def dedup (l : List Str) : List Str := l.foldl (fun acc x => if acc.contains x then acc else acc ++ [x]) []

def idxOf (l : List Str) (x : Str) : Option Nat := l.findIdx? (fun y => y == x)

def apxLine (st : ApxSt) (line : Option Str) : Except String ApxSt :=
  match line with
  | none => .error "invalid UTF-8"
  | some l =>
    if l.all isWs then .ok st
    else match matchArg l with
    | some lab =>
      if st.af.isSome then .error "found an argument declaration after an attack"
      else .ok { st with labels := st.labels ++ [lab] }
    | none =>
      match matchAtt l with
      | none => .error "syntax error"
      | some (a, b) =>
        let af := match st.af with | some af => af | none => ⟨dedup st.labels, []⟩
        match idxOf af.labels a, idxOf af.labels b with
        | some i, some j =>
          if af.atts.contains (i, j) then .ok { st with af := some af }
          else .ok { st with af := some { af with atts := af.atts ++ [(i, j)] } }
        | _, _ => .error "cannot add an attack: unknown argument"

def readApx (bs : List UInt8) : Except String ApxFw :=
  match foldLines apxLine {} (lines bs) with
  | .error e => .error e
  | .ok st => match st.af with | some af => .ok af | none => .ok ⟨dedup st.labels, []⟩

/-! ## writers (`AspartixWriter`, `Iccma23Writer`, status lines) -/

def natToStr (n : Nat) : Str := strOf (toString n)

/-- `arg(L).\n` for every live argument in id order, `att(A,B).\n` for every live attack -/
def writeApx (labels : List Str) (atts : List (Str × Str)) : Str :=
  (labels.flatMap (fun l => strOf "arg(" ++ l ++ strOf ").\n")) ++
  (atts.flatMap (fun p => strOf "att(" ++ p.1 ++ [44] ++ p.2 ++ strOf ").\n"))

def intercalate (sep : Str) : List Str → Str
  | [] => []
  | [x] => x
  | x :: xs => x ++ sep ++ intercalate sep xs

def writeExtIccma (ext : List Str) : Str := [119] ++ ext.flatMap (fun l => 32 :: l) ++ [10]
def writeExtApx (ext : List Str) : Str := [91] ++ intercalate [44] ext ++ [93, 10]
def writeStatus (b : Bool) : Str := strOf (if b then "YES\n" else "NO\n")
def writeNoExt : Str := strOf "NO\n"

/-- parse back an ICCMA witness line `w l1 l2 …\n` -/
def parseExtIccma (s : Str) : Option (List Str) :=
  match s with
  | 119 :: rest =>
    match rest.getLast? with
    | some 10 => some (splitWs rest.dropLast)
    | _ => none
  | _ => none

def splitOnComma (s : Str) : List Str :=
  let rec go (l : Str) (cur : Str) (acc : List Str) : List Str :=
    match l with
    | [] => (cur.reverse :: acc).reverse
    | c :: cs => if c == 44 then go cs [] (cur.reverse :: acc) else go cs (c :: cur) acc
  go s [] []

/-- parse back an Aspartix witness line `[l1,l2,…]\n` -/
def parseExtApx (s : Str) : Option (List Str) :=
  match s with
  | 91 :: rest =>
    match rest.reverse with
    | 10 :: 93 :: body => let b := body.reverse; if b.isEmpty then some [] else some (splitOnComma b)
    | _ => none
  | _ => none

end Crusta.IO
